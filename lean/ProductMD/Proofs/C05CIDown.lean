import ProductMD.Model.ComposeInfoDown
import ProductMD.Proofs.C05CI
import ProductMD.Proofs.CIFixpoint
/-!
C05, composeinfo faithfulness: the legacy-aware reader on the documented down-conversion `CI.down` of a compose description
returns `CI.expected` (the normal form with the documented losses): `deserialize_down`.  Section by section, then the forest
(`buildL_step` is the step of `rebuild_ok`, Proofs/CIReader.lean, with the legacy release section and, below 1.0, the children
found by UID prefix; `variantsDeL_down` the top level).  Everything is stated for a format description `D : DownFmt` and
gates `g` that say the same (`GatesMatch`); a version enters only in `deserialize_down` (`gatesMatch_of`).

This is also the reader half of C01: the current format is the instance `curFmt` (last section), and
`C01_readback` (Properties/C01.lean) is `deserialize_down` at `Gen.VERSION` with `down_cur`, `expected_lossless` and
`Legacy.deserialize_eq_legacy`.  `build_ok` states the forest part for `Variant.build` directly.
-/
namespace PM.CI
open PM

-- The lookups are closed up to the Booleans that decide which keys are present: after `cases` on those, each is `rfl`.
section
variable (D : DownFmt) (e : Entry)
theorem dentry_id : sub (downEntryVal D e) k%"id" = .ok (.str e.id) := rfl
theorem dentry_uid : sub (downEntryVal D e) k%"uid" = .ok (.str e.uid) := rfl
theorem dentry_name : sub (downEntryVal D e) k%"name" = .ok (.str e.name) := rfl
theorem dentry_type : sub (downEntryVal D e) k%"type" = .ok (.str e.type) := rfl
theorem dentry_arches : sub (downEntryVal D e) k%"arches" = .ok (strList e.arches) := rfl
theorem dentry_paths : sub (downEntryVal D e) k%"paths" = .ok (pathsVal e.paths) := by
  obtain ⟨_, _, _, _, _, rel, _, _⟩ := e
  obtain ⟨_, _, _, prod, _, _⟩ := D
  cases rel <;> cases prod <;> rfl
theorem dentry_release : (downEntryVal D e).get? (relKey D) = e.release.map (downReleaseVal D) := by
  obtain ⟨_, _, _, _, _, rel, _, kids⟩ := e
  obtain ⟨_, _, _, prod, kl, _⟩ := D
  cases rel <;> cases prod <;> cases kl <;> cases kids <;> rfl
theorem dentry_variants : (downEntryVal D e).get? k%"variants"
    = if D.kidLists && !e.kids.isEmpty then some (strList e.kids) else none := by
  obtain ⟨_, _, _, _, _, rel, _, kids⟩ := e
  obtain ⟨_, _, _, prod, kl, _⟩ := D
  cases rel <;> cases prod <;> cases kl <;> cases kids <;> rfl
theorem dentry_variants_getD :
    getD (downEntryVal D e) k%"variants" (.list []) = .ok (if D.kidLists then strList e.kids else .list []) := by
  have h := dentry_variants D e
  unfold downEntryVal at h ⊢
  simp only [getD, h]
  cases hk : D.kidLists <;> by_cases hn : e.kids = [] <;> simp [hn, strList]
end

theorem ga_release_type : sGa ∈ Gen.RELEASE_TYPES := by decide

/-- the version is untouched and the type, if lost, becomes `"ga"` -/
theorem release_loss_valid (D : DownFmt) (r : Release) (h : validateClass "composeinfo.Release" (releaseObj r) = .ok ()) :
    validateClass "composeinfo.Release" (releaseObj (lossRelease D r)) = .ok () := by
  rw [release_valid_iff] at h ⊢
  refine ⟨?_, h.2⟩
  show (if D.relTyped then r.type else sGa) ∈ Gen.RELEASE_TYPES
  cases D.relTyped
  · exact ga_release_type
  · exact h.1

theorem lower_ga : Str.lowerAscii sGa = sGa := by decide

section
variable (D : DownFmt) (r : Release)
theorem drel_name : sub (downReleaseVal D r) k%"name" = .ok (.str r.name) := rfl
theorem drel_version : sub (downReleaseVal D r) k%"version" = .ok (.str r.version) := rfl
theorem drel_short : sub (downReleaseVal D r) k%"short" = .ok (.str r.short) := rfl
theorem drel_type : getD (downReleaseVal D r) k%"type" (.str k%"ga") = .ok (.str (if D.relTyped then r.type else sGa)) := by
  obtain ⟨_, _, _, _, lay, _⟩ := r
  obtain ⟨_, rt, ri, _, _, _⟩ := D
  cases rt <;> cases lay <;> cases ri <;> rfl
theorem drel_layered : getD (downReleaseVal D r) k%"is_layered" (.bool false) = .ok (.bool r.isLayered) := by
  obtain ⟨_, _, _, _, lay, _⟩ := r
  obtain ⟨_, rt, ri, _, _, _⟩ := D
  cases rt <;> cases lay <;> cases ri <;> rfl
theorem drel_internal : getD (downReleaseVal D r) k%"internal" (.bool false) = .ok (.bool (D.relInternal && r.internal)) := by
  obtain ⟨_, _, _, _, lay, _⟩ := r
  obtain ⟨_, rt, ri, _, _, _⟩ := D
  cases rt <;> cases lay <;> cases ri <;> rfl
end

theorem releaseDeL_down (g : Legacy.Gates) (D : DownFmt) (hgp : g.release = D.product) (r : Release) (l : List (Str × PyVal))
    (hget : PyVal.get? (.dict l) (relKey D) = some (downReleaseVal D r))
    (h : validateClass "composeinfo.Release" (releaseObj r) = .ok ()) :
    Legacy.releaseDeL g (.dict l) = .ok (lossRelease D r.norm) := by
  have hl := release_ok_lower r h
  have ht : Str.lowerAscii (if D.relTyped then r.type else sGa) = (if D.relTyped then r.type else sGa) := by
    cases D.relTyped
    · exact lower_ga
    · exact hl
  -- the validators look at type and version only: `internal` may be anything
  have hval : ∀ int, validateClass "composeinfo.Release" (releaseObj
      ⟨r.name, r.short, r.version, if D.relTyped then r.type else sGa, r.isLayered, int⟩) = .ok () := fun int =>
    (release_valid_iff _).mpr ((release_valid_iff _).mp (release_loss_valid D r h))
  simp only [releaseObj] at hval
  unfold Legacy.releaseDeL
  rw [hgp]
  cases hp : D.product with
  | true =>
    simp only [relKey, hp, if_true] at hget
    simp only [if_true, Legacy.releaseDe03, sub_of_get hget, drel_name, drel_version, drel_short, drel_type, drel_layered,
      lowerVal, ht, PyVal.truthy, hval, asStr]
    simp [lossRelease, Release.norm, hp, hl]
  | false =>
    simp only [relKey, hp, Bool.false_eq_true, if_false] at hget
    simp only [Bool.false_eq_true, if_false, releaseDe, show verLt (0, 3) Gen.VERSION = true by decide, sub_of_get hget,
      drel_name, drel_version, drel_short, drel_type, drel_layered, drel_internal, lowerVal, ht, PyVal.truthy, hval, asStr]
    simp [lossRelease, Release.norm, hp, hl]

theorem base_loss_valid (D : DownFmt) (b : BaseProduct) (h : validateClass "composeinfo.BaseProduct" (baseObj (some b)) = .ok ()) :
    validateClass "composeinfo.BaseProduct" (baseObj (some (lossBase D b))) = .ok () := by
  rw [base_valid_iff] at h ⊢
  refine ⟨?_, h.2⟩
  show (if D.relTyped then b.type else sGa) ∈ Gen.RELEASE_TYPES
  cases D.relTyped
  · exact ga_release_type
  · exact h.1

section
variable (D : DownFmt) (b : BaseProduct)
theorem dbase_name : sub (downBaseVal D b) k%"name" = .ok (.str b.name) := rfl
theorem dbase_version : sub (downBaseVal D b) k%"version" = .ok (.str b.version) := rfl
theorem dbase_short : sub (downBaseVal D b) k%"short" = .ok (.str b.short) := rfl
theorem dbase_type : getD (downBaseVal D b) k%"type" (.str k%"ga") = .ok (.str (if D.relTyped then b.type else sGa)) := by
  obtain ⟨_, rt, _, _, _, _⟩ := D
  cases rt <;> rfl
end

theorem baseDe_down (D : DownFmt) (b : BaseProduct) (l : List (Str × PyVal))
    (hget : PyVal.get? (.dict l) k%"base_product" = some (downBaseVal D b))
    (h : validateClass "composeinfo.BaseProduct" (baseObj (some b)) = .ok ()) :
    baseDe (.dict l) = .ok (lossBase D b) := by
  have hv := base_loss_valid D b h
  simp only [baseObj, lossBase] at hv
  simp only [baseDe, sub_of_get hget, dbase_name, dbase_version, dbase_short, dbase_type, hv, asStr]
  rfl

theorem downComposeVal_full (D : DownFmt) (c : Compose) (h : D.composeFull = true) : downComposeVal D c = composeVal c := by
  cases c with
  | mk id type date respin label final =>
  cases label with
  | none => simp [downComposeVal, composeVal, h]
  | some l => cases l <;> simp [downComposeVal, composeVal, h]

theorem composeDe03_down (D : DownFmt) (hD : D.composeFull = false) (c : Compose) (rest : List (Str × PyVal))
    (hid : IdDerivable c) (h : validateClass "composeinfo.Compose" (composeObj c) = .ok ()) :
    Legacy.composeDe03 (.dict ((k%"compose", downComposeVal D c) :: rest)) = .ok c.norm := by
  obtain ⟨n, hn, hdtr⟩ := hid
  have h' := compose_norm_valid c h
  obtain ⟨id, type, date, respin, label, final⟩ := c
  simp only at hn hdtr
  subst hn
  rcases label with _ | _ | _
  all_goals
    simp only [Compose.norm, composeObj, Option.isSome, Bool.false_and, Bool.true_and] at h'
    simp [Legacy.composeDe03, Legacy.dateTypeRespinOf, hdtr, sub, getD, PyVal.get?, downComposeVal, hD, orNone, PyVal.truthy, h', asStr, asInt, Compose.norm]

theorem variantReleaseDeL_down (g : Legacy.Gates) (D : DownFmt) (hgp : g.release = D.product) (e : Entry) (type : Str) (rel : Option Release)
    (he : e.release = if type = layeredProduct then rel.map forceLayered else none)
    (hg : type = layeredProduct → validateClass "composeinfo.Release" (variantReleaseObj rel) = .ok ()) :
    Legacy.variantReleaseDeL g (.str type) (downEntryVal D e)
      = .ok (if type = layeredProduct then rel.map (fun r => lossRelease D (forceLayered r).norm) else none) := by
  unfold Legacy.variantReleaseDeL
  by_cases ht : type = layeredProduct
  · rw [if_pos ((pyEq_str _ _).mpr ht), if_pos ht]
    cases rel with
    | none =>
      -- looked at only on a layered product, where the writer has validated the release: a blank one is refused
      have := blank_release_invalid
      rw [show blankVariantReleaseObj = variantReleaseObj none from rfl, hg ht] at this
      simp [isOk] at this
    | some r =>
      obtain ⟨l, hl⟩ : ∃ l, downEntryVal D e = .dict l := ⟨_, rfl⟩
      have hget : PyVal.get? (.dict l) (relKey D) = some (downReleaseVal D (forceLayered r)) := by
        rw [← hl, dentry_release, he]
        simp [ht]
      rw [hl, releaseDeL_down g D hgp (forceLayered r) l hget (hg ht)]
      rfl
  · rw [if_neg fun h => ht ((pyEq_str _ _).mp h), if_neg ht]

theorem keys_downFlatVal (D : DownFmt) (d : Flat) : (downFlatVal D d).keys = d.map (·.1) := by
  simp [downFlatVal, PyVal.keys, List.map_map, Function.comp_def]

theorem sub_downFlatVal (D : DownFmt) {doc : Flat} (hs : FSorted doc) {k : Str} {e : Entry} (h : (k, e) ∈ doc) :
    sub (downFlatVal D doc) k = .ok (downEntryVal D e) :=
  sub_dict_map (downEntryVal D) hs.keys_nodup h

theorem startsWith_child (uid i : Str) : Str.startsWith (uid ++ '-' :: i) (uid ++ ['-']) = true := by
  unfold Str.startsWith
  rw [List.isPrefixOf_iff_prefix]
  exact ⟨i, by simp⟩

theorem kidKeysL_down (g : Legacy.Gates) (D : DownFmt) (hgv : g.variant = !D.kidLists) (doc : Flat) (hs : FSorted doc)
    (e : Entry) (ids : List Str) (he : e.kids = Str.sortDedup ids)
    (hex : D.kidLists = false → ∀ k ∈ doc.map (·.1), Str.startsWith k (e.uid ++ ['-']) = true → ∃ i ∈ e.kids, k = e.uid ++ '-' :: i)
    (hin : ∀ i ∈ e.kids, e.uid ++ '-' :: i ∈ doc.map (·.1)) :
    Legacy.kidKeysL g (downFlatVal D doc) (downEntryVal D e) e.uid e.uid
      = .ok ((Str.sortDedup ids).map fun i => e.uid ++ '-' :: i) := by
  unfold Legacy.kidKeysL
  rw [dentry_variants]
  cases hk : D.kidLists with
  | true =>
    by_cases hn : e.kids = []
    · have : Str.sortDedup ids = [] := by rw [← he]; exact hn
      simp [hn, hgv, hk, this]
    · have hne : e.kids.isEmpty = false := by simpa using hn
      simp only [Bool.true_and, hne, Bool.not_false, if_true]
      unfold kidIdsOf
      rw [dentry_variants]
      simp only [hk, Bool.true_and, hne, Bool.not_false, if_true, asStrList_strList]
      rw [he, sortDedup_idem]
  | false =>
    simp only [Bool.false_and, Bool.false_eq_true, if_false, hgv, hk, Bool.not_false, if_true]
    have hsorted : SSorted (downFlatVal D doc).keys := by
      rw [keys_downFlatVal]
      unfold SSorted
      exact List.pairwise_map.mpr hs
    have := Legacy.kids_legacy_eq (downFlatVal D doc) e.uid e.kids hsorted
      (by
        rw [keys_downFlatVal]
        intro k hkm
        constructor
        · exact hex hk k hkm
        · rintro ⟨i, _, rfl⟩; exact startsWith_child _ _)
      (by rw [keys_downFlatVal]; exact hin)
    rw [this, he, sortDedup_idem]

theorem lossVs_eq_map (D : DownFmt) : ∀ vs : List Variant, lossVs D vs = vs.map (lossV D)
  | [] => rfl
  | v :: vs => by simp [lossVs, lossVs_eq_map D vs]

@[simp] theorem loss_id (D : DownFmt) (v : Variant) : (lossV D v).id = v.id := by cases v; simp [lossV, Variant.id]
@[simp] theorem loss_uid (D : DownFmt) (v : Variant) : (lossV D v).uid = v.uid := by cases v; simp [lossV, Variant.uid]
@[simp] theorem loss_key (D : DownFmt) (v : Variant) : (lossV D v).key = v.key := by cases v; simp [lossV, Variant.key]
@[simp] theorem loss_type (D : DownFmt) (v : Variant) : (lossV D v).type = v.type := by cases v; simp [lossV, Variant.type]

theorem kidsView_loss (D : DownFmt) (pn : Bool) (vs : List Variant) : kidsView pn (vs.map (lossV D)) = kidsView pn vs :=
  kidsView_map pn (lossV D) (fun v => by simp [summ]) vs

theorem variantObj_loss (D : DownFmt) (ctx : Ctx) (v : Variant) : variantObj ctx (lossV D v) = variantObj ctx v := by
  cases v with
  | mk key id uid name type arches paths rel kids =>
  simp only [lossV, variantObj, lossVs_eq_map, kidsView_loss]

/-- gates and format description say the same (for the gates of every version and its `downFmt`: `gatesMatch_of`) -/
structure GatesMatch (g : Legacy.Gates) (D : DownFmt) : Prop where
  compose : g.compose = !D.composeFull
  release : g.release = D.product
  variants : g.variants = !D.kidLists
  variant : g.variant = !D.kidLists

theorem gatesMatch_of (ver : Nat × Nat) (keep : Bool) :
    GatesMatch ⟨PM.verLt ver (0, 3), PM.verLe ver (0, 3), PM.verLt ver (1, 0), PM.verLt ver (1, 0)⟩ (downFmt ver keep) :=
  ⟨verLt_eq_not_verLe ver (0, 3), rfl, verLt_eq_not_verLe ver (1, 0), verLt_eq_not_verLe ver (1, 0)⟩

/-- One level of the reader on the down-converted table (the `step` of `rebuild_ok`).  The prefix scan for the children below
1.0 is where `KidsExact` is used; the closing `validate()` is run on the object of `v.norm`, which the writer validated (`hv2`). -/
theorem buildL_step (g : Legacy.Gates) (D : DownFmt) (hm : GatesMatch g D) (doc : Flat) (hs : FSorted doc)
    (hx : D.kidLists = false → KidsExact doc) (ctx : Ctx) (v : Variant) (f : Nat)
    (hg : Good ctx v) (hk : wellKeyed v = true) (hsub : ∀ x ∈ flat v, x ∈ doc)
    (hkids : ∀ k ∈ v.kids, Legacy.buildL g (downFlatVal D doc) f (some (v.uid, Str.sortDedup v.arches)) k.uid = .ok (lossV D k.norm)) :
    Legacy.buildL g (downFlatVal D doc) (f + 1) ctx v.uid = .ok (lossV D v.norm) := by
  have hal := hg.aligned
  have hmem := hsub _ (self_mem_flat v)
  have hkmem : ∀ k ∈ v.kids, (k.uid, entryOf k) ∈ doc := fun k hkm =>
    hsub _ (by rw [flat_eq]; exact List.mem_append_left _ (flat_sub_flats k _ hkm _ (self_mem_flat k)))
  obtain ⟨hkidsok, hadd⟩ := kids_rebuilt _ (fun k => lossV D k.norm) (fun v => ⟨by simp, by simp⟩) _ _ hal hkids
  have hobj := variantObj_norm ctx v hk
  have hval := hg.valid
  have hrel := hg.release
  obtain ⟨key, id, uid, name, type, arches, paths, rel, kids⟩ := v
  have e : pick (Str.sortDedup (kids.map Variant.id)) (kids.map fun k => lossV D k.norm)
      = (pick (Str.sortDedup (kids.map Variant.id)) (norms kids)).map (lossV D) := by
    rw [norms_eq_map, ← pick_map _ (loss_id D), List.map_map]; rfl
  simp only [Variant.uid, Variant.arches, Variant.kids, Variant.type, Variant.release] at hkidsok hadd hmem hrel hal hkmem ⊢
  rw [e] at hkidsok hadd
  simp only [Variant.norm] at hobj
  have hv2 : ∀ R, validateClass "composeinfo.Variant" (variantObj ctx (Variant.mk id id uid name type (Str.sortDedup arches)
      (storedPaths (Str.sortDedup arches) paths) R ((pick (Str.sortDedup (kids.map Variant.id)) (norms kids)).map (lossV D)))) = .ok () := by
    intro R
    -- the object of `v.norm`: `variantObj` does not look at the release, and at the children only through `kidsView`
    rw [← hval, ← hobj]
    simp only [variantObj, kidsView_loss]
  have hkk := kidKeysL_down g D hm.variant doc hs (entryOf (.mk key id uid name type arches paths rel kids)) (kids.map Variant.id) rfl
    (fun hkl k hkm hst => by
      have := hx hkl _ hmem k hkm
      simp only [entryOf] at this ⊢
      exact this hst)
    (fun i hi => by
      simp only [entryOf] at hi ⊢
      obtain ⟨w, hw⟩ := findId_of_mem (mem_sortDedup.mp hi)
      have hw' := findId_some hw
      rw [← hw'.2, ← hal w hw'.1]
      exact List.mem_map.mpr ⟨_, hkmem w hw'.1, rfl⟩)
  simp only [entryOf] at hkk
  unfold Legacy.buildL
  -- in the order of the body: each step rewrites the discriminant of the next `match` to `.ok _` and so exposes the one after
  simp only [sub_downFlatVal D hs hmem, dentry_id, dentry_uid, dentry_name, dentry_type, dentry_arches, dentry_paths]
  simp only [entryOf, asStrList_strList, sortDedup_idem]
  rw [variantReleaseDeL_down g D hm.release _ type rel rfl hrel]
  simp only [pathsDe_stored, hg.paths, asStr, hkk, List.map_map, Function.comp_def]
  simp only [hkidsok, hadd, hv2]
  by_cases ht : type = layeredProduct <;> cases rel <;> simp [ht, Variant.norm, lossV, lossVs_eq_map]

theorem buildL_ok (g : Legacy.Gates) (D : DownFmt) (hm : GatesMatch g D) (doc : Flat) (hs : FSorted doc)
    (hx : D.kidLists = false → KidsExact doc) :
    ∀ (v : Variant) (ctx : Ctx) (fuel : Nat), height v ≤ fuel → Good ctx v → wellKeyed v = true →
      (∀ x ∈ flat v, x ∈ doc) → Legacy.buildL g (downFlatVal D doc) fuel ctx v.uid = .ok (lossV D v.norm) :=
  fun v ctx fuel hf hg hk hsub =>
    rebuild_ok doc (Legacy.buildL g (downFlatVal D doc)) (fun v => lossV D v.norm) (buildL_step g D hm doc hs hx) v ctx hg hk fuel hf hsub

theorem buildLs_ok (g : Legacy.Gates) (D : DownFmt) (hm : GatesMatch g D) (doc : Flat) (hs : FSorted doc)
    (hx : D.kidLists = false → KidsExact doc) :
    ∀ (vs : List Variant) (ctx : Ctx) (fuel : Nat), heights vs ≤ fuel → GoodL ctx vs → wellKeyedL vs = true →
      (∀ x ∈ flats vs, x ∈ doc) → ∀ k ∈ vs, Legacy.buildL g (downFlatVal D doc) fuel ctx k.uid = .ok (lossV D k.norm) :=
  fun vs ctx fuel hf hg hk hsub k hkm =>
    buildL_ok g D hm doc hs hx k ctx fuel (Nat.le_trans (height_le_heights k vs hkm) hf) (GoodL_iff.mp hg k hkm)
      (wellKeyedL_iff.mp hk k hkm).2 fun x hx' => hsub x (flat_sub_flats k vs hkm x hx')

theorem childUids_dflat (D : DownFmt) : ∀ (d : Flat), childUids (d.map fun p => (p.1, downEntryVal D p.2))
    = .ok (if D.kidLists then refs d else [])
  | [] => by cases D.kidLists <;> rfl
  | (k, e) :: rest => by
    have ih := childUids_dflat D rest
    have hrefs : refs ((k, e) :: rest) = (e.kids.map fun i => e.uid ++ '-' :: i) ++ refs rest := by
      simp [refs]
    simp only [List.map_cons, childUids, ih, refsOfVal, dentry_variants_getD, dentry_uid, asStr, hrefs]
    cases hkl : D.kidLists with
    | false => simp [asStrList, collect]
    | true =>
      simp only [if_true, asStrList_strList]
      cases hk : e.kids with
      | nil => simp
      | cons i is => simp

theorem variantsDeL_down (g : Legacy.Gates) (D : DownFmt) (hm : GatesMatch g D) (top : List Variant) (d : Flat) (l : List (Str × PyVal))
    (hget : PyVal.get? (.dict l) k%"variants" = some (downFlatVal D d))
    (hser : variantsSer top = .ok d) (hk : wellKeyedTop top = true) (hu : (uidsL top).Nodup)
    (hx : D.kidLists = false → KidsExact d) (htx : D.kidLists = false → TopsExact d) :
    Legacy.variantsDeL g (.dict l) = .ok (lossVs D (normTop top)) := by
  obtain ⟨hids, _, ht, hs, hd⟩ := variantsSer_keyed hser hk
  obtain ⟨htops, hfuel⟩ := written_tops (fun t h => (ht t h).2.2) hd hu
  have hnu : (top.map Variant.uid).Nodup := (roots_sublist top).nodup hu
  have hloss : lossVs D (normTop top) = (Str.sortDedup (top.map Variant.uid)).filterMap (findUid · ((norms top).map (lossV D))) := by
    rw [lossVs_eq_map]
    unfold normTop
    rw [List.map_filterMap]
    apply filterMap_congr'
    intro u _
    rw [findUid_map _ _ _ (loss_uid D)]
  have hcollect : collect ((Str.sortDedup (top.map Variant.uid)).map fun u => Legacy.buildL g (downFlatVal D d) (d.length + 1) none u)
      = .ok (lossVs D (normTop top)) := by
    rw [hloss]
    apply collect_filterMap
    intro u hu'
    obtain ⟨w, hw⟩ := findUid_of_mem (mem_sortDedup.mp hu')
    have hw' := findUid_some hw
    refine ⟨lossV D w.norm, ?_, by rw [findUid_map _ _ _ (loss_uid D), findUid_norms, hw]; rfl⟩
    rw [← hw'.2]
    exact buildL_ok g D hm d hs hx w none _ (Nat.le_succ_of_le (hfuel w hw'.1)) (ht w hw'.1).2.2 (ht w hw'.1).2.1
      fun x hx' => (hd x).mpr ⟨w, hw'.1, hx'⟩
  have hadd : addAll [] (lossVs D (normTop top)) = .ok (lossVs D (normTop top)) := by
    rw [lossVs_eq_map]
    refine (addAll_nil_iff fun w hw => ?_).mpr ⟨rfl, ?_⟩
    · obtain ⟨x, hx', rfl⟩ := List.mem_map.mp hw
      obtain ⟨t, _, rfl⟩ := (mem_normTop hnu).mp hx'
      simp
    · rw [List.map_map, show Variant.key ∘ lossV D = Variant.key from funext (loss_key D)]
      exact normTop_keys_nodup top hids
  have hfv : downFlatVal D d = .dict (d.map fun p => (p.1, downEntryVal D p.2)) := rfl
  have hsel : Str.sortDedup (if g.variants = true then (d.map (·.1)).filter (Legacy.isLegacyTop (d.map (·.1)))
        else (d.map (·.1)).filter (fun u => !(if D.kidLists then refs d else []).contains u))
      = Str.sortDedup (top.map Variant.uid) := by
    cases hkl' : D.kidLists with
    | true => simp only [hm.variants, hkl', Bool.not_true, Bool.false_eq_true, if_false, if_true]; exact htops
    | false =>
      simp only [hm.variants, hkl', Bool.not_false, if_true]
      rw [Legacy.tops_legacy_eq _ (refs d) (htx hkl')]
      exact htops
  unfold Legacy.variantsDeL
  rw [sub_of_get hget, hfv]
  simp only [childUids_dflat, List.map_map, Function.comp_def, List.length_map]
  rw [← hfv]
  simp only [hsel, hcollect, hadd]

/-- the header of a format-`ver` document with version text `vs` is accepted and read as `ver`, whatever the payload -/
def HeaderOK (D : DownFmt) (vs : Str) (ver : Nat × Nat) : Prop :=
  ∀ p, headerDe (.dict [(k%"header", downHeaderVal D vs), (k%"payload", p)]) = .ok ver

theorem payload_keys (D : DownFmt) :
    ((k%"compose" : Str) == relKey D) = false ∧ (relKey D == k%"variants") = false ∧ (relKey D == k%"base_product") = false ∧
    ((k%"compose" : Str) == k%"variants") = false ∧ ((k%"compose" : Str) == k%"base_product") = false ∧
    ((k%"base_product" : Str) == k%"variants") = false := by
  unfold relKey
  cases D.product <;> decide

theorem deserialize_downDoc (g : Legacy.Gates) (D : DownFmt) (hm : GatesMatch g D) (vs : Str) (ver : Nat × Nat)
    (hh : HeaderOK D vs ver) (hg : Legacy.gatesOf ver = .ok g) (ci : ComposeInfo) (j0 : PyVal) (d : Flat)
    (hser : serialize ci = .ok j0) (hvs : variantsSer ci.variants = .ok d) (hk : WellKeyed ci)
    (hid : D.composeFull = false → IdDerivable ci.compose)
    (hx : D.kidLists = false → KidsExact d ∧ TopsExact d) :
    Legacy.deserialize (.dict [(k%"header", downHeaderVal D vs),
      (k%"payload", .dict ([(k%"compose", downComposeVal D ci.compose), (relKey D, downReleaseVal D ci.release)]
        ++ (match ci.release.isLayered, ci.base with
            | true, some b => [(k%"base_product", downBaseVal D b)]
            | _, _ => [])
        ++ [(k%"variants", downFlatVal D d)]))])
      = .ok { compose := ci.norm.compose, release := lossRelease D ci.norm.release, base := ci.norm.base.map (lossBase D),
              variants := lossVs D ci.norm.variants } := by
  have hdist : UidsDistinct ci := variantsSer_distinct ci.variants d hvs hk
  obtain ⟨_, hC, hR, hB, _, _, _⟩ := serialize_iff.mp hser
  clear hser
  obtain ⟨compose, release, base, variants⟩ := ci
  simp only at hC hR hB hvs hk hdist hid ⊢
  -- the four readers on any payload that has these sections (with or without `base_product`)
  have key : ∀ (rest : List (Str × PyVal)) (bexp : Option BaseProduct),
      PyVal.get? (.dict ((k%"compose", downComposeVal D compose) :: rest)) (relKey D) = some (downReleaseVal D release) →
      PyVal.get? (.dict ((k%"compose", downComposeVal D compose) :: rest)) k%"variants" = some (downFlatVal D d) →
      baseDeIf release.isLayered (.dict ((k%"compose", downComposeVal D compose) :: rest)) = .ok bexp →
      Legacy.deserialize (.dict [(k%"header", downHeaderVal D vs),
          (k%"payload", .dict ((k%"compose", downComposeVal D compose) :: rest))])
        = .ok { compose := compose.norm, release := lossRelease D release.norm, base := bexp,
                variants := lossVs D (normTop variants) } := by
    intro rest bexp hgr hgv hgb
    have hcomp : Legacy.composeDeL g (.dict ((k%"compose", downComposeVal D compose) :: rest)) = .ok compose.norm := by
      unfold Legacy.composeDeL
      rw [hm.compose]
      cases hcf : D.composeFull with
      | true =>
        simp only [Bool.not_true, Bool.false_eq_true, if_false]
        rw [downComposeVal_full _ _ hcf]
        exact composeDe_ok Gen.VERSION (by decide) compose rest hC
      | false =>
        simp only [Bool.not_false, if_true]
        exact composeDe03_down _ hcf compose rest (hid hcf) hC
    have hrel := releaseDeL_down _ _ hm.release release _ hgr hR
    have hvar := variantsDeL_down _ _ hm variants d _ hgv hvs hk hdist (fun hkl => (hx hkl).1) (fun hkl => (hx hkl).2)
    have hisl : (lossRelease D release.norm).isLayered = release.isLayered := by
      cases release; rfl
    rw [Legacy.deserialize]
    rw [hh _]
    simp only [hg, sub, PyVal.get?, List.find?_cons]
    simp only [show ((k%"header" : Str) == k%"payload") = false by decide, show ((k%"payload" : Str) == k%"payload") = true by decide,
      Option.map_some]
    simp only [hcomp, hrel, hisl, hgb, hvar]
  obtain ⟨hcr, hrv, hrb, hcv, hcb, hbv⟩ := payload_keys D
  have hrk : ∀ (x : PyVal) (tail : List (Str × PyVal)),
      PyVal.get? (.dict ((k%"compose", downComposeVal D compose) :: (relKey D, x) :: tail)) (relKey D) = some x := by
    intro x tail
    rw [get?_cons_of_ne hcr, get?_cons_self]
  cases hlay : release.isLayered with
  | false =>
    have := key [(relKey D, downReleaseVal D release), (k%"variants", downFlatVal D d)] none (hrk _ _)
      (by rw [get?_cons_of_ne hcv, get?_cons_of_ne hrv, get?_cons_self])
      (by simp [baseDeIf, hlay])
    simpa [ComposeInfo.norm, hlay] using this
  | true =>
    simp only [hlay, if_true] at hB
    cases base with
    | none =>
      have := blank_base_invalid
      rw [hB] at this
      simp [isOk] at this
    | some b =>
      have hgb : PyVal.get? (.dict ((k%"compose", downComposeVal D compose) ::
          [(relKey D, downReleaseVal D release), (k%"base_product", downBaseVal D b), (k%"variants", downFlatVal D d)]))
          k%"base_product" = some (downBaseVal D b) := by
        rw [get?_cons_of_ne hcb, get?_cons_of_ne hrb, get?_cons_self]
      have := key [(relKey D, downReleaseVal D release), (k%"base_product", downBaseVal D b), (k%"variants", downFlatVal D d)]
        (some (lossBase D b)) (hrk _ _)
        (by rw [get?_cons_of_ne hcv, get?_cons_of_ne hrv, get?_cons_of_ne hbv, get?_cons_self])
        (by simp only [baseDeIf, hlay, if_true]; rw [baseDe_down _ b _ hgb hB])
      simpa [ComposeInfo.norm, hlay] using this

/-- `hid` matters below 0.3 (date, type and respin are decoded from the compose id), `hdom` below 1.0 (the forest is rebuilt
from UID prefixes); from 1.0 on both hold trivially, and at the current version this is C01's read-back. -/
theorem deserialize_down (vs : Str) (ver : Nat × Nat) (keep : Bool) (ci : ComposeInfo) (j : PyVal)
    (hdown : down vs ver keep ci = .ok j) (hk : WellKeyed ci)
    (hh : HeaderOK (downFmt ver keep) vs ver)
    (hid : vLe (0, 3) ver = false → IdDerivable ci.compose)
    (hdom : LegacyDomain ver ci) :
    Legacy.deserialize j = .ok (expected ver keep ci) := by
  rw [down] at hdown
  cases hser : serialize ci with
  | error e => rw [hser] at hdown; cases hdown
  | ok j0 =>
  rw [hser] at hdown
  cases hvs : variantsSer ci.variants with
  | error e => rw [hvs] at hdown; cases hdown
  | ok d =>
  rw [hvs] at hdown
  cases hdown
  exact deserialize_downDoc _ (downFmt ver keep) (gatesMatch_of ver keep) vs ver hh (Legacy.gatesOf_eq ver) ci j0 d hser hvs hk hid
    fun hkl => hdom hkl d hvs

/-- the table is computed once; the two conditions on it are decidable -/
instance (ver : Nat × Nat) (ci : ComposeInfo) : Decidable (LegacyDomain ver ci) :=
  match h : variantsSer ci.variants with
  | .error _ => isTrue fun _ d hd => nomatch h.symm.trans hd
  | .ok d => decidable_of_iff (vLe (1, 0) ver = false → KidsExact d ∧ TopsExact d)
      ⟨fun H hv d' hd' => by cases h.symm.trans hd'; exact H hv, fun H hv => H hv d h⟩

theorem legacyDomain_from_1_0 (ver : Nat × Nat) (ci : ComposeInfo) (h : vLe (1, 0) ver = true) : LegacyDomain ver ci := by
  intro hv; rw [h] at hv; cases hv

theorem headerOK_of (vs : Str) (ver : Nat × Nat) (keep : Bool)
    (hval : validateClass "common.Header" (headerObj (.str vs)) = .ok ()) (hvt : versionTuple vs = .ok ver) :
    HeaderOK (downFmt ver keep) vs ver := by
  intro p
  have hlt : CI.verLt ver (1, 1) = !vLe (1, 1) ver := verLt_eq_not_verLe ver (1, 1)
  have hc : PyVal.pyEq (.str Gen.HEADER_TYPE_ComposeInfo) (.str Gen.HEADER_TYPE_ComposeInfo) = true := (pyEq_str _ _).mpr rfl
  cases hty : vLe (1, 1) ver <;>
    simp [headerDe, sub, PyVal.get?, downHeaderVal, downFmt, hty, hval, asStr, hvt, headerTypeCheck, hlt, hc]

theorem vLe_0_3_of_1_0 (ver : Nat × Nat) (h : vLe (1, 0) ver = true) : vLe (0, 3) ver = true :=
  verLe_trans (a := (0, 3)) (by decide) h

/-- a format that has every field loses nothing -/
def DownFmt.Lossless (D : DownFmt) : Prop := D.relTyped = true ∧ D.relInternal = true ∧ D.product = false

theorem lossRelease_id (D : DownFmt) (h : D.Lossless) (r : Release) : lossRelease D r = r := by
  obtain ⟨h1, h2, h3⟩ := h
  simp [lossRelease, h1, h2, h3]

theorem lossBase_id (D : DownFmt) (h : D.Lossless) (b : BaseProduct) : lossBase D b = b := by
  simp [lossBase, h.1]

mutual
theorem lossV_id (D : DownFmt) (h : D.Lossless) : ∀ v : Variant, lossV D v = v
  | .mk key id uid name type arches paths rel kids => by
    have hr : rel.map (lossRelease D) = rel := by cases rel <;> simp [lossRelease_id D h]
    simp only [lossV, hr, lossVs_id D h kids]
theorem lossVs_id (D : DownFmt) (h : D.Lossless) : ∀ vs : List Variant, lossVs D vs = vs
  | [] => rfl
  | v :: vs => by simp only [lossVs, lossV_id D h v, lossVs_id D h vs]
end

theorem expected_lossless (ver : Nat × Nat) (keep : Bool) (ci : ComposeInfo) (h : (downFmt ver keep).Lossless) :
    expected ver keep ci = ci.norm := by
  have hb : ci.norm.base.map (lossBase (downFmt ver keep)) = ci.norm.base := by
    cases ci.norm.base <;> simp [lossBase_id _ h]
  simp only [expected, lossRelease_id _ h, lossVs_id _ h, hb]

theorem lossless_of (ver : Nat × Nat) (keep : Bool) (h11 : vLe (1, 1) ver = true) (hk : keep = true ∨ vLe (1, 2) ver = true) :
    (downFmt ver keep).Lossless := by
  refine ⟨h11, ?_, verLe_false_of_verLt (verLt_of_verLt_of_verLe (a := (0, 3)) (by decide) h11)⟩
  rcases hk with hk | hk <;> simp [downFmt, hk]

def curFmt : DownFmt := ⟨true, true, true, false, true, true⟩

theorem curFmt_lossless : curFmt.Lossless := ⟨rfl, rfl, rfl⟩

theorem gatesMatch_cur : GatesMatch .current curFmt := ⟨rfl, rfl, rfl, rfl⟩

theorem downFmt_cur : downFmt Gen.VERSION true = curFmt := by decide

theorem downReleaseVal_cur (r : Release) : downReleaseVal curFmt r = releaseVal r := by
  cases r with
  | mk name short version type isLayered internal => cases isLayered <;> rfl

theorem downEntryVal_cur (e : Entry) : downEntryVal curFmt e = entryVal e := by
  obtain ⟨_, _, _, _, _, rel, _, kids⟩ := e
  cases rel <;> cases kids <;>
    simp [downEntryVal, entryVal, relKey, ← downReleaseVal_cur, show curFmt.product = false from rfl,
      show curFmt.kidLists = true from rfl]

theorem downFlatVal_cur (d : Flat) : downFlatVal curFmt d = flatVal d := by
  unfold downFlatVal flatVal
  simp only [downEntryVal_cur]

theorem down_cur {ci : ComposeInfo} {j : PyVal} (h : serialize ci = .ok j) : down currentVersion Gen.VERSION true ci = .ok j := by
  obtain ⟨_, _, _, _, d, hd, rfl⟩ := serialize_iff.mp h
  have hcv : downComposeVal curFmt ci.compose = composeVal ci.compose := downComposeVal_full _ _ rfl
  have hb : ∀ b, downBaseVal curFmt b = baseVal b := fun b => rfl
  rw [down, h, hd, downFmt_cur]
  simp only [hcv, downReleaseVal_cur, downFlatVal_cur, hb]
  cases ci.release.isLayered <;> cases ci.base <;> rfl

theorem build_ok (ver : Nat × Nat) (hv : verLt ver (1, 0) = false) (doc : Flat) (hs : FSorted doc) :
    ∀ (v : Variant) (ctx : Ctx) (fuel : Nat), height v ≤ fuel → Good ctx v → wellKeyed v = true →
      (∀ x ∈ flat v, x ∈ doc) → Variant.build ver (flatVal doc) fuel ctx v.uid = .ok v.norm :=
  fun v ctx fuel hf hg hk hsub => by
    rw [Legacy.build_eq_buildL hv, ← downFlatVal_cur, ← lossV_id curFmt curFmt_lossless v.norm]
    exact buildL_ok .current curFmt gatesMatch_cur doc hs (fun h => nomatch h) v ctx fuel hf hg hk hsub

theorem builds_ok (ver : Nat × Nat) (hv : verLt ver (1, 0) = false) (doc : Flat) (hs : FSorted doc) :
    ∀ (vs : List Variant) (ctx : Ctx) (fuel : Nat), heights vs ≤ fuel → GoodL ctx vs → wellKeyedL vs = true →
      (∀ x ∈ flats vs, x ∈ doc) → ∀ k ∈ vs, Variant.build ver (flatVal doc) fuel ctx k.uid = .ok k.norm :=
  fun vs ctx fuel hf hg hk hsub k hkm =>
    build_ok ver hv doc hs k ctx fuel (Nat.le_trans (height_le_heights k vs hkm) hf) (GoodL_iff.mp hg k hkm)
      (wellKeyedL_iff.mp hk k hkm).2 fun x hx => hsub x (flat_sub_flats k vs hkm x hx)

end PM.CI
