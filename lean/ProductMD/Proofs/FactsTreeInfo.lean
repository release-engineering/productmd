import ProductMD.Proofs.TextOKDecide
import ProductMD.Proofs.TreeInfoSecondDump
import ProductMD.Proofs.TreeInfoDecEq
import ProductMD.Model.TreeInfoText
import ProductMD.Model.DiscInfo
import ProductMD.Proofs.DiscInfoRT
import ProductMD.Model.ComposeInfo
import ProductMD.Proofs.TreeInfoExamples
import ProductMD.Proofs.C05WitnessTI00
import ProductMD.Proofs.C05WitnessTI03
import ProductMD.Proofs.C05TIDownOld
import ProductMD.Proofs.C05TI00
/-!
The example trees and documents of treeinfo (C04, C05, C08) and every closed fact about them.  Each structure lists the facts of one
witness family and is decidable field by field; `treeinfo_facts` evaluates them all in one declaration, because a declaration that
runs a treeinfo writer or reader pays for decoding the model's string literals before anything else (DESIGN.md §3, closed facts).
-/
namespace PM
open Ini TI

/-- CPython's `int(float(s))` on the strings the examples need: exact below 2^53, rounding `2^53 + 1` down -/
def C04_fo : FloatOracle :=
  { intOfFloatStr := fun s => if s = "9007199254740993".toList then .ok 9007199254740992 else Str.pyInt s
    reprOfFloatStr := fun s => .ok s }

instance (vs : List Variant) : Decidable (TopKeyedByUid vs) := by unfold TopKeyedByUid; infer_instance

/-- a tree with one top-level variant, for the witnesses of the excluded regions -/
def C04_one (key id uid type : Str) : TreeInfo :=
  { headerVersion := "0.0".toList, release := ⟨"Fedora".toList, "F".toList, "21".toList⟩, isLayered := false, baseProduct := none,
    tree := ⟨"x86_64".toList, .int 7, ["x86_64".toList]⟩,
    variants := [.mk key id uid "n".toList type [] []],
    checksums := [], images := [], mainimage := none, instimage := none, discnum := none, totaldiscs := none }

/-- the closed facts about the example trees `C04_exTree0` and `C04_exTree` (its normal form) -/
structure C04ExTreeFacts : Prop where
  norm_fixed : norm C04_exTree0 ≠ C04_exTree0 ∧ norm C04_exTree = C04_exTree
  writable : (serialize C04_exTree none).toBool = true ∧ (serialize C04_exTree0 none).toBool = true
  hyps : C04_exTree.tree.ts = .int 1417653911 ∧ C04_fo.intOfFloatStr (Str.intStr 1417653911) = .ok 1417653911 ∧
    PlatformsOK C04_exTree.tree ∧ UidsOK C04_exTree.variants ∧ UidsNodup C04_exTree.variants ∧
    TopNotAddon C04_exTree.variants ∧ ChecksumsOK C04_exTree.checksums ∧ ImagesOK C04_exTree.tree.arch C04_exTree.images
  text_hyps : (serialize C04_exTree none).toOption.map IniText.Representable = some true ∧
    (∀ c ∈ C04_exTree.checksums, nc c.1 = true) ∧ (∀ p ∈ C04_exTree.images, ∀ kv ∈ p.2, nc kv.1 = true)
  keyed : TopKeyedByUid C04_exTree0.variants ∧ (∃ v ∈ C04_exTree0.variants, v.key = "Server".toList)
  bool_ts : serialize { C04_exTree with tree := { C04_exTree.tree with ts := .bool true } } none = .error .typeError
  readback : (serialize C04_exTree none).toOption.map (deserialize C04_fo) = some (.ok C04_exTree)
  readback0 : (serialize C04_exTree0 none).toOption.map (deserialize C04_fo) = some (.ok (norm C04_exTree0))

instance : Decidable C04ExTreeFacts :=
  decidable_of_iff (_ ∧ _ ∧ _ ∧ _ ∧ _ ∧ _ ∧ _ ∧ _)
    ⟨fun h => ⟨h.1, h.2.1, h.2.2.1, h.2.2.2.1, h.2.2.2.2.1, h.2.2.2.2.2.1, h.2.2.2.2.2.2.1, h.2.2.2.2.2.2.2⟩,
     fun s => ⟨s.norm_fixed, s.writable, s.hyps, s.text_hyps, s.keyed, s.bool_ts, s.readback, s.readback0⟩⟩

/-- The witnesses F17, F24, F25 of C04 and its discinfo example. -/
structure C04WitnessFacts : Prop where
  F17 : (serialize { C04_one "S".toList "S".toList "S".toList "variant".toList with
      tree := ⟨"x86_64".toList, .int 9007199254740993, ["x86_64".toList]⟩ } none).toOption.map
        (fun d => (deserialize C04_fo d).toOption.map (·.tree.ts.str)) = some (some "9007199254740992".toList)
  F24 : (serialize (C04_one "HA".toList "HA".toList "HA".toList "addon".toList) none).toOption.map (deserialize C04_fo)
      = some (.error .parserError)
  F25 : (serialize { C04_one "S".toList "S".toList "S".toList "variant".toList with
      tree := ⟨"x86_64".toList, .int 7, ["x86_64".toList, "xen-x86_64".toList]⟩
      images := [("xen-x86_64".toList, [("kernel".toList, "k".toList)])] } none).toOption.map (deserialize C04_fo)
        = some (.error .valueError)
  disc : (DI.dumps ⟨"1417653911.123".toList, "Fedora 21".toList, "x86_64".toList, .nums [1, 2, -3, 10 ^ 30]⟩).toBool = true
    ∧ Str.strip "1417653911.123".toList = "1417653911.123".toList ∧ Str.strip "Fedora 21".toList = "Fedora 21".toList
    ∧ DI.stripQuotes "Fedora 21".toList = "Fedora 21".toList

instance : Decidable C04WitnessFacts :=
  decidable_of_iff (_ ∧ _ ∧ _ ∧ _) ⟨fun h => ⟨h.1, h.2.1, h.2.2.1, h.2.2.2⟩, fun s => ⟨s.F17, s.F24, s.F25, s.disc⟩⟩

/-- the text `TreeInfo.dump(f, main_variant)` writes, in the model: a PURE function of the content and of the argument
(`TI.serialize` takes the object and `main_variant`, returns a document, and has no other input or output).  It has the body of
`TI.dumps` (Model/TreeInfoText.lean), with which C04 is stated; C08 is stated with this one. -/
def TI.dumpText (t : TI.TreeInfo) (mv : Option Str) : Except Err Str := (TI.serialize t mv).map IniText.render

namespace TI
def wVar (id : Str) (paths : List (Str × Str)) (kids : List Variant) : Variant := .mk id id id id tVariant paths kids
def wTree (plats : List Str) (vs : List Variant) (cs : List (Str × Str × Str)) : TreeInfo :=
  { headerVersion := "0.0".toList, release := ⟨"F".toList, "F".toList, "22".toList⟩, isLayered := false, baseProduct := none,
    tree := ⟨"x86_64".toList, .int 1, plats⟩, variants := vs, checksums := cs, images := [], mainimage := none, instimage := none,
    discnum := none, totaldiscs := none }
def wT1 : TreeInfo := wTree ["xen".toList, "efi".toList] [wVar "B".toList [(k%"packages", k%"p"), (k%"repository", k%"r")] [], wVar "A".toList [] []]
  [("b".toList, "md5".toList, "1".toList), ("a".toList, "sha1".toList, "2".toList)]
def wT2 : TreeInfo := wTree ["efi".toList, "xen".toList, "efi".toList] [wVar "A".toList [] [], wVar "B".toList [(k%"repository", k%"r"), (k%"packages", k%"p")] []]
  [("a".toList, "sha1".toList, "2".toList), ("b".toList, "md5".toList, "1".toList)]

/-! two top-level variants with ONE UID (`A-b`), filed under their ids, of different types (so that their sections
`[variant-A-b]` and `[addon-A-b]` are distinct and the tree IS written), in the two insertion orders -/
def wSv (id type pk : Str) : Variant := .mk id id k%"A-b" id type [(k%"packages", pk)] []
def wS1 : TreeInfo := wTree [] [wSv k%"X" tVariant k%"pkgs-X", wSv k%"Y" tAddon k%"pkgs-Y"] []
def wS2 : TreeInfo := wTree [] [wSv k%"Y" tAddon k%"pkgs-Y", wSv k%"X" tVariant k%"pkgs-X"] []

/-- both dumps succeed and the two texts differ.  A fact stated through this function, not through a `match` of its own, can be
restated elsewhere: the auxiliary matcher of a `match` belongs to the module it is written in, and two of them are only equal
by running them (`textsDiffer_eq` in Properties/C08.lean is the bridge, proved on variables) -/
def textsDiffer (r s : Except Err Str) : Bool :=
  match r, s with
  | .ok a, .ok b => a != b
  | _, _ => false

/-- the two closed facts of C08 about the order of insertion: `wT1` (the same content as `wT2`, arranged differently) is written;
`wS1` / `wS2` give different texts -/
structure WitnessFacts : Prop where
  wT1_written : (dumpText wT1 none).isOk = true
  wS_differ : textsDiffer (dumpText wS1 (some k%"A-b")) (dumpText wS2 (some k%"A-b")) = true

instance : Decidable WitnessFacts :=
  decidable_of_iff (_ ∧ _) ⟨fun h => ⟨h.1, h.2⟩, fun s => ⟨s.wT1_written, s.wS_differ⟩⟩
end TI

/-- F8: a top-level variant filed under its id (≠ UID) comes back filed under its UID, evaluated -/
structure C04RekeyFacts : Prop where
  F8 : (serialize (C04_one "optional".toList "optional".toList "Server-optional".toList "optional".toList) none).toOption.map (fun d => ((deserialize C04_fo d).toOption.map fun t' =>
        (t'.variants.map Variant.key, ((serialize t' none).toOption.map fun d' => opt d' sGeneral kVariants), opt d sGeneral kVariants)))
      = some (some (["Server-optional".toList], some (some "Server-optional".toList), some "optional".toList))

instance : Decidable C04RekeyFacts := decidable_of_iff _ ⟨fun h => ⟨h⟩, fun s => s.F8⟩

namespace TI
instance (tops : List Variant) : Decidable (ChainOK tops) := by unfold ChainOK; infer_instance

instance (src : Bool) (paths : List (Str × Str)) : Decidable (SrcRepresentable src paths) := by unfold SrcRepresentable; infer_instance

/-- a source tree: the paths of its variants are source paths -/
def exSrcTree : TreeInfo :=
  { headerVersion := "0.0".toList, release := ⟨"Fedora".toList, "F".toList, "21".toList⟩, isLayered := false, baseProduct := none,
    tree := ⟨"src".toList, .int 1417653911, []⟩,
    variants := [.mk "Server".toList "Server".toList "Server".toList "Server".toList "variant".toList
                    [("source_packages".toList, "Server/source/tree/Packages".toList),
                     ("source_repository".toList, "Server/source/tree".toList), ("identity".toList, "id.pem".toList)]
                    [.mk "optional".toList "optional".toList "Server-optional".toList "opt".toList "optional".toList
                      [("source_packages".toList, "Server-optional/source/tree/Packages".toList)] []]],
    checksums := [], images := [], mainimage := none, instimage := none, discnum := none, totaldiscs := none }

/-- a child whose id is another variant's UID: `[variant-B]` is both the section of top-level `B` and a candidate of the
chain of `A-B` (id `B`) -/
def exChainTree : TreeInfo :=
  { exSrcTree with
    tree := ⟨"x86_64".toList, .int 7, []⟩
    variants := [.mk "A".toList "A".toList "A".toList "A".toList "variant".toList []
                    [.mk "B".toList "B".toList "A-B".toList "B".toList "addon".toList [] []],
                 .mk "B".toList "B".toList "B".toList "B".toList "variant".toList [("packages".toList, "B/Packages".toList)] []] }

/-- a pre-productmd file with nothing but `[general]`, two image sections, `[stage2]` and `[checksums]` -/
def ex00 : Ini :=
  [("general".toList, [("family".toList, "Foo Linux".toList), ("version".toList, "7.2".toList), ("arch".toList, "x86_64".toList),
      ("timestamp".toList, "1417653911".toList), ("variant".toList, "Everything".toList), ("packagedir".toList, "Packages".toList),
      ("repository".toList, "repo".toList), ("discnum".toList, "2".toList)]),
   ("images-x86_64".toList, [("kernel".toList, "images/vmlinuz".toList)]),
   ("images-xen".toList, [("kernel".toList, "images/xen/vmlinuz".toList)]),
   ("stage2".toList, [("mainimage".toList, "LiveOS/squashfs.img".toList)]),
   ("checksums".toList, [("images/boot.iso".toList, "sha256:ab".toList)])]

/-- the closed facts about the example trees of the older formats and about `ex00`
(`src_file_*` are the two halves of `ex_src_file`, `hyps00` is `ex00_hyps` with its last clause in decidable form.) -/
structure ExFacts : Prop where
  old_hyps :
    ChainOK C04_exTree0.variants ∧ (∀ x ∈ subVs none C04_exTree0.variants, SrcRepresentable (C04_exTree0.tree.arch == "src".toList) x.2.paths)
    ∧ ChainOK exSrcTree.variants ∧ (∀ x ∈ subVs none exSrcTree.variants, SrcRepresentable (exSrcTree.tree.arch == "src".toList) x.2.paths)
    ∧ PlatformsOK exSrcTree.tree ∧ UidsOK exSrcTree.variants ∧ UidsNodup exSrcTree.variants ∧ TopNotAddon exSrcTree.variants
    ∧ ChecksumsOK exSrcTree.checksums ∧ ImagesOK exSrcTree.tree.arch exSrcTree.images
  down_evaluated :
    ((down "0.3".toList (0, 3) kVariants C04_exTree0).toOption.map (Legacy.deserialize C04_fo)) = some (.ok (norm C04_exTree0))
    ∧ ((down "0.2".toList (0, 2) kAddons exSrcTree).toOption.map (Legacy.deserialize C04_fo)) = some (.ok (norm exSrcTree))
    ∧ ((down "1.0".toList (1, 0) kAddons C04_exTree0).toOption.map (Legacy.deserialize C04_fo)) = some (.ok (norm C04_exTree0))
    ∧ ((down "1.1".toList (1, 1) kAddons C04_exTree0).toOption.map (Legacy.deserialize C04_fo)) = some (.ok (norm C04_exTree0))
  src_file_paths :
    ((down "0.2".toList (0, 2) kAddons exSrcTree).toOption.map fun d =>
      (opt d "variant-Server".toList "packages".toList, opt d "variant-Server".toList "source_packages".toList,
       opt d "variant-Server".toList "repository".toList))
    = some (some "Server/source/tree/Packages".toList, none, some "Server/source/tree".toList)
  src_file_rest :
    ((down "0.2".toList (0, 2) kAddons exSrcTree).toOption.map fun d =>
      (opt d "variant-Server-optional".toList "parent".toList, opt d "variant-Server".toList "addons".toList,
       (d.lookup "product".toList).isSome, (d.lookup "release".toList).isSome))
    = some (none, some "Server-optional".toList, true, false)
  /-- `exChainTree` violates `ChainOK`, its 0.3 file loads, and `A-B` has inherited the `packages` path of `B` -/
  chain_needed :
    ¬ ChainOK exChainTree.variants
    ∧ ((down "0.3".toList (0, 3) kAddons exChainTree).toOption.map fun d =>
        match Legacy.deserialize C04_fo d with
        | .ok t' => t'.variants.flatMap fun v => v.kids.map fun k => (k.uid, k.paths)
        | .error _ => []) = some [("A-B".toList, [("packages".toList, "B/Packages".toList)])]
  /-- a source tree whose variant also has a binary `packages` path writes two `packages` options into one ≤ 0.3 section;
  the binary path is read back as the source path -/
  src_needed :
    let t := { exSrcTree with variants := [.mk "S".toList "S".toList "S".toList "S".toList "variant".toList
                 [("packages".toList, "bin".toList), ("source_packages".toList, "src".toList)] []] }
    ¬ (∀ x ∈ subVs none t.variants, SrcRepresentable (t.tree.arch == "src".toList) x.2.paths)
    ∧ ((down "0.3".toList (0, 3) kAddons t).toOption.map fun d =>
        match Legacy.deserialize C04_fo d with
        | .ok t' => t'.variants.map fun v => v.paths
        | .error _ => []) = some [[("source_packages".toList, "bin".toList)]]
  loaded00 :
    Legacy.deserialize C04_fo ex00 = .ok
      { headerVersion := currentVersion, release := ⟨"Foo Linux".toList, [], "7.2".toList⟩, isLayered := false, baseProduct := none,
        tree := ⟨"x86_64".toList, .int 1417653911, ["x86_64".toList, "xen".toList]⟩,
        variants := [.mk "Everything".toList "Everything".toList "Everything".toList "Everything".toList "variant".toList
          [("packages".toList, "Packages".toList), ("repository".toList, "repo".toList)] []],
        checksums := [("images/boot.iso".toList, "sha256".toList, "ab".toList)],
        images := [("x86_64".toList, [("kernel".toList, "images/vmlinuz".toList)]), ("xen".toList, [("kernel".toList, "images/xen/vmlinuz".toList)])],
        mainimage := some "LiveOS/squashfs.img".toList, instimage := none, discnum := some 2, totaldiscs := some 2 }
  hyps00 :
    Ini.get ex00 sGeneral kArch = .ok "x86_64".toList ∧ (sections ex00).contains "x86_64".toList = false
    ∧ hasOption ex00 sGeneral kTimestamp = true ∧ platforms00 "x86_64".toList (sections ex00) = ["x86_64".toList, "xen".toList]
    ∧ Legacy.releaseShort00 "Foo Linux".toList = ("Foo Linux".toList, []) ∧ Legacy.version00 "7.2".toList = .ok "7.2".toList
    ∧ hasOption ex00 sGeneral tVariant = true
    ∧ (∀ s ∈ [pAddon ++ "Everything".toList, pAddon ++ (Str.splitOn '-' "Everything".toList).getLastD [],
          pVariant ++ "Everything".toList, pVariant ++ (Str.splitOn '-' "Everything".toList).getLastD []], ex00.lookup s = none)
    ∧ hasOption ex00 sGeneral kAddons = false ∧ hasOption ex00 sGeneral Legacy.kPackages = false
    ∧ hasOption ex00 sGeneral kPackagedir = true ∧ hasOption ex00 sGeneral kRepository = true
    ∧ hasOption ex00 sGeneral Legacy.kIdentity = false
    ∧ Legacy.rstripSlash "repo".toList = "repo".toList ∧ Str.endsWith "repo".toList "/repodata".toList = false
    ∧ (∀ s ∈ sections ex00, isImg s = true → ∀ its ∈ (items ex00 s).toOption, ∀ kv ∈ its, relative kv.2 = true)

/- each field is decided on its own (`decide _ : Bool`): instance search gives up on `Decidable` of the conjunction of all -/
instance : Decidable ExFacts :=
  decidable_of_iff (decide _ = true ∧ decide _ = true ∧ decide _ = true ∧ decide _ = true ∧ decide _ = true ∧ decide _ = true
      ∧ decide _ = true ∧ decide _ = true)
    ⟨fun ⟨h1, h2, h3, h4, h5, h6, h7, h8⟩ =>
      ⟨of_decide_eq_true h1, of_decide_eq_true h2, of_decide_eq_true h3, of_decide_eq_true h4, of_decide_eq_true h5,
       of_decide_eq_true h6, of_decide_eq_true h7, of_decide_eq_true h8⟩,
     fun s => ⟨decide_eq_true s.old_hyps, decide_eq_true s.down_evaluated, decide_eq_true s.src_file_paths,
       decide_eq_true s.src_file_rest, decide_eq_true s.chain_needed, decide_eq_true s.src_needed, decide_eq_true s.loaded00,
       decide_eq_true s.hyps00⟩⟩
end TI

/-- the closed facts about the shipped 0.0 file `wTI00` and the tree `wT00` it loads as (C05) -/
structure WT00Facts : Prop where
  loads : TI.Legacy.deserialize intOracle wTI00 = .ok wT00
  ts : wT00.tree.ts = .int 5 ∧ intOracle.intOfFloatStr (Str.intStr 5) = .ok 5
  shape : PlatformsOK wT00.tree ∧ UidsOK wT00.variants ∧ UidsNodup wT00.variants ∧ TopNotAddon wT00.variants
    ∧ (∀ p ∈ wT00.images, platformOf wT00.tree.arch (pImages ++ p.1) = p.1)
  text : (serialize wT00 none).toOption.map IniText.Representable = some true
    ∧ (∀ c ∈ wT00.checksums, nc c.1 = true) ∧ (∀ p ∈ wT00.images, ∀ kv ∈ p.2, nc kv.1 = true)
  normal : norm (norm wT00) = norm wT00 ∧ (serialize (norm wT00) none).toBool = true
  upgrade : tiUpgrade00Check = true

instance : Decidable WT00Facts :=
  decidable_of_iff (_ ∧ _ ∧ _ ∧ _ ∧ _ ∧ _)
    ⟨fun h => ⟨h.1, h.2.1, h.2.2.1, h.2.2.2.1, h.2.2.2.2.1, h.2.2.2.2.2⟩,
     fun s => ⟨s.loads, s.ts, s.shape, s.text, s.normal, s.upgrade⟩⟩

/-- the closed facts about the shipped 0.3 file `wTI03` and the tree `wT03` it loads as (C05) -/
structure WT03Facts : Prop where
  loads : TI.Legacy.deserialize intOracle wTI03 = .ok wT03
  ts : wT03.tree.ts = .int 123 ∧ intOracle.intOfFloatStr (Str.intStr 123) = .ok 123
  shape : PlatformsOK wT03.tree ∧ UidsOK wT03.variants ∧ UidsNodup wT03.variants ∧ TopNotAddon wT03.variants
    ∧ (∀ p ∈ wT03.images, platformOf wT03.tree.arch (pImages ++ p.1) = p.1)
  text : (serialize wT03 none).toOption.map IniText.Representable = some true
    ∧ (∀ c ∈ wT03.checksums, nc c.1 = true) ∧ (∀ p ∈ wT03.images, ∀ kv ∈ p.2, nc kv.1 = true)
  normal : norm (norm wT03) = norm wT03 ∧ (serialize (norm wT03) none).toBool = true
  upgrade : tiUpgrade03Check = true
  /-- the F12 check rides along: its document is read by the same readers -/
  f12 : tiF12Check = true

instance : Decidable WT03Facts :=
  decidable_of_iff (_ ∧ _ ∧ _ ∧ _ ∧ _ ∧ _ ∧ _)
    ⟨fun h => ⟨h.1, h.2.1, h.2.2.1, h.2.2.2.1, h.2.2.2.2.1, h.2.2.2.2.2.1, h.2.2.2.2.2.2⟩,
     fun s => ⟨s.loads, s.ts, s.shape, s.text, s.normal, s.upgrade, s.f12⟩⟩

/-- the closed facts about the treeinfo examples: the trees of the current format (C04, C08), the documents `down` writes for 0.2 … 1.1
and their upgrade, the two shipped witnesses `wTI00` / `wTI03` (C05) -/
structure TreeInfoFacts : Prop where
  exTree : C04ExTreeFacts
  excluded : C04WitnessFacts
  rekeyed : C04RekeyFacts
  perm : TI.WitnessFacts
  down : TI.ExFacts
  w00 : WT00Facts
  w03 : WT03Facts

instance : Decidable TreeInfoFacts :=
  decidable_of_iff (_ ∧ _ ∧ _ ∧ _ ∧ _ ∧ _ ∧ _)
    ⟨fun h => ⟨h.1, h.2.1, h.2.2.1, h.2.2.2.1, h.2.2.2.2.1, h.2.2.2.2.2.1, h.2.2.2.2.2.2⟩,
     fun s => ⟨s.exTree, s.excluded, s.rekeyed, s.perm, s.down, s.w00, s.w03⟩⟩

theorem treeinfo_facts : TreeInfoFacts := by decide +kernel

theorem TI.ex_facts : TI.ExFacts := treeinfo_facts.down
theorem wT00_facts : WT00Facts := treeinfo_facts.w00
theorem wT03_facts : WT03Facts := treeinfo_facts.w03

example : TI.Legacy.deserialize intOracle wTI00 = .ok wT00 := wT00_facts.loads
example : (∀ n, wT00.tree.ts = .int n → intOracle.intOfFloatStr (Str.intStr n) = .ok n) := by
  intro n hn
  cases wT00_facts.ts.1.symm.trans hn
  exact wT00_facts.ts.2
example : PlatformsOK wT00.tree ∧ UidsOK wT00.variants ∧ UidsNodup wT00.variants ∧ TopNotAddon wT00.variants
    ∧ (∀ p ∈ wT00.images, platformOf wT00.tree.arch (pImages ++ p.1) = p.1) := wT00_facts.shape
example : (serialize wT00 none).toOption.map IniText.Representable = some true
    ∧ (∀ c ∈ wT00.checksums, nc c.1 = true) ∧ (∀ p ∈ wT00.images, ∀ kv ∈ p.2, nc kv.1 = true) := wT00_facts.text
example : ReadValid (norm wT00) := by
  obtain ⟨hn, hs⟩ := wT00_facts.normal
  cases hd : serialize (norm wT00) none with
  | error e => rw [hd] at hs; cases hs
  | ok d => exact readValid_of_normal (serialize_valid hd) hn

example : TI.Legacy.deserialize intOracle wTI03 = .ok wT03 := wT03_facts.loads
example : (∀ n, wT03.tree.ts = .int n → intOracle.intOfFloatStr (Str.intStr n) = .ok n) := by
  intro n hn
  cases wT03_facts.ts.1.symm.trans hn
  exact wT03_facts.ts.2
example : PlatformsOK wT03.tree ∧ UidsOK wT03.variants ∧ UidsNodup wT03.variants ∧ TopNotAddon wT03.variants
    ∧ (∀ p ∈ wT03.images, platformOf wT03.tree.arch (pImages ++ p.1) = p.1) := wT03_facts.shape
example : (serialize wT03 none).toOption.map IniText.Representable = some true
    ∧ (∀ c ∈ wT03.checksums, nc c.1 = true) ∧ (∀ p ∈ wT03.images, ∀ kv ∈ p.2, nc kv.1 = true) := wT03_facts.text
example : ReadValid (norm wT03) := by
  obtain ⟨hn, hs⟩ := wT03_facts.normal
  cases hd : serialize (norm wT03) none with
  | error e => rw [hd] at hs; cases hs
  | ok d => exact readValid_of_normal (serialize_valid hd) hn

end PM

namespace PM.TI
open Ini

/-- what the source-tree file of 0.2 looks like: the source paths stand under `packages` / `repository`, no `parent` -/
theorem ex_src_file :
    ((down "0.2".toList (0, 2) kAddons exSrcTree).toOption.map fun d =>
      (opt d "variant-Server".toList "packages".toList, opt d "variant-Server".toList "source_packages".toList,
       opt d "variant-Server".toList "repository".toList, opt d "variant-Server-optional".toList "parent".toList,
       opt d "variant-Server".toList "addons".toList, (d.lookup "product".toList).isSome, (d.lookup "release".toList).isSome))
    = some (some "Server/source/tree/Packages".toList, none, some "Server/source/tree".toList, none,
            some "Server-optional".toList, true, false) := by
  have h1 := ex_facts.src_file_paths
  have h2 := ex_facts.src_file_rest
  generalize (down "0.2".toList (0, 2) kAddons exSrcTree).toOption = o at h1 h2 ⊢
  cases o with
  | none => cases h1
  | some d =>
    simp only [Option.map_some, Option.some.injEq, Prod.mk.injEq] at h1 h2 ⊢
    exact ⟨h1.1, h1.2.1, h1.2.2, h2⟩

/-- Some hypotheses of `C05_ti_00_*` (`Properties/C05.lean`) hold of `ex00`: the arch, which options and sections there are,
what the literal tables answer, relative image paths.  Not all of them (no timestamp value, no validator hypothesis, no stage2 /
checksum paths, no media): that the theorems apply to `ex00` rests on `ex_facts.loaded00`, the load itself evaluated. -/
theorem ex00_hyps :
    Ini.get ex00 sGeneral kArch = .ok "x86_64".toList ∧ (sections ex00).contains "x86_64".toList = false
    ∧ hasOption ex00 sGeneral kTimestamp = true ∧ platforms00 "x86_64".toList (sections ex00) = ["x86_64".toList, "xen".toList]
    ∧ Legacy.releaseShort00 "Foo Linux".toList = ("Foo Linux".toList, []) ∧ Legacy.version00 "7.2".toList = .ok "7.2".toList
    ∧ hasOption ex00 sGeneral tVariant = true
    ∧ (∀ s ∈ [pAddon ++ "Everything".toList, pAddon ++ (Str.splitOn '-' "Everything".toList).getLastD [],
          pVariant ++ "Everything".toList, pVariant ++ (Str.splitOn '-' "Everything".toList).getLastD []], ex00.lookup s = none)
    ∧ hasOption ex00 sGeneral kAddons = false ∧ hasOption ex00 sGeneral Legacy.kPackages = false
    ∧ hasOption ex00 sGeneral kPackagedir = true ∧ hasOption ex00 sGeneral kRepository = true
    ∧ hasOption ex00 sGeneral Legacy.kIdentity = false
    ∧ Legacy.rstripSlash "repo".toList = "repo".toList ∧ Str.endsWith "repo".toList "/repodata".toList = false
    ∧ (∀ s ∈ sections ex00, isImg s = true → ∀ its, items ex00 s = .ok its → ∀ kv ∈ its, relative kv.2 = true) :=
  let ⟨h1, h2, h3, h4, h5, h6, h7, h8, h9, h10, h11, h12, h13, h14, h15, h16⟩ := ex_facts.hyps00
  ⟨h1, h2, h3, h4, h5, h6, h7, h8, h9, h10, h11, h12, h13, h14, h15,
   fun s hs hi its hit => h16 s hs hi its (by rw [hit]; rfl)⟩

end PM.TI
