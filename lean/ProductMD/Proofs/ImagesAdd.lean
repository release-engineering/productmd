import ProductMD.Spec.Images
import ProductMD.Spec.ImgWords
import ProductMD.Proofs.PyValEq
/-!
`Images.add` (model: `Img.add` = the generated statement list run by `runSteps`): what the insertion
`setdefault(v, {}).setdefault(a, set()).add(obj)` does to the filings, and what the order of the statements guarantees.
-/
namespace PM.Img
open PM PM.PyOps PM.Spec

/-- `PyVal.beq` decides equality.  A local instance, switched on where closed facts about example manifests are
evaluated (`attribute [local instance] decEqPyVal`). -/
@[reducible] def decEqPyVal : DecidableEq PyVal := fun a b => decidable_of_iff _ (beq_iff a b)

-- `Image` has `PyVal` fields, so its `DecidableEq` is derived with that instance on; it decides the `cells.all = [...]` facts about the
-- example manifests (`C02ExampleFacts`, `WitnessFacts`).
attribute [local instance] decEqPyVal in
deriving instance DecidableEq for Image

theorem identifyObj_eq_spec (i : Image) : identifyObj i = identity7 i := by
  cases i; rfl

theorem identEq_iff (a b : Image) : identEq a b = true ↔ SameIdentity a b := by
  unfold identEq SameIdentity PyEq
  rw [identifyObj_eq_spec, identifyObj_eq_spec]
  exact pyEq_iff _ _

theorem ckEq_iff (a b : Image) : ckEq a b = true ↔ PyEq a.checksums b.checksums := pyEq_iff _ _

theorem PyEq.symm {a b : PyVal} (h : PyEq a b) : PyEq b a := Eq.symm h
theorem PyEq.refl (a : PyVal) : PyEq a a := rfl
theorem SameIdentity.symm {a b : Image} (h : SameIdentity a b) : SameIdentity b a := Eq.symm h

theorem conflict_false_iff (cs : Cells) (img : Image) :
    conflict cs img = false ↔ ∀ cur ∈ cs.all, SameIdentity cur img → PyEq cur.checksums img.checksums := by
  unfold conflict
  rw [List.any_eq_false]
  constructor
  · intro h cur hc hid
    have := h cur hc
    rw [(identEq_iff cur img).mpr hid] at this
    simp only [Bool.true_and, Bool.not_eq_true', Bool.not_eq_false] at this
    exact (ckEq_iff _ _).mp (by simpa using this)
  · intro h cur hc
    cases hi : identEq cur img
    · simp
    · have := (ckEq_iff _ _).mpr (h cur hc ((identEq_iff _ _).mp hi))
      simp [this]

/-- `x = d.setdefault(k, dflt)` followed by the update `f` of `x`.  The four table updates of the model are instances: `archAdd_eq`,
`cellsAdd_eq`, `outArchAppend_eq`, `outAppend_eq`. -/
def upsert {β : Type} (f : β → β) (dflt : β) : List (Str × β) → Str → List (Str × β)
  | [], k => [(k, f dflt)]
  | (k', x) :: rest, k => if k' == k then (k', f x) :: rest else (k', x) :: upsert f dflt rest k

/-- `d.get(k, dflt)` -/
def valAt {β : Type} (dflt : β) (l : List (Str × β)) (k : Str) : β :=
  match l.find? (·.1 == k) with
  | some p => p.2
  | none => dflt

variable {β : Type} (f : β → β) (dflt : β)

theorem valAt_cons (p : Str × β) (l : List (Str × β)) (k : Str) :
    valAt dflt (p :: l) k = if p.1 == k then p.2 else valAt dflt l k := by
  simp only [valAt, List.find?_cons]
  cases p.1 == k <;> rfl

theorem upsert_keys (l : List (Str × β)) (k : Str) :
    (upsert f dflt l k).map (·.1) = if k ∈ l.map (·.1) then l.map (·.1) else l.map (·.1) ++ [k] := by
  induction l with
  | nil => rfl
  | cons p rest ih =>
    rw [upsert]
    split
    · rename_i h
      simp [beq_iff_eq.mp h]
    · rename_i h
      have hne : ¬ k = p.1 := fun e => h (beq_iff_eq.mpr e.symm)
      simp only [List.map_cons, ih, List.mem_cons, hne, false_or]
      split <;> rfl

theorem mem_upsert_keys (l : List (Str × β)) (k x : Str) :
    x ∈ (upsert f dflt l k).map (·.1) ↔ x = k ∨ x ∈ l.map (·.1) := by
  rw [upsert_keys]
  split
  · rename_i h
    exact ⟨Or.inr, fun h' => h'.elim (fun e => e ▸ h) id⟩
  · simp only [List.mem_append, List.mem_singleton]
    exact Or.comm

theorem nodup_snoc {α : Type} {l : List α} {a : α} (h : l.Nodup) (ha : a ∉ l) : (l ++ [a]).Nodup := by
  rw [List.nodup_append]
  refine ⟨h, by simp, ?_⟩
  intro x hx y hy
  simp only [List.mem_singleton] at hy
  subst hy
  intro e
  subst e
  exact ha hx

theorem upsert_nodup (l : List (Str × β)) (k : Str) (h : (l.map (·.1)).Nodup) :
    ((upsert f dflt l k).map (·.1)).Nodup := by
  rw [upsert_keys]
  split
  · exact h
  · rename_i hm; exact nodup_snoc h hm

theorem valAt_upsert (l : List (Str × β)) (k k' : Str) :
    valAt dflt (upsert f dflt l k) k' = if k' = k then f (valAt dflt l k) else valAt dflt l k' := by
  induction l with
  | nil =>
    rw [upsert, valAt_cons]
    by_cases h : k = k'
    · simp [h, valAt]
    · have h' : ¬ k' = k := fun e => h e.symm
      simp [h, h', valAt]
  | cons p rest ih =>
    rw [upsert]
    by_cases hp : p.1 = k
    · subst hp
      simp only [beq_self_eq_true, ↓reduceIte, valAt_cons]
      by_cases h : p.1 = k'
      · simp [h]
      · have h' : ¬ k' = p.1 := fun e => h e.symm
        simp [h, h']
    · have hp' : (p.1 == k) = false := beq_false_of_ne hp
      simp only [hp', Bool.false_eq_true, ↓reduceIte, valAt_cons, ih]
      by_cases h : k' = k
      · subst h; simp [hp']
      · simp only [h, ↓reduceIte]

/-- whatever is counted entry by entry: the update adds what it adds to the value it finds -/
theorem upsert_flatMap {γ : Type} (g : Str → β → List γ) (extra : β → List γ) (l : List (Str × β)) (k : Str)
    (hd : g k dflt = []) (hf : ∀ x, (g k (f x)).Perm (extra x ++ g k x)) :
    ((upsert f dflt l k).flatMap fun p => g p.1 p.2).Perm (extra (valAt dflt l k) ++ l.flatMap fun p => g p.1 p.2) := by
  induction l with
  | nil => simpa [upsert, valAt, hd] using hf dflt
  | cons p rest ih =>
    rw [upsert, valAt_cons]
    split
    · rename_i h
      simp only [List.flatMap_cons, ← List.append_assoc]
      exact List.Perm.append_right _ (beq_iff_eq.mp h ▸ hf p.2)
    · simp only [List.flatMap_cons]
      exact (List.Perm.append_left _ ih).trans (List.perm_append_comm_assoc _ _ _)

theorem upsert_ne_nil (l : List (Str × β)) (k : Str) : upsert f dflt l k ≠ [] := by
  cases l with
  | nil => exact List.cons_ne_nil _ _
  | cons p rest => rw [upsert]; split <;> exact List.cons_ne_nil _ _

theorem upsert_forall (Q : β → Prop) (l : List (Str × β)) (k : Str) (h : ∀ p ∈ l, Q p.2) (hf : ∀ x, Q x → Q (f x))
    (hd : Q (f dflt)) : ∀ p ∈ upsert f dflt l k, Q p.2 := by
  induction l with
  | nil =>
    intro p hp
    rw [upsert, List.mem_singleton] at hp
    exact hp ▸ hd
  | cons q rest ih =>
    rw [upsert]
    have hq := h q List.mem_cons_self
    have hr := fun p hp => h p (List.mem_cons_of_mem _ hp)
    split
    · exact List.forall_mem_cons.mpr ⟨hf _ hq, hr⟩
    · exact List.forall_mem_cons.mpr ⟨hq, ih hr⟩

theorem archAdd_eq (as : List (Str × Cell)) (a : Str) (id : Nat) (img : Image) :
    archAdd as a id img = upsert (fun c => cellAdd c id img) [] as a := by
  induction as with
  | nil => rfl
  | cons ac rest ih => rw [archAdd, upsert, ih]

theorem cellsAdd_eq (cs : Cells) (v a : Str) (id : Nat) (img : Image) :
    cellsAdd cs v a id img = upsert (fun as => archAdd as a id img) [] cs v := by
  induction cs with
  | nil => rfl
  | cons va rest ih => rw [cellsAdd, upsert, ih]

theorem cell_eq (cs : Cells) (v a : Str) : cs.cell v a = valAt [] (valAt [] cs v) a := by
  unfold Cells.cell valAt
  cases cs.find? (·.1 == v) with
  | none => rfl
  | some va => show (match va.2.find? (·.1 == a) with | some ac => ac.2 | none => []) = _; cases va.2.find? (·.1 == a) <;> rfl

theorem all_eq_entries (cs : Cells) : cs.all = (entries cs).map (·.2.2.2) := by
  simp [Cells.all, entries, List.map_flatMap, List.map_map, Function.comp_def]

theorem mem_cell_entries {cs : Cells} {v a : Str} {x : Nat × Image} (h : x ∈ cs.cell v a) : (v, a, x.1, x.2) ∈ entries cs := by
  unfold Cells.cell at h
  split at h
  · rename_i va hva
    split at h
    · rename_i ac hac
      have hv : va.1 = v := by simpa using List.find?_some hva
      have ha : ac.1 = a := by simpa using List.find?_some hac
      simp only [entries, List.mem_flatMap, List.mem_map]
      exact ⟨va, List.mem_of_find?_eq_some hva, ac, List.mem_of_find?_eq_some hac, x, h, by rw [hv, ha]⟩
    · cases h
  · cases h

theorem cellsAdd_entries (v a : Str) (id : Nat) (img : Image) (cs : Cells) :
    (entries (cellsAdd cs v a id img)).Perm
      ((if (cs.cell v a).any (·.1 == id) then [] else [(v, a, id, img)]) ++ entries cs) := by
  rw [cellsAdd_eq, cell_eq]
  refine upsert_flatMap _ [] (fun v as => as.flatMap fun ac => ac.2.map fun e => (v, ac.1, e.1, e.2))
    (fun as => if (valAt [] as a).any (·.1 == id) then [] else [(v, a, id, img)]) cs v rfl fun as => ?_
  rw [archAdd_eq]
  refine upsert_flatMap _ [] (fun a c => c.map fun e => (v, a, e.1, e.2))
    (fun c => if c.any (·.1 == id) then [] else [(v, a, id, img)]) as a rfl fun c => ?_
  rw [cellAdd]
  split
  · exact .refl _
  · rw [List.map_append]
    exact List.perm_append_comm

theorem mem_entries_cellsAdd {v a : Str} {id : Nat} {img : Image} {cs : Cells} {e : Str × Str × Nat × Image}
    (h : e ∈ entries (cellsAdd cs v a id img)) : e = (v, a, id, img) ∨ e ∈ entries cs := by
  rcases List.mem_append.mp ((cellsAdd_entries v a id img cs).mem_iff.mp h) with h | h
  · split at h
    · cases h
    · exact Or.inl (List.mem_singleton.mp h)
  · exact Or.inr h

theorem mem_entries_cellsAdd_old {v a : Str} {id : Nat} {img : Image} {cs : Cells} {e : Str × Str × Nat × Image}
    (h : e ∈ entries cs) : e ∈ entries (cellsAdd cs v a id img) :=
  (cellsAdd_entries v a id img cs).mem_iff.mpr (List.mem_append_right _ h)

theorem cellsAdd_perm (v a : Str) (id : Nat) (img : Image) (cs : Cells) (h : ∀ e ∈ entries cs, e.2.2.1 ≠ id) :
    (entries (cellsAdd cs v a id img)).Perm ((v, a, id, img) :: entries cs) := by
  have hp := cellsAdd_entries v a id img cs
  rwa [if_neg] at hp
  intro hany
  obtain ⟨x, hx, hid⟩ := List.any_eq_true.mp hany
  exact h _ (mem_cell_entries hx) (beq_iff_eq.mp hid)

theorem filed_cellsAdd {v a : Str} {id : Nat} {img : Image} {cs : Cells} (h : ∀ e ∈ entries cs, e.2.2.1 = id → e.2.2.2 = img) :
    (v, a, id, img) ∈ entries (cellsAdd cs v a id img) := by
  refine (cellsAdd_entries v a id img cs).mem_iff.mpr ?_
  split
  · rename_i hany
    obtain ⟨x, hx, hid⟩ := List.any_eq_true.mp hany
    have hm := mem_cell_entries hx
    rw [← beq_iff_eq.mp hid, ← h _ hm (beq_iff_eq.mp hid)]
    exact hm
  · exact List.mem_cons_self

theorem mem_cellsAdd {cs : Cells} {v a : Str} {id : Nat} {img x : Image} :
    x ∈ (cellsAdd cs v a id img).all → x = img ∨ x ∈ cs.all := by
  simp only [all_eq_entries, List.mem_map]
  rintro ⟨e, he, rfl⟩
  rcases mem_entries_cellsAdd he with rfl | h
  · exact Or.inl rfl
  · exact Or.inr ⟨e, h, rfl⟩

theorem mem_cellsAdd_old {cs : Cells} {v a : Str} {id : Nat} {img x : Image} :
    x ∈ cs.all → x ∈ (cellsAdd cs v a id img).all := by
  simp only [all_eq_entries, List.mem_map]
  rintro ⟨e, he, rfl⟩
  exact ⟨e, mem_entries_cellsAdd_old he, rfl⟩

theorem uniq_insert {cs : Cells} {v a : Str} {id : Nat} {img : Image} (h : Uniq cs)
    (hc : conflict cs img = false) : Uniq (cellsAdd cs v a id img) := by
  have hc' := (conflict_false_iff cs img).mp hc
  intro i hi j hj hid
  rcases mem_cellsAdd hi with rfl | hi' <;> rcases mem_cellsAdd hj with rfl | hj'
  · exact PyEq.refl _
  · exact (hc' j hj' hid.symm).symm
  · exact hc' i hi' hid
  · exact h i hi' j hj' hid

theorem conflict_after_insert {cs : Cells} {v a : Str} {id : Nat} {img : Image}
    (hc : conflict cs img = false) : conflict (cellsAdd cs v a id img) img = false := by
  rw [conflict_false_iff] at *
  intro cur hcur hid
  rcases mem_cellsAdd hcur with rfl | h
  · exact PyEq.refl _
  · exact hc cur h hid

theorem runStep_pure (v a : Str) (id : Nat) (img : Image) (st : AddStep) (s : ImgState)
    (h : st.mutates = false) : (runStep v a id img st s).1 = s := by
  cases st <;> simp [AddStep.mutates] at h <;> rfl

theorem runStep_infallible (v a : Str) (id : Nat) (img : Image) (st : AddStep) (s : ImgState)
    (h : st.fallible = false) : (runStep v a id img st s).2 = .ok () := by
  cases st <;> simp [AddStep.fallible] at h <;> rfl

theorem runSteps_infallible (v a : Str) (id : Nat) (img : Image) (script : List AddStep) (s : ImgState)
    (h : script.all (fun r => !r.fallible) = true) : (runSteps v a id img script s).2 = .ok () := by
  induction script generalizing s with
  | nil => rfl
  | cons st rest ih =>
    simp only [List.all_cons, Bool.and_eq_true, Bool.not_eq_true'] at h
    have h1 := runStep_infallible v a id img st s h.1
    unfold runSteps
    cases hr : runStep v a id img st s with
    | mk s' r =>
      rw [hr] at h1
      simp only at h1
      subst h1
      exact ih s' h.2

theorem runStep_raise (v a : Str) (id : Nat) (img : Image) (st : AddStep) (s : ImgState) (e : Err)
    (h : (runStep v a id img st s).2 = .error e) : (runStep v a id img st s).1 = s := by
  cases st with
  | insert => cases h
  | _ => rfl

theorem refusal_of_safeOrder (v a : Str) (id : Nat) (img : Image) (script : List AddStep) (s : ImgState)
    (h : safeOrder script = true) (e : Err) :
    (runSteps v a id img script s).2 = .error e → (runSteps v a id img script s).1 = s := by
  induction script generalizing s with
  | nil => intro he; rfl
  | cons st rest ih =>
    intro he
    unfold runSteps at he ⊢
    have hraise := runStep_raise v a id img st s
    have hpure := runStep_pure v a id img st s
    cases hr : runStep v a id img st s with
    | mk s' r =>
      rw [hr] at he hraise hpure
      cases r with
      | error e' => exact hraise e' rfl
      | ok u =>
        cases u
        unfold safeOrder at h
        split at h
        · -- a mutating statement: nothing after it can raise
          rw [runSteps_infallible v a id img rest s' h] at he
          cases he
        · rename_i hm
          obtain rfl : s' = s := hpure (Bool.not_eq_true _ ▸ hm)
          exact ih s' h he

theorem scan_enforced (v a : Str) (id : Nat) (img : Image) (s : ImgState) (hv : Enforces s.version) :
    (runStep v a id img .uniqScan s).2 = (if conflict s.cells img then .error .valueError else .ok ()) := by
  unfold Enforces at hv
  simp only [runStep]
  cases hvt : versionTuple s.version with
  | error e => rw [hvt] at hv; cases hv
  | ok vt =>
    rw [hvt] at hv
    simp only [Except.bind] at hv
    simp only [bind, Except.bind, hv, Bool.true_and]

/-- `Images.add` under the statement list of the current source: table check, refusal list, scan, insertion -/
theorem add_eq (s : ImgState) (v a : Str) (id : Nat) (img : Image) :
    add s v a id img =
      if Gen.RPM_ARCHES.contains a = false then (s, .error .valueError)
      else if refusedArches.contains a then (s, .error .valueError)
      else match (runStep v a id img .uniqScan s).2 with
        | .ok () => ({ s with cells := cellsAdd s.cells v a id img }, .ok ())
        | .error e => (s, .error e) := by
  simp only [add, addScript, Gen.images_add_script, runSteps, runStep]
  cases Gen.RPM_ARCHES.contains a <;> cases refusedArches.contains a <;>
    simp only [↓reduceIte, Bool.false_eq_true, Bool.true_eq_false]
  generalize (versionTuple s.version >>= _) = scan
  rcases scan with _ | ⟨⟨⟩⟩ <;> rfl

theorem add_state (s : ImgState) (v a : Str) (id : Nat) (img : Image) :
    ((add s v a id img).1 = s ∧ ∃ e, (add s v a id img).2 = .error e ∧ (Enforces s.version → e = .valueError))
    ∨ (add s v a id img = ({ s with cells := cellsAdd s.cells v a id img }, .ok ())
        ∧ C10.Admissible a ∧ (Enforces s.version → conflict s.cells img = false)) := by
  rw [add_eq]
  cases ha : Gen.RPM_ARCHES.contains a
  · exact .inl ⟨rfl, _, rfl, fun _ => rfl⟩
  cases hr : refusedArches.contains a
  · rw [if_neg (by decide), if_neg (by decide)]
    cases hs : (runStep v a id img .uniqScan s).2 with
    | error e =>
      refine .inl ⟨rfl, e, rfl, fun hv => ?_⟩
      rw [scan_enforced v a id img s hv] at hs
      split at hs
      · exact (Except.error.inj hs).symm
      · cases hs
    | ok u =>
      cases u
      refine .inr ⟨rfl, ⟨ha, hr⟩, fun hv => ?_⟩
      rw [scan_enforced v a id img s hv] at hs
      cases hc : conflict s.cells img
      · rfl
      · rw [hc] at hs
        cases hs
  · exact .inl ⟨rfl, _, rfl, fun _ => rfl⟩

theorem add_ok {s s' : ImgState} {v a : Str} {id : Nat} {img : Image} (h : add s v a id img = (s', .ok ())) :
    s' = { s with cells := cellsAdd s.cells v a id img } ∧ C10.Admissible a
      ∧ (Enforces s.version → conflict s.cells img = false) := by
  rcases add_state s v a id img with ⟨_, e, he, _⟩ | ⟨h', r⟩
  · rw [h] at he
    cases he
  · exact ⟨(Prod.mk.inj (h.symm.trans h')).1, r⟩

theorem add_frame (s : ImgState) (v a : Str) (id : Nat) (img : Image) :
    (add s v a id img).1.version = s.version ∧ (add s v a id img).1.compose = s.compose := by
  rcases add_state s v a id img with ⟨h, _⟩ | ⟨h, _⟩
  · rw [h]
    exact ⟨rfl, rfl⟩
  · rw [h]
    exact ⟨rfl, rfl⟩

theorem add_accepts (s : ImgState) (v a : Str) (id : Nat) (img : Image) (hv : Enforces s.version)
    (ha : C10.Admissible a) (hc : conflict s.cells img = false) :
    add s v a id img = ({ s with cells := cellsAdd s.cells v a id img }, .ok ()) := by
  rw [add_eq, scan_enforced v a id img s hv, ha.1, ha.2, hc]
  rfl

theorem uniq_of_scanGuard (v a : Str) (id : Nat) (img : Image) (script : List AddStep) (s : ImgState) (seen : Bool)
    (hg : scanGuard script seen = true) (hv : Enforces s.version) (hu : Uniq s.cells)
    (hseen : seen = true → conflict s.cells img = false) :
    Uniq (runSteps v a id img script s).1.cells := by
  induction script generalizing s seen with
  | nil => exact hu
  | cons st rest ih =>
    unfold runSteps
    have hraise := runStep_raise v a id img st s
    cases hr : runStep v a id img st s with
    | mk s' r =>
      rw [hr] at hraise
      cases r with
      | error e => exact (hraise e rfl : s' = s) ▸ hu
      | ok u =>
        cases u
        show Uniq (runSteps v a id img rest s').1.cells
        cases st with
        | unknown => cases (Prod.mk.inj hr).2
        | archTable | srcRefusal =>
          obtain ⟨rfl, _⟩ := Prod.mk.inj hr
          exact ih s seen hg hv hu hseen
        | uniqScan =>
          obtain ⟨rfl, _⟩ := Prod.mk.inj hr
          have hc : conflict s.cells img = false := by
            have hsc := scan_enforced v a id img s hv
            cases hcf : conflict s.cells img
            · rfl
            · rw [hcf, hr] at hsc; cases hsc
          exact ih s true hg hv hu fun _ => hc
        | insert =>
          obtain ⟨rfl, _⟩ := Prod.mk.inj hr
          simp only [scanGuard, Bool.and_eq_true] at hg
          have hc := hseen hg.1
          exact ih _ seen hg.2 hv (uniq_insert hu hc) fun _ => conflict_after_insert hc

end PM.Img
