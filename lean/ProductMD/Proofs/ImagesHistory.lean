import ProductMD.Proofs.ImagesLoadExact
/-!
Histories that cross the version gate on one object: `add`, `dumps` (sets the header to the current version),
assignment to `header.version`, `loads` into the same object (returned or raised), `discard` from a bucket, `del` of a variant.
`Uniq` is not an invariant of such histories (below 1.1 nothing is checked); what holds is: **a step taken at an enforcing version
never creates a new colliding pair** — whatever is already in the manifest and however it got there (the two removals create none).
-/
namespace PM.Img
open PM PM.PyOps PM.Spec

theorem NoNewPairs.refl (cs : Cells) : NoNewPairs cs cs := fun _ hi _ hj _ => ⟨hi, hj⟩

theorem NoNewPairs.trans {a b c : Cells} (h₁ : NoNewPairs a b) (h₂ : NoNewPairs b c) : NoNewPairs a c := by
  intro i hi j hj hv
  obtain ⟨hi', hj'⟩ := h₂ i hi j hj hv
  exact h₁ i hi' j hj' hv

theorem uniq_of_noNewPairs {cs cs' : Cells} (h : NoNewPairs cs cs') (hu : Uniq cs) : Uniq cs' := by
  intro i hi j hj hid
  cases Classical.em (PyEq i.checksums j.checksums) with
  | inl h' => exact h'
  | inr hne =>
    obtain ⟨hi', hj'⟩ := h i hi j hj ⟨hid, hne⟩
    exact hu i hi' j hj' hid

theorem add_noNewPairs (s : ImgState) (v a : Str) (id : Nat) (img : Image) (hv : Enforces s.version) :
    NoNewPairs s.cells (add s v a id img).1.cells := by
  rcases add_state s v a id img with ⟨h, _⟩ | ⟨h, _, hc⟩
  · rw [h]
    exact NoNewPairs.refl _
  · rw [h]
    have hc := (conflict_false_iff s.cells img).mp (hc hv)
    intro i hi j hj hviol
    rcases mem_cellsAdd hi with rfl | hi' <;> rcases mem_cellsAdd hj with rfl | hj'
    · exact absurd (PyEq.refl _) hviol.2
    · exact absurd (hc j hj' hviol.1.symm).symm hviol.2
    · exact absurd (hc i hi' hviol.1) hviol.2
    · exact ⟨hi', hj'⟩

theorem noNewPairs_stable {ver : PyVal} (hv : Enforces ver) (cs0 : Cells) : AddStable ver (NoNewPairs cs0) :=
  fun s v a id img _ _ hs hp => hp.trans (add_noNewPairs s v a id img (hs ▸ hv))

theorem deserializeInto_noNewPairs (doc : PyVal) (s0 s : ImgState) (n0 : Nat)
    (hv : ∀ ver, headerDeserialize doc = .ok ver → Enforces ver)
    (h : deserializeInto s0 n0 doc = .ok s) : NoNewPairs s0.cells s.cells :=
  readWith_inv (fun ver hver => noNewPairs_stable (hv ver hver) _) (NoNewPairs.refl _)
    ((deserializeInto_eq_readWith s0 n0 doc).symm.trans h)

/-- the object the call leaves behind: returned or raised, wherever it raised -/
theorem loadsInto_noNewPairs (doc : PyVal) (s0 : ImgState) (n0 : Nat)
    (hv : ∀ ver, headerDeserialize doc = .ok ver → Enforces ver) :
    NoNewPairs s0.cells (loadsInto s0 n0 doc).1.cells :=
  loadsInto_inv doc s0 n0 (fun ver hver => noNewPairs_stable (hv ver hver) _) (NoNewPairs.refl _)

theorem loadsInto_version (doc : PyVal) (s0 : ImgState) (n0 : Nat) :
    (loadsInto s0 n0 doc).1.version = match (loadsInto s0 n0 doc).2 with
      | .ok _ => .str currentVersion
      | .error _ => (headerDeserializeInto s0.version doc).1 := by
  unfold loadsInto
  cases hh : headerDeserializeInto s0.version doc with
  | mk ver r =>
    cases r with
    | error e => rfl
    | ok u =>
      cases u
      simp only
      -- raised at `payload`, in the compose section or at `images`: the header is the one just assigned
      split
      · rfl
      · split
        · rfl
        · split
          · rfl
          · rename_i c _ _ images vs _
            -- inside the loops the header is the document's version
            have hinv := loadVariantsT_inv (s0 := { version := ver, compose := c, cells := s0.cells }) (P := fun _ => True)
              (fun _ _ _ _ _ _ _ _ _ => trivial) images vs (_, n0) ⟨rfl, rfl, trivial⟩
            split
            -- raised inside the loops
            · rename_i heq
              rw [heq] at hinv
              exact hinv.version
            -- returned: the header is reset, and the closing `validate()` has no rule to run
            · simp only [images_no_validators]

theorem mem_all_cellsDiscard {cs : Cells} {v a : Str} {id : Nat} {x : Image} (h : x ∈ (cellsDiscard cs v a id).all) : x ∈ cs.all := by
  simp only [Cells.all, cellsDiscard, List.mem_flatMap, List.mem_map] at h ⊢
  obtain ⟨va', ⟨va, hva, rfl⟩, ac', hac', e, he, rfl⟩ := h
  split at hac'
  · simp only [List.mem_map] at hac'
    obtain ⟨ac, hac, rfl⟩ := hac'
    split at he
    · exact ⟨va, hva, ac, hac, e, (List.mem_filter.mp he).1, rfl⟩
    · exact ⟨va, hva, ac, hac, e, he, rfl⟩
  · exact ⟨va, hva, ac', hac', e, he, rfl⟩

theorem mem_all_cellsDelVariant {cs : Cells} {v : Str} {x : Image} (h : x ∈ (cellsDelVariant cs v).all) : x ∈ cs.all := by
  simp only [Cells.all, cellsDelVariant, List.mem_flatMap, List.mem_map] at h ⊢
  obtain ⟨va, hva, rest⟩ := h
  exact ⟨va, (List.mem_filter.mp hva).1, rest⟩

theorem noNewPairs_of_subset {cs cs' : Cells} (h : ∀ x ∈ cs'.all, x ∈ cs.all) : NoNewPairs cs cs' :=
  fun i hi j hj _ => ⟨h i hi, h j hj⟩

theorem hstep_noNewPairs (s : ImgState) (op : HOp) (h : OpEnforced s op) : NoNewPairs s.cells (hstep s op).1.cells := by
  cases op with
  | add o => exact add_noNewPairs s o.variant o.arch o.id o.img h
  | dumps => simp only [hstep, dumps_state]; exact NoNewPairs.refl _
  | setVersion v => exact NoNewPairs.refl _
  | loads doc n0 =>
    exact loadsInto_noNewPairs doc s n0 h
  | discard v a id => exact noNewPairs_of_subset fun x hx => mem_all_cellsDiscard hx
  | delVariant v => exact noNewPairs_of_subset fun x hx => mem_all_cellsDelVariant hx

end PM.Img
