import ProductMD.Proofs.SortBy
import ProductMD.Proofs.Decimal
import ProductMD.Proofs.C14Str
import ProductMD.Model.TreeInfo
import ProductMD.Proofs.StrSort
import ProductMD.Proofs.IniRoundTrip
/-!
String facts the treeinfo / discinfo readers rest on: `split(",")` inverts `",".join`, `sorted(set(..))` of a
duplicate-free list, `int(str(n)) == n`, `strip()` of text without outer blanks.
-/
namespace PM
namespace TI
open Ini Str

theorem splitNonEmpty_join (l : List Str) (h1 : ∀ x ∈ l, x ≠ []) (h2 : ∀ x ∈ l, ',' ∉ x) :
    splitNonEmpty (joinWith ',' l) = l := by
  unfold splitNonEmpty
  cases l with
  | nil => rfl
  | cons x r =>
    rw [C14.splitOn_joinWith ',' (x :: r) (by simp) h2]
    apply List.filter_eq_self.mpr
    intro a ha
    have := h1 a ha
    cases a with
    | nil => exact absurd rfl this
    | cons _ _ => rfl

theorem sortDedup_eq_sortS (l : List Str) (h : l.Nodup) : sortDedup l = sortS l := by
  have hnd : (sortS l).Nodup := (sortS_perm l).nodup_iff.mpr h
  have hlt : (sortS l).Pairwise (· < ·) := ((sortBy_sorted id l).and hnd).imp fun h => Std.lt_of_le_of_ne h.1 h.2
  refine Str.sorted_ext (sortDedup_sorted l) hlt fun x => ?_
  rw [mem_sortDedup, mem_sortS]

theorem lstrip_eq_ini : ∀ s : Str, Str.lstrip s = IniParse.lstrip isPySpace s
  | [] => rfl
  | c :: cs => by
    rw [Str.lstrip, IniParse.lstrip, lstrip_eq_ini cs]

theorem strip_eq_ini (s : Str) : Str.strip s = IniParse.strip isPySpace s := by
  rw [Str.strip, Str.rstrip, lstrip_eq_ini, lstrip_eq_ini]
  rfl

theorem strip_of_no_space {s : Str} (h : ∀ c ∈ s, isPySpace c = false) : Str.strip s = s :=
  (strip_eq_ini s).trans <| IniParse.strip_ok (fun c _ e => h c (e ▸ List.mem_cons_self))
    fun _ c e => h c (e ▸ List.mem_append_right _ List.mem_cons_self)

theorem digit_not_space {c : Char} (h : Dec.IsDig c) : isPySpace c = false := by
  have := h.toNat
  simp only [isPySpace, Bool.or_eq_false_iff, Bool.and_eq_false_iff, decide_eq_false_iff_not, beq_eq_false_iff_ne, ne_eq]
  omega

theorem intDigits_digits : ∀ (ds : Str) (b : Bool) (acc : Nat), (∀ c ∈ ds, Dec.IsDig c) → (ds ≠ [] ∨ b = true) →
    intDigits ds b acc = digitsVal ds acc := by
  intro ds
  induction ds with
  | nil =>
    intro b acc _ hb
    rcases hb with hb | hb
    · exact absurd rfl hb
    · subst hb; rfl
  | cons c cs ih =>
    intro b acc h _
    have hc := h c (List.mem_cons_self ..)
    simp only [intDigits, hc.ascii, if_true, digitsVal, hc.val]
    exact ih true _ (fun x hx => h x (List.mem_cons_of_mem _ hx)) (Or.inr rfl)

theorem pyInt_natStr (n : Nat) : Str.pyInt (natStr n) = .ok (n : Int) := by
  obtain ⟨hne, hdig, hval, _⟩ := Dec.natStr_spec n
  have hstrip : Str.strip (natStr n) = natStr n := strip_of_no_space fun c hc => digit_not_space (hdig c hc)
  unfold Str.pyInt
  rw [hstrip]
  cases hs : natStr n with
  | nil => exact absurd hs hne
  | cons c t =>
    have hc : Dec.IsDig c := hdig c (by rw [hs]; simp)
    have h1 : c ≠ '-' := hc.ne (by decide)
    have h2 : c ≠ '+' := hc.ne (by decide)
    have hv : intDigits (c :: t) false 0 = some n := by
      rw [← hs, intDigits_digits _ _ _ hdig (Or.inl hne), hval]
    split
    · rename_i ds e; injection e with e1 e2; exact absurd e1 h1
    · rename_i ds e; injection e with e1 e2; exact absurd e1 h2
    · rw [hv]

theorem pyInt_intStr (x : Int) : Str.pyInt (intStr x) = .ok x := by
  cases x with
  | ofNat n => exact pyInt_natStr n
  | negSucc n =>
    obtain ⟨hne, hdig, hval, _⟩ := Dec.natStr_spec (n + 1)
    show Str.pyInt ('-' :: natStr (n + 1)) = _
    have hstrip : Str.strip ('-' :: natStr (n + 1)) = '-' :: natStr (n + 1) :=
      strip_of_no_space fun c hc => by
        rcases List.mem_cons.mp hc with rfl | hc
        · decide
        · exact digit_not_space (hdig c hc)
    unfold Str.pyInt
    rw [hstrip]
    simp only
    rw [intDigits_digits _ _ _ hdig (Or.inl hne), hval]
    rfl

end TI
end PM
