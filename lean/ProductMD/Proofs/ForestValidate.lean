import ProductMD.Model.Forest
import ProductMD.Proofs.RegexAdequacy
import ProductMD.Proofs.RulesEq
import ProductMD.Proofs.CIValid
import ProductMD.Generated.Tables
/-! What a successful `variant.validate()` – the rule list of `composeinfo.Variant` regenerated from the source on
every run – guarantees about a variant (C11).  The rules are located in the generated list by *content*
(membership evaluated by the kernel, `variant_rules`), so reordering or adding validators does not disturb the proofs,
while weakening one of the validators used here breaks them. -/
namespace PM.Forest

/-- shape of `^[K]+$` as the translator emits it -/
def idPattern (K : Cls) : Re := Re.seq [.bol, Re.plus (Re.seq [.cls K]), .eol]

theorem lang_idPattern (K : Cls) : Lang (idPattern K) End (Run K) := .bolCat (Lang.plusCls K).catEol

/-- CPython's `$` also matches before a final line feed, hence the `'\n'` -/
theorem idPattern_sound (K : Cls) (s : Str) (h : pyMatches (idPattern K) s = true) :
    s ≠ [] ∧ ∀ x ∈ s, K.mem x = true ∨ x = '\n' := by
  rcases ((lang_idPattern K).pyMatches s).mp h with ⟨hne, hall⟩ | ⟨t, rfl, _, hall⟩
  · exact ⟨hne, fun x hx => .inl (hall x hx)⟩
  · exact ⟨by simp, fun x hx => (List.mem_append.mp hx).imp (hall x) (by simp)⟩

/-- `[a-zA-Z0-9]` of `Variant._validate_id` -/
def idCls : Cls := { ranges := [(97, 122), (65, 90), (48, 57)], neg := false }

theorem idRe_shape : Gen.re_composeinfo_Variant__validate_id_0 = idPattern idCls := by decide

/-- everything the add/lookup theorems use about a variant that passed `validate()` in state `s` -/
structure Validated (U : Nat → Attrs) (s : State) (v : Nat) : Prop where
  id_nodash : '-' ∉ (U v).id
  id_ne : (U v).id ≠ []
  type_ok : (U v).type ∈ Gen.VARIANT_TYPES
  arches_ne : (U v).arches ≠ []
  name_ne : (U v).name ≠ []
  uid_top : s.parent v = none → Str.removeChar '-' (U v).uid = (U v).id
  uid_child : ∀ p, s.parent v = some p → (U v).uid = (U p).uid ++ '-' :: (U v).id
  arches_sub : ∀ p, s.parent v = some p → ∀ a ∈ (U v).arches, a ∈ (U p).arches

theorem toObj_parent (U : Nat → Attrs) (s : State) (v : Nat) : (toObj U s v).get "parent".toList = parentVal U s v := rfl

theorem uid_top_of_ok {U : Nat → Attrs} {s : State} {v : Nat} (hp : s.parent v = none) (h : ciVariantUid (toObj U s v) = .ok ()) :
    Str.removeChar '-' (U v).uid = (U v).id := by
  rw [ciVariantUid_top (by rw [toObj_parent, parentVal, hp]) rfl rfl] at h
  exact of_ite_ok h

theorem uid_child_of_ok {U : Nat → Attrs} {s : State} {v p : Nat} (hp : s.parent v = some p) (h : ciVariantUid (toObj U s v) = .ok ()) :
    (U v).uid = (U p).uid ++ '-' :: (U v).id := by
  rw [ciVariantUid_child (by rw [toObj_parent, parentVal, hp]) rfl rfl rfl] at h
  exact of_ite_ok h

theorem arches_sub_of_ok {U : Nat → Attrs} {s : State} {v p : Nat} (hp : s.parent v = some p)
    (h : ciVariantParentArch (toObj U s v) = .ok ()) : ∀ a ∈ (U v).arches, a ∈ (U p).arches := by
  rw [ciVariantParentArch, toObj_parent, parentVal, hp] at h
  have he : ((U v).arches.map PyVal.str).all (fun a => ((U p).arches.map PyVal.str).any (PyVal.pyEq a ·)) = true := of_ite_ok h
  intro a ha
  simp only [List.all_eq_true, List.any_eq_true, List.mem_map] at he
  obtain ⟨y, ⟨b, hb, rfl⟩, hy⟩ := he (.str a) ⟨a, ha, rfl⟩
  rw [(CI.pyEq_str _ _).mp hy]; exact hb

/-- The four generated validators `validated_of_ok` rests on are in the generated rule list, evaluated by the kernel.  The two
hand-written ones, the uid and the parent-arch check, are `CI.uid_rule_mem`, `CI.parentArch_rule_mem` with `CI.customs_uid`,
`CI.customs_parentArch`. -/
theorem variant_rules :
    Rule.re ['i','d'] [Gen.re_composeinfo_Variant__validate_id_0] ∈ Gen.rules_composeinfo_Variant.flat
    ∧ Rule.value ['t','y','p','e'] Gen.VARIANT_TYPES ∈ Gen.rules_composeinfo_Variant.flat
    ∧ Rule.notBlank ['a','r','c','h','e','s'] ∈ Gen.rules_composeinfo_Variant.flat
    ∧ Rule.notBlank ['n','a','m','e'] ∈ Gen.rules_composeinfo_Variant.flat := by
  decide +kernel

theorem validated_of_ok (U : Nat → Attrs) (s : State) (v : Nat) (h : validate U s v = .ok ()) : Validated U s v := by
  have hr := (CI.validate_variant_iff _).mp h
  obtain ⟨mid, mtype, march, mname⟩ := variant_rules
  obtain ⟨i, hi, hid⟩ := Rule.check_re_iff.mp (hr _ mid)
  obtain rfl : (U v).id = i := PyVal.str.inj hi
  obtain ⟨t, ht, htype⟩ := Rule.check_value_iff.mp (hr _ mtype)
  obtain rfl : (U v).type = t := PyVal.str.inj ht
  have hsound := idPattern_sound idCls _ (by simpa [idRe_shape] using hid)
  have harch : (strList (U v).arches).truthy = true := Rule.check_notBlank_iff.mp (hr _ march)
  have hname : (PyVal.str (U v).name).truthy = true := Rule.check_notBlank_iff.mp (hr _ mname)
  have huid : ciVariantUid (toObj U s v) = .ok () := by
    have hc := hr _ CI.uid_rule_mem
    rwa [Rule.check, CI.customs_uid] at hc
  have hpa : ciVariantParentArch (toObj U s v) = .ok () := by
    have hc := hr _ CI.parentArch_rule_mem
    rwa [Rule.check, CI.customs_parentArch] at hc
  refine ⟨?_, hsound.1, htype, ?_, ?_, fun hp => uid_top_of_ok hp huid,
    fun p hp => uid_child_of_ok hp huid, fun p hp => arches_sub_of_ok hp hpa⟩
  · intro hd
    rcases hsound.2 _ hd with h1 | h1 <;> exact absurd h1 (by decide)
  · intro h0
    simp [h0, strList, PyVal.truthy] at harch
  · intro h0
    simp [h0, PyVal.truthy] at hname
end PM.Forest
