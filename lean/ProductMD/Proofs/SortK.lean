import ProductMD.Model.SortK
/-! `sortK` is a permutation, is sorted, and two permutations with pairwise distinct keys sort to the same list
(the canonical-order lemma behind every "output does not depend on construction order" theorem).

There are two insertion sorts by key in the model and they differ on equal keys: `insertK` (and `PyVal.insertKv`, which is `insertK`
at `PyVal`: `sortKvs_eq` in Proofs/Canon) puts the new element AFTER the equal keys already there, so `sortK` gives equal keys back in
reverse (`sortK [(a, 1), (a, 2)] = [(a, 2), (a, 1)]`); `Ini.insertBy` (Proofs/SortBy) puts it in front of them, so `Ini.sortBy` is stable.
On pairwise distinct keys both give the one sorted list (`eq_of_perm_of_sorted`).  The insertion step of both is an instance of
`insertKey_perm` / `insertKey_sorted`; the lemmas about the sorts are stated per family. -/
namespace PM

theorem inj_of_nodup_map {α β} (f : α → β) : ∀ {l : List α}, (l.map f).Nodup →
    ∀ {a b}, a ∈ l → b ∈ l → f a = f b → a = b := by
  intro l
  induction l with
  | nil => intro _ a b ha; cases ha
  | cons x xs ih =>
    intro hn a b ha hb hab
    simp only [List.map_cons, List.nodup_cons] at hn
    cases ha with
    | head =>
      cases hb with
      | head => rfl
      | tail _ hb' => exact absurd (List.mem_map.mpr ⟨b, hb', hab.symm⟩) hn.1
    | tail _ ha' =>
      cases hb with
      | head => exact absurd (List.mem_map.mpr ⟨a, ha', hab⟩) hn.1
      | tail _ hb' => exact ih hn.2 ha' hb' hab

theorem Str.le_of_lt_false {a b : Str} (h : Str.lt a b = false) : b ≤ a := by
  simp only [Str.lt, decide_eq_false_iff_not] at h
  exact List.not_lt.mp h

theorem Str.le_of_lt_true {a b : Str} (h : Str.lt a b = true) : a ≤ b := by
  simp only [Str.lt, decide_eq_true_eq] at h
  exact List.le_of_lt h

variable {α : Type}

/-- order by key -/
def KeyLe (key : α → Str) (a b : α) : Prop := key a ≤ key b

section
variable {key : α → Str} {p : α → α → Bool} (ins : α → List α → List α) (hnil : ∀ x, ins x [] = [x])
  (hcons : ∀ x y l, ins x (y :: l) = if p x y then x :: y :: l else y :: ins x l)
include hnil hcons

/-- `ins x` puts `x` in front of the first `y` with `p x y`.  `insertK` and `Img.insertByPath` (Proofs/ImagesSerialize) are such
functions, with `p x y` the test that the key of `x` is strictly smaller (so `x` goes after the equal keys), each by its two equations;
`Ini.insertBy` (Proofs/SortBy) is one with the test that it is not larger (`Ini.insertBy_cons`: in front of the equal keys). -/
theorem insertKey_perm (x : α) : ∀ l, (ins x l).Perm (x :: l) := by
  intro l
  induction l with
  | nil => rw [hnil]
  | cons y ys ih =>
    rw [hcons]
    split
    · exact List.Perm.refl _
    · exact (List.Perm.cons y ih).trans (List.Perm.swap x y ys)

theorem insertKey_sorted (ht : ∀ x y, p x y = true → key x ≤ key y) (hf : ∀ x y, p x y = false → key y ≤ key x) (x : α) :
    ∀ l, l.Pairwise (KeyLe key) → (ins x l).Pairwise (KeyLe key) := by
  intro l
  induction l with
  | nil => intro _; simp [hnil]
  | cons y ys ih =>
    intro h
    rw [hcons]
    have hy := List.pairwise_cons.mp h
    cases hlt : p x y with
    | true =>
      have hle := ht x y hlt
      simp only [if_true]
      refine List.pairwise_cons.mpr ⟨?_, h⟩
      intro z hz
      cases hz with
      | head => exact hle
      | tail _ hz' => exact List.le_trans hle (hy.1 z hz')
    | false =>
      have hle := hf x y hlt
      simp only [Bool.false_eq_true, if_false]
      refine List.pairwise_cons.mpr ⟨?_, ih hy.2⟩
      intro z hz
      rcases List.mem_cons.mp ((insertKey_perm ins hnil hcons x ys).mem_iff.mp hz) with hz | hz
      · subst hz; exact hle
      · exact hy.1 z hz

end

theorem insertK_perm (kv : Str × α) (l : List (Str × α)) : (insertK kv l).Perm (kv :: l) :=
  insertKey_perm insertK (fun _ => rfl) (fun _ _ _ => rfl) kv l

theorem sortK_perm : ∀ l : List (Str × α), (sortK l).Perm l := by
  intro l
  induction l with
  | nil => simp [sortK]
  | cons x xs ih =>
    simp only [sortK, List.foldr_cons]
    exact (insertK_perm x _).trans (List.Perm.cons x ih)

theorem eq_of_perm_of_sorted (key : α → Str) {l₁ l₂ : List α} (hp : l₁.Perm l₂) (h₁ : l₁.Pairwise (KeyLe key))
    (h₂ : l₂.Pairwise (KeyLe key)) (hinj : ∀ a ∈ l₁, ∀ b ∈ l₁, key a = key b → a = b) : l₁ = l₂ :=
  List.Perm.eq_of_pairwise (le := KeyLe key)
    (fun a b ha hb hab hba => hinj a ha b (hp.mem_iff.mpr hb) (List.le_antisymm hab hba)) h₁ h₂ hp

theorem sortK_sorted : ∀ l : List (Str × α), (sortK l).Pairwise (KeyLe (·.1)) := by
  intro l
  induction l with
  | nil => simp [sortK]
  | cons x xs ih =>
    simp only [sortK, List.foldr_cons]
    exact insertKey_sorted insertK (fun _ => rfl) (fun _ _ _ => rfl) (fun _ _ => Str.le_of_lt_true)
      (fun _ _ => Str.le_of_lt_false) x _ ih

theorem sortK_perm_eq {l₁ l₂ : List (Str × α)} (hp : l₁.Perm l₂) (hd : (l₁.map (·.1)).Nodup) :
    sortK l₁ = sortK l₂ :=
  eq_of_perm_of_sorted (·.1) ((sortK_perm l₁).trans (hp.trans (sortK_perm l₂).symm)) (sortK_sorted l₁) (sortK_sorted l₂)
    fun _ ha _ hb => inj_of_nodup_map (·.1) hd ((sortK_perm l₁).mem_iff.mp ha) ((sortK_perm l₁).mem_iff.mp hb)

theorem sortStrs_perm_eq {l₁ l₂ : List Str} (hp : l₁.Perm l₂) (hd : l₁.Nodup) : sortStrs l₁ = sortStrs l₂ := by
  unfold sortStrs
  congr 1
  apply sortK_perm_eq (hp.map _)
  have : (l₁.map fun s => (s, ())).map (·.1) = l₁ := by simp [List.map_map, Function.comp_def]
  rw [this]; exact hd

end PM
