import ProductMD.Proofs.TreeInfoNormDump
import ProductMD.Proofs.RulesAgree
import ProductMD.Proofs.PermR
import ProductMD.Proofs.Assoc
/-!
C08 for treeinfo, the whole writer: two trees that are the same content - variant containers at every level, the platform set,
the image tables and the checksum table in any order, path tables answering every lookup alike - are written as documents with
the same sections and the same options (`CE`, up to creation order), and a dump that succeeds for one succeeds for the other.
Built on `serialize_transfer` (`Proofs/TreeInfoNormDump.lean`): what has to be shown is that the validators, the look-ups of
`[general]` and the sections up to creation order are the same for both trees.
-/
namespace PM
namespace TI
open Ini

mutual
/-- the same variant content: same key/id/uid/name/type, path tables answering every lookup alike, children a rearrangement
of each other, each the same content.  `TLEq` has `swap` and `trans` as constructors: the children clause cannot be `PermR TVEq k k'`
(a definition by `∃`, not allowed on the relation being defined), so the rearrangement is generated here, and every induction has a
`trans` case; `TLEq.permR` recovers `PermR TVEq` at one level. -/
inductive TVEq : Variant → Variant → Prop
  | mk (key id uid name type : Str) {p p' : List (Str × Str)} {k k' : List Variant} :
      (∀ f, p.lookup f = p'.lookup f) → TLEq k k' → TVEq (.mk key id uid name type p k) (.mk key id uid name type p' k')
inductive TLEq : List Variant → List Variant → Prop
  | nil : TLEq [] []
  | cons {v v' : Variant} {l l' : List Variant} : TVEq v v' → TLEq l l' → TLEq (v :: l) (v' :: l')
  | swap (a b : Variant) (l : List Variant) : TLEq (a :: b :: l) (b :: a :: l)
  | trans {l₁ l₂ l₃ : List Variant} : TLEq l₁ l₂ → TLEq l₂ l₃ → TLEq l₁ l₃
end

mutual
theorem TVEq.refl : ∀ v : Variant, TVEq v v
  | .mk key id uid name type _ k => .mk key id uid name type (fun _ => rfl) (TLEq.refl k)
theorem TLEq.refl : ∀ l : List Variant, TLEq l l
  | [] => .nil
  | v :: l => .cons (TVEq.refl v) (TLEq.refl l)
end

theorem TLEq.of_perm {l l' : List Variant} (h : l.Perm l') : TLEq l l' := by
  induction h with
  | nil => exact .nil
  | cons x _ ih => exact .cons (TVEq.refl x) ih
  | swap x y l => exact .swap y x l
  | trans _ _ ih1 ih2 => exact .trans ih1 ih2

/-- the four fields of a child that its parent's validator sees (`kidSummary`) -/
def vsumm (v : Variant) : Str × Str × Str × Str := (v.key, v.id, v.uid, v.type)

theorem TVEq.summ {v v' : Variant} (h : TVEq v v') : vsumm v = vsumm v' := by cases h; rfl

theorem TVEq.key_eq {v v' : Variant} (h : TVEq v v') : v.key = v'.key := by cases h; rfl

theorem TVEq.uid_eq {v v' : Variant} (h : TVEq v v') : v.uid = v'.uid := by cases h; rfl

theorem TVEq.paths {v v' : Variant} (h : TVEq v v') : ∀ f, v.paths.lookup f = v'.paths.lookup f := by
  cases h with
  | mk _ _ _ _ _ hp _ => exact hp

theorem TVEq.kids {v v' : Variant} (h : TVEq v v') : TLEq v.kids v'.kids := by
  cases h with
  | mk _ _ _ _ _ _ hk => exact hk

theorem TVEq.trans : ∀ {a b c : Variant}, TVEq a b → TVEq b c → TVEq a c
  | _, _, _, .mk key id uid name type hp hk, .mk _ _ _ _ _ hp' hk' =>
    .mk key id uid name type (fun f => (hp f).trans (hp' f)) (.trans hk hk')

theorem TLEq.permR : ∀ {l l' : List Variant}, TLEq l l' → PermR TVEq l l'
  | _, _, .nil => PermR.refl TVEq.refl _
  | _, _, .cons h t => PermR.cons h (TLEq.permR t)
  | _, _, .swap a b l => PermR.of_perm TVEq.refl (List.Perm.swap b a l)
  | _, _, .trans h1 h2 => PermR.trans (R := TVEq) (fun _ _ _ => TVEq.trans) (TLEq.permR h1) (TLEq.permR h2)

theorem TLEq.summ {l l' : List Variant} (h : TLEq l l') : (l.map vsumm).Perm (l'.map vsumm) :=
  h.permR.map_perm vsumm (fun _ _ e => e.summ)

theorem TLEq.keys {l l' : List Variant} (h : TLEq l l') : (l.map Variant.key).Perm (l'.map Variant.key) := by
  have := h.summ.map (·.1)
  simpa [List.map_map, Function.comp_def, vsumm] using this

theorem TLEq.uids {l l' : List Variant} (h : TLEq l l') : (l.map Variant.uid).Perm (l'.map Variant.uid) := by
  have := h.summ.map (·.2.2.1)
  simpa [List.map_map, Function.comp_def, vsumm] using this

theorem TLEq.isEmpty {l l' : List Variant} (h : TLEq l l') : l.isEmpty = l'.isEmpty :=
  isEmpty_eq_of_length h.permR.length_eq

mutual
theorem TVEq.symm : ∀ {v v' : Variant}, TVEq v v' → TVEq v' v
  | _, _, .mk key id uid name type hp hk => .mk key id uid name type (fun f => (hp f).symm) (TLEq.symm hk)
theorem TLEq.symm : ∀ {l l' : List Variant}, TLEq l l' → TLEq l' l
  | _, _, .nil => .nil
  | _, _, .cons h t => .cons (TVEq.symm h) (TLEq.symm t)
  | _, _, .swap a b l => .swap b a l
  | _, _, .trans h1 h2 => .trans (TLEq.symm h2) (TLEq.symm h1)
end

theorem TLEq.mem_left {l l' : List Variant} (h : TLEq l l') : ∀ v ∈ l, ∃ v' ∈ l', TVEq v v' := h.permR.mem_left

theorem pathOpts_congr {p p' : List (Str × Str)} (h : ∀ f, p.lookup f = p'.lookup f) : pathOpts p = pathOpts p' := by
  unfold pathOpts
  simp only [h]

theorem varOpts_congr (pu : Option Str) {v v' : Variant} (h : TVEq v v') : varOpts pu v = varOpts pu v' := by
  cases h with
  | mk key id uid name type hp hk =>
    simp only [varOpts, baseOpts, pathOpts_congr hp, hk.isEmpty, Str.sortDedup_perm hk.uids]

/-- What the validators of the five treeinfo classes read and which hand-bound rules they run, computed from the generated
rule lists. -/
structure ClassInventory : Prop where
  variant_reads : ∀ f ∈ classReads "treeinfo.Variant", f ≠ kVariants
  variant_customs : ∀ n ∈ classCustoms "treeinfo.Variant", n = nVariantUid ∨ n = nVariantKeys
  variants_reads : classReads "treeinfo.Variants" = []
  variants_customs : ∀ n ∈ classCustoms "treeinfo.Variants", n = nVariantKeys
  tree_reads : ∀ f ∈ classReads "treeinfo.Tree", f ≠ kPlatforms
  tree_customs : classCustoms "treeinfo.Tree" = []
  checksums_reads : classReads "treeinfo.Checksums" = []
  checksums_customs : ∀ n ∈ classCustoms "treeinfo.Checksums", n = nChecksumPaths
  images_reads : classReads "treeinfo.Images" = []
  images_customs : ∀ n ∈ classCustoms "treeinfo.Images", n = nImagePaths ∨ n = nImagePlatforms

theorem class_inventory : ClassInventory := by
  suffices h : _ ∧ _ ∧ _ ∧ _ ∧ _ ∧ _ ∧ _ ∧ _ ∧ _ ∧ _ from
    ⟨h.1, h.2.1, h.2.2.1, h.2.2.2.1, h.2.2.2.2.1, h.2.2.2.2.2.1, h.2.2.2.2.2.2.1, h.2.2.2.2.2.2.2.1, h.2.2.2.2.2.2.2.2.1,
     h.2.2.2.2.2.2.2.2.2⟩
  decide +kernel

/-- the container validator looks at the children dict through `any`: the order of its entries is irrelevant -/
theorem validateVariantKeys_perm {o o' : Obj} {kvs kvs' : List (Str × PyVal)} (h : o.get kVariants = .dict kvs)
    (h' : o'.get kVariants = .dict kvs') (hp : kvs.Perm kvs') : validateVariantKeys o = validateVariantKeys o' := by
  unfold validateVariantKeys
  have e : "variants".toList = kVariants := rfl
  rw [e, h, h']
  simp only [hp.any_eq]

theorem kidSummary_summ (b : Bool) (v : Variant) :
    kidSummary b v = ((vsumm v).1, .dict [(kId, .str (vsumm v).2.1), (kUid, .str (vsumm v).2.2.1), (kType, .str (vsumm v).2.2.2),
      ("parent_none".toList, .bool b)]) := rfl

theorem TLEq.summaries (b : Bool) {l l' : List Variant} (h : TLEq l l') : (l.map (kidSummary b)).Perm (l'.map (kidSummary b)) := by
  have := h.summ.map (fun s : Str × Str × Str × Str => ((s.1, PyVal.dict [(kId, .str s.2.1), (kUid, .str s.2.2.1), (kType, .str s.2.2.2),
      ("parent_none".toList, .bool b)]) : Str × PyVal))
  rw [List.map_map, List.map_map] at this
  -- `kidSummary b` unfolds to that function after `vsumm`
  exact this

theorem variantObj_get_variants (pu : Option Str) (id uid name type : Str) (kids : List Variant) :
    (variantObj pu id uid name type kids).get kVariants = .dict (kids.map (kidSummary false)) := rfl

theorem variantObj_get_ne (pu : Option Str) (id uid name type : Str) (kids kids' : List Variant) (f : Str) (hf : f ≠ kVariants) :
    (variantObj pu id uid name type kids).get f = (variantObj pu id uid name type kids').get f := by
  have hb : (kVariants == f) = false := by simp [Ne.symm hf]
  simp only [Obj.get, variantObj, List.find?_cons, hb, List.find?_nil]

theorem tiVariantUid_congr {o o' : Obj} (h : ∀ f, f ≠ kVariants → o.get f = o'.get f) : tiVariantUid o = tiVariantUid o' := by
  unfold tiVariantUid
  rw [h "parent".toList (by decide), h "id".toList (by decide), h "uid".toList (by decide)]

theorem variant_validate_congr (pu : Option Str) (id uid name type : Str) {kids kids' : List Variant} (h : TLEq kids kids') :
    validateClass "treeinfo.Variant" (variantObj pu id uid name type kids)
      = validateClass "treeinfo.Variant" (variantObj pu id uid name type kids') := by
  apply validateClass_agree
  · intro f hf
    exact variantObj_get_ne pu id uid name type kids kids' f (class_inventory.variant_reads f hf)
  · intro n hn
    rcases class_inventory.variant_customs n hn with rfl | rfl
    · rw [customs_bound.variantUid]
      exact tiVariantUid_congr (fun f hf => variantObj_get_ne pu id uid name type kids kids' f hf)
    · rw [customs_bound.variantKeys]
      exact validateVariantKeys_perm (variantObj_get_variants ..) (variantObj_get_variants ..) (h.summaries false)

/-- the writer and the validator cannot tell the two nodes apart -/
def NodeSame (x y : Option Str × Variant) : Prop := secOf x = secOf y ∧ (NodeValid x → NodeValid y)

mutual
theorem TVEq.nodes (pu : Option Str) : ∀ {v v' : Variant}, TVEq v v' → PermR NodeSame (subV pu v) (subV pu v')
  | _, _, .mk key id uid name type hp hk => by
    rw [subV, subV]
    refine PermR.cons ⟨?_, fun h => ?_⟩ (TLEq.nodes (some uid) hk)
    · exact congrArg (Prod.mk _) (varOpts_congr pu (.mk key id uid name type hp hk))
    · exact (variant_validate_congr pu id uid name type hk).symm.trans h
theorem TLEq.nodes (pu : Option Str) : ∀ {l l' : List Variant}, TLEq l l' → PermR NodeSame (subVs pu l) (subVs pu l')
  | _, _, .nil => PermR.refl (fun _ => ⟨rfl, id⟩) _
  | _, _, .cons hv t => by
    rw [subVs, subVs]
    exact PermR.append (TVEq.nodes pu hv) (TLEq.nodes pu t)
  | _, _, .swap a b l => by
    simp only [subVs, ← List.append_assoc]
    exact PermR.append (PermR.of_perm (fun _ => ⟨rfl, id⟩) List.perm_append_comm) (PermR.refl (fun _ => ⟨rfl, id⟩) _)
  | _, _, .trans h1 h2 => PermR.trans (fun _ _ _ h1 h2 => ⟨h1.1.trans h2.1, h2.2 ∘ h1.2⟩) (TLEq.nodes pu h1) (TLEq.nodes pu h2)
end

theorem TLEq.flats (pu : Option Str) {l l' : List Variant} (h : TLEq l l') : (flatVs pu l).Perm (flatVs pu l') := by
  rw [flatVs_eq_map, flatVs_eq_map]
  exact (List.reverse_perm _).trans (((TLEq.nodes pu h).map_perm secOf fun _ _ r => r.1).trans (List.reverse_perm _).symm)

theorem TVEq.flat (pu : Option Str) : ∀ {v v' : Variant}, TVEq v v' → (flatV pu v).Perm (flatV pu v') := by
  intro v v' h
  simpa only [flatVs, List.nil_append] using TLEq.flats pu (.cons h .nil)

theorem TLEq.valids {l l' : List Variant} (h : TLEq l l') (pu : Option Str) (hv : ValidVs pu l) : ValidVs pu l' := by
  rw [validVs_iff_nodes] at hv ⊢
  intro y hy
  obtain ⟨x, hx, r⟩ := (TLEq.nodes pu h).mem_right y hy
  exact r.2 (hv x hx)

theorem TVEq.valid : ∀ {v v' : Variant}, TVEq v v' → ∀ pu, ValidV pu v → ValidV pu v' := by
  intro v v' h pu hv
  exact (TLEq.valids (.cons h .nil) pu (show ValidVs pu [v] from ⟨hv, trivial⟩)).1

theorem tops_validate_congr {l l' : List Variant} (h : TLEq l l') :
    validateClass "treeinfo.Variants" (variantsObj l) = validateClass "treeinfo.Variants" (variantsObj l') := by
  apply validateClass_agree
  · rw [class_inventory.variants_reads]; intro f hf; cases hf
  · intro n hn
    rw [class_inventory.variants_customs n hn, customs_bound.variantKeys]
    exact validateVariantKeys_perm (kvs := l.map (kidSummary true)) (kvs' := l'.map (kidSummary true)) rfl rfl (h.summaries true)

/-- `[tree]`: the platform set is not validated -/
theorem tree_validate_congr (t t' : Tree) (ha : t.arch = t'.arch) (hts : t.ts = t'.ts) :
    validateClass "treeinfo.Tree" (treeObj t) = validateClass "treeinfo.Tree" (treeObj t') := by
  apply validateClass_agree
  · intro f hf
    have hb : (kPlatforms == f) = false := by simp [Ne.symm (class_inventory.tree_reads f hf)]
    simp only [Obj.get, treeObj, List.find?_cons, hb, List.find?_nil, ha, hts]
  · rw [class_inventory.tree_customs]; intro n hn; cases hn

/-- `[checksums]`: the validator looks at the keys through `any` -/
theorem checksums_validate_congr {cs cs' : List (Str × Str × Str)} (h : cs.Perm cs') :
    validateClass "treeinfo.Checksums" (checksumsObj cs) = validateClass "treeinfo.Checksums" (checksumsObj cs') := by
  apply validateClass_agree
  · rw [class_inventory.checksums_reads]; intro f hf; cases hf
  · intro n hn
    rw [class_inventory.checksums_customs n hn, customs_bound.checksumPaths]
    unfold tiChecksumPaths
    have e : ∀ c : List (Str × Str × Str), (checksumsObj c).get "checksums".toList
        = .dict (c.map fun c => (c.1, PyVal.list [.str c.2.1, .str c.2.2])) := fun _ => rfl
    rw [e, e]
    simp only [(h.map _).any_eq]

theorem images_validate_congr {images images' : List (Str × List (Str × Str))} {plats plats' : List Str}
    (h : PermR ImgR images images') (hp : ∀ x, x ∈ plats ↔ x ∈ plats') :
    validateClass "treeinfo.Images" (imagesObj images plats) = validateClass "treeinfo.Images" (imagesObj images' plats') := by
  apply validateClass_agree
  · rw [class_inventory.images_reads]; intro f hf; cases hf
  · intro n hn
    rcases class_inventory.images_customs n hn with rfl | rfl
    · rw [customs_bound.imagePaths, imagePaths_eq, imagePaths_eq]
      rw [h.any_eq (fun p => p.2.any fun kv => Str.startsWith kv.2 ['/']) (fun a b r => r.2.any_eq)]
    · rw [customs_bound.imagePlatforms, imagePlatforms_eq, imagePlatforms_eq]
      have hany : ∀ x : Str, (plats.any fun q => x == q) = (plats'.any fun q => x == q) := by
        intro x
        rw [Bool.eq_iff_iff]
        simp only [List.any_eq_true, beq_iff_eq]
        exact ⟨fun ⟨q, hq, e⟩ => ⟨q, (hp q).mp hq, e⟩, fun ⟨q, hq, e⟩ => ⟨q, (hp q).mpr hq, e⟩⟩
      simp only [hany]
      rw [h.all_eq (fun p => plats'.any fun q => p.1 == q) (fun a b r => by rw [r.1])]

/-- the same tree content: scalar facts equal; the platform SET equal; the variant forest equal up to the order of every
container; checksum table and image tables rearranged -/
structure Same (t t' : TreeInfo) : Prop where
  headerVersion : t.headerVersion = t'.headerVersion
  release : t.release = t'.release
  isLayered : t.isLayered = t'.isLayered
  baseProduct : t.baseProduct = t'.baseProduct
  arch : t.tree.arch = t'.tree.arch
  ts : t.tree.ts = t'.tree.ts
  platforms : ∀ x, x ∈ t.tree.platforms ↔ x ∈ t'.tree.platforms
  variants : TLEq t.variants t'.variants
  checksums : t.checksums.Perm t'.checksums
  images : PermR ImgR t.images t'.images
  mainimage : t.mainimage = t'.mainimage
  instimage : t.instimage = t'.instimage
  discnum : t.discnum = t'.discnum
  totaldiscs : t.totaldiscs = t'.totaldiscs

theorem Same.refl (t : TreeInfo) : Same t t :=
  ⟨rfl, rfl, rfl, rfl, rfl, rfl, fun _ => Iff.rfl, TLEq.refl _, List.Perm.refl _,
   PermR.refl (fun _ => ⟨rfl, List.Perm.refl _⟩) _, rfl, rfl, rfl, rfl⟩

theorem ImgR.symm {p q : Str × List (Str × Str)} (h : ImgR p q) : ImgR q p := ⟨h.1.symm, h.2.symm⟩

theorem Same.symm {t t' : TreeInfo} (hs : Same t t') : Same t' t :=
  ⟨hs.headerVersion.symm, hs.release.symm, hs.isLayered.symm, hs.baseProduct.symm, hs.arch.symm, hs.ts.symm,
   fun x => (hs.platforms x).symm, hs.variants.symm, hs.checksums.symm, PermR.symm (fun _ _ => ImgR.symm) hs.images,
   hs.mainimage.symm, hs.instimage.symm, hs.discnum.symm, hs.totaldiscs.symm⟩

theorem platformsStr_congr {t t' : Tree} (ha : t.arch = t'.arch) (hp : ∀ x, x ∈ t.platforms ↔ x ∈ t'.platforms) :
    platformsStr t = platformsStr t' := by
  unfold platformsStr
  rw [ha, Str.sortDedup_congr (l₁ := t.platforms ++ [t'.arch]) (l₂ := t'.platforms ++ [t'.arch])]
  intro x
  simp only [List.mem_append, hp x]

theorem generalOpts_congr {t t' : TreeInfo} (hs : Same t t') (n : Int) (key : Str) {v v' : Variant} (hv : TVEq v v') :
    generalOpts t n key v = generalOpts t' n key v' := by
  have hg : ∀ f sf, generalPath t.tree.arch v.paths f sf = generalPath t'.tree.arch v'.paths f sf := by
    intro f sf
    unfold generalPath
    rw [hs.arch, hv.paths f, hv.paths sf]
  unfold generalOpts generalBase
  rw [hg, hg, sortS_perm_eq hs.variants.keys, hs.release, hs.arch, platformsStr_congr hs.arch hs.platforms]

theorem docList_CE {t t' : TreeInfo} (hs : Same t t') (hk : DictKeys t) (g : IniSec) : CE (docList t' g) (docList t g) := by
  unfold docList
  refine CE.append CE.rfl' (CE.append ?_ (CE.append ?_ (CE.append ?_ (CE.append ?_ (CE.append ?_ (CE.append ?_ (CE.append ?_ ?_)))))))
  -- the summands of `docList` after `[general]`, in its order
  · -- `[media]`
    exact CE.of_eq (by rw [hs.discnum, hs.totaldiscs])
  · -- `[stage2]`
    exact CE.of_eq (by rw [hs.mainimage, hs.instimage])
  · -- `[images-*]`
    exact imgFlat_CE hs.images hk.images
  · -- `[checksums]`
    exact checksums_CE hs.checksums hk.checksums
  · -- the variant sections
    exact CE.of_perm (hs.variants.flats none).symm
  · -- `[tree]`
    refine CE.of_eq ?_
    unfold treeOptsFull treeOpts
    rw [sortS_perm_eq hs.variants.uids, platformsStr_congr hs.arch hs.platforms, hs.arch, hs.ts]
  · -- `[base_product]`
    refine CE.of_eq ?_
    unfold baseL
    rw [hs.isLayered, hs.baseProduct]
  · -- `[release]`, `[header]`
    exact CE.of_eq (by rw [hs.release, hs.isLayered])

/-- the variant `[general]` describes is found in the rearranged tree too, and is the same content -/
def c8GetTransfer (t t' : TreeInfo) (mv : Option Str) : Prop :=
  ∀ key v, chosenKey t.variants mv = .ok key → getItem (key.length + 1) t.variants key = .ok v →
    ∃ v', getItem (key.length + 1) t'.variants key = .ok v' ∧ TVEq v v'

/-- `main_variant` is `None` or a top-level container key: found by key, keys are distinct -/
theorem c8_getTransfer_top {t t' : TreeInfo} {mv : Option Str} (hs : Same t t') (hk : (t.variants.map Variant.key).Nodup)
    (hmv : MainVariantTop t mv) : c8GetTransfer t t' mv := by
  intro key chosen hkey hchosen
  obtain ⟨v, hvm, hvk⟩ := chosen_top hmv hkey
  have hch : chosen = v := by
    have := getItem_top hk hvm hvk
    rw [hchosen] at this
    injection this
  subst hch
  obtain ⟨v', hvm', hvv⟩ := hs.variants.mem_left chosen hvm
  have hkn' : (t'.variants.map Variant.key).Nodup := hs.variants.keys.nodup_iff.mp hk
  exact ⟨v', getItem_top hkn' hvm' (by rw [← hvv.key_eq]; exact hvk), hvv⟩

theorem writeValid_same {t t' : TreeInfo} (hs : Same t t') (wv : WriteValid t) : WriteValid t' := by
  refine ⟨?_, ?_, ?_, ?_, ?_, hs.variants.valids none wv.forest, ?_, ?_, ?_, ?_⟩
  · rw [← hs.headerVersion]; exact wv.header
  · rw [← hs.release, ← hs.isLayered]; exact wv.release
  · intro hl
    rw [← hs.isLayered] at hl
    obtain ⟨p, hp, hvp⟩ := wv.base hl
    exact ⟨p, by rw [← hs.baseProduct]; exact hp, hvp⟩
  · rw [← tree_validate_congr t.tree t'.tree hs.arch hs.ts]; exact wv.tree
  · rw [← tops_validate_congr hs.variants]; exact wv.tops
  · rw [← checksums_validate_congr hs.checksums]; exact wv.checksums
  · intro he
    have he0 : t.images.isEmpty = false := (isEmpty_eq_of_length hs.images.length_eq).trans he
    rw [← images_validate_congr hs.images hs.platforms]
    exact wv.images he0
  · intro hon
    rw [← hs.mainimage, ← hs.instimage] at hon ⊢
    exact wv.stage2 hon
  · intro hon
    rw [← hs.discnum, ← hs.totaldiscs] at hon ⊢
    exact wv.media hon

theorem c8_perm_treeinfo_gen {t t' : TreeInfo} {mv : Option Str} {d : Ini} (hs : Same t t') (hk : DictKeys t)
    (hget : c8GetTransfer t t' mv) (h : serialize t mv = .ok d) :
    ∃ d', serialize t' mv = .ok d' ∧ IniText.render d' = IniText.render d := by
  refine serialize_transfer h (writeValid_same hs) ?_ ?_
  · rw [← hs.discnum, ← hs.totaldiscs]
    exact fun hon => ⟨hon, id⟩
  · intro n key v hn hkey hch
    obtain ⟨v', hch', hvv⟩ := hget key v hkey hch
    refine ⟨v', by rw [← hs.ts]; exact hn, by rw [← chosenKey_of_keys hs.variants.keys mv]; exact hkey, hch', ?_⟩
    rw [← generalOpts_congr hs n key hvv]
    exact docList_CE hs hk _

theorem perm_treeinfo {t t' : TreeInfo} {mv : Option Str} {d : Ini} (hs : Same t t') (hk : DictKeys t)
    (hmv : MainVariantTop t mv) (h : serialize t mv = .ok d) :
    ∃ d', serialize t' mv = .ok d' ∧ IniText.render d' = IniText.render d :=
  c8_perm_treeinfo_gen hs hk (c8_getTransfer_top hs hk.tops hmv) h

mutual
/-- among the children of every variant, keys are pairwise distinct and UIDs are pairwise distinct -/
def c8SibV : Variant → Prop
  | .mk _ _ _ _ _ _ kids => (kids.map Variant.key).Nodup ∧ (kids.map Variant.uid).Nodup ∧ c8SibL kids
def c8SibL : List Variant → Prop
  | [] => True
  | v :: vs => c8SibV v ∧ c8SibL vs
end

/-- siblings are told apart by their container key and by their UID, at every level of the forest -/
def c8Siblings (vs : List Variant) : Prop := (vs.map Variant.key).Nodup ∧ (vs.map Variant.uid).Nodup ∧ c8SibL vs

theorem c8SibL_mem : ∀ {l : List Variant}, c8SibL l → ∀ v ∈ l, c8SibV v
  | [], _, _, h => by cases h
  | w :: ws, hs, v, h => by
    simp only [c8SibL] at hs
    rcases List.mem_cons.mp h with rfl | h
    · exact hs.1
    · exact c8SibL_mem hs.2 v h

theorem c8SibV_kids {v : Variant} (h : c8SibV v) : c8Siblings v.kids := by
  cases v; simpa [c8SibV, c8Siblings, Variant.kids] using h

mutual
theorem c8_sibV_congr : ∀ {v v' : Variant}, TVEq v v' → c8SibV v → c8SibV v'
  | _, _, .mk _ _ _ _ _ _ hk, h => by
    simp only [c8SibV] at h ⊢
    exact ⟨hk.keys.nodup_iff.mp h.1, hk.uids.nodup_iff.mp h.2.1, c8_sibL_congr hk h.2.2⟩
theorem c8_sibL_congr : ∀ {l l' : List Variant}, TLEq l l' → c8SibL l → c8SibL l'
  | _, _, .nil, h => h
  | _, _, .cons hv t, h => by
    simp only [c8SibL] at h ⊢
    exact ⟨c8_sibV_congr hv h.1, c8_sibL_congr t h.2⟩
  | _, _, .swap _ _ _, h => by
    simp only [c8SibL] at h ⊢
    exact ⟨h.2.1, h.1, h.2.2⟩
  | _, _, .trans h1 h2, h => c8_sibL_congr h2 (c8_sibL_congr h1 h)
end

theorem c8_siblings_congr {l l' : List Variant} (h : TLEq l l') (hs : c8Siblings l) : c8Siblings l' :=
  ⟨h.keys.nodup_iff.mp hs.1, h.uids.nodup_iff.mp hs.2.1, c8_sibL_congr h hs.2.2⟩

theorem c8_find_some (f : Variant → Str) (hf : ∀ v v', TVEq v v' → f v = f v') {l l' : List Variant} (h : TLEq l l')
    (hn : (l'.map f).Nodup) {k : Str} {v : Variant} (hfind : l.find? (fun x => f x == k) = some v) :
    ∃ v', l'.find? (fun x => f x == k) = some v' ∧ TVEq v v' := by
  have hm := List.mem_of_find?_eq_some hfind
  have hk := List.find?_some hfind
  obtain ⟨v', hm', hvv⟩ := h.mem_left v hm
  exact ⟨v', find_of_mem_nodup f l' v' k hn hm' (by rw [← hf v v' hvv]; simpa using hk), hvv⟩

theorem c8_find_none (f : Variant → Str) (hf : ∀ v v', TVEq v v' → f v = f v') {l l' : List Variant} (h : TLEq l l')
    (hn : (l.map f).Nodup) {k : Str} (hfind : l.find? (fun x => f x == k) = none) : l'.find? (fun x => f x == k) = none := by
  cases hfind' : l'.find? (fun x => f x == k) with
  | none => rfl
  | some v' =>
    obtain ⟨v, h1, _⟩ := c8_find_some f (fun a b e => (hf b a e.symm).symm) h.symm hn hfind'
    rw [hfind] at h1; cases h1

theorem c8_getItem_congr (fuel : Nat) (l : List Variant) (name : Str) : ∀ {l' : List Variant}, TLEq l l' → c8Siblings l → ∀ (v : Variant),
    getItem fuel l name = .ok v → ∃ v', getItem fuel l' name = .ok v' ∧ TVEq v v' := by
  fun_induction getItem fuel l name with
  -- the cases are the leaves of `getItem` in the order of its text; those that return an error hold vacuously
  | case1 => exact fun _ _ _ h => nomatch h
  | case2 f vs name v hfind =>
    -- `name` is a key
    intro l' hl hs v1 e
    cases e
    obtain ⟨v', h', hvv⟩ := c8_find_some Variant.key (fun _ _ e => e.key_eq) hl (hl.keys.nodup_iff.mp hs.1) hfind
    exact ⟨v', by rw [getItem, h'], hvv⟩
  | case3 f vs name hk hdash v hu =>
    -- no key, dashed, `name` is the UID of a sibling
    intro l' hl hs v1 e
    cases e
    obtain ⟨v', h', hvv⟩ := c8_find_some Variant.uid (fun _ _ e => e.uid_eq) hl (hl.uids.nodup_iff.mp hs.2.1) hu
    exact ⟨v', by rw [getItem, c8_find_none Variant.key (fun _ _ e => e.key_eq) hl hs.1 hk, if_pos hdash, h'], hvv⟩
  | case4 f vs name hk hdash hu head tail hsplit c hc ih =>
    -- neither: split at the first dash, `head` is the key of `c`, go on below `c` with `tail`
    intro l' hl hs v h
    obtain ⟨c', hc', hcc⟩ := c8_find_some Variant.key (fun _ _ e => e.key_eq) hl (hl.keys.nodup_iff.mp hs.1) hc
    obtain ⟨v', h', hvv⟩ := ih hcc.kids (c8SibV_kids (c8SibL_mem hs.2.2 c (List.mem_of_find?_eq_some hc))) v h
    refine ⟨v', ?_, hvv⟩
    rw [getItem, c8_find_none Variant.key (fun _ _ e => e.key_eq) hl hs.1 hk, if_pos hdash,
      c8_find_none Variant.uid (fun _ _ e => e.uid_eq) hl hs.2.1 hu, hsplit]
    simp only [hc']
    exact h'
  | case5 => exact fun _ _ _ h => nomatch h
  | case6 => exact fun _ _ _ h => nomatch h
  | case7 => exact fun _ _ _ h => nomatch h

theorem c8_getTransfer_sib {t t' : TreeInfo} (mv : Option Str) (hs : Same t t') (hsib : c8Siblings t.variants) :
    c8GetTransfer t t' mv :=
  fun key v _ hget => c8_getItem_congr (key.length + 1) _ key hs.variants hsib v hget

theorem c8_dictKeys_congr {t t' : TreeInfo} (hs : Same t t') (hk : DictKeys t) : DictKeys t' := by
  refine ⟨hs.variants.keys.nodup_iff.mp hk.tops, (hs.checksums.map (·.1)).nodup_iff.mp hk.checksums, ?_⟩
  intro q hq
  obtain ⟨p, hp, hr⟩ := hs.images.mem_right q hq
  exact (hr.2.map (·.1)).nodup_iff.mp (hk.images p hp)

theorem c8_mainVariantTop_congr {t t' : TreeInfo} {mv : Option Str} (hs : Same t t') (h : MainVariantTop t mv) :
    MainVariantTop t' mv := by
  intro m hm
  obtain ⟨v, hv, hk⟩ := h m hm
  obtain ⟨v', hv', hvv⟩ := hs.variants.mem_left v hv
  exact ⟨v', hv', by rw [← hvv.key_eq]; exact hk⟩

end TI
end PM
