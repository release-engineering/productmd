import ProductMD.Proofs.Builders
import ProductMD.Proofs.JEq
/-!
C08 for the three manifest builders and for whole HISTORIES of their `add` calls, generic part.  Every `add` of the model
(`Model/Builders.lean`) is `setPathS leaf path state` after checks that do not touch the state.  What the history theorem needs of a
state update is said as three properties of state transformers: `Keeps NodupAll` (dict keys stay distinct), `Resp` (the update
cannot see the order of dict entries, `JEq`) and `Comm` (two updates commute up to `JEq` and leave each other's outcome alone); `sub`
and `seqL` preserve them, hence `setPathS` does.  The main lemma is `setPathS_commP`: two updates at DIFFERENT addresses
`[variant][arch][key]` commute whatever their leaf updates do, two at ONE address when their leaf updates do.
`SwapEq ind` is the equivalence on histories generated by swapping two ADJACENT independent calls; every rearrangement that
keeps the relative order of the calls of each order-sensitive cell is reachable by such swaps (`SwapEq.of_sameOrder`: the
projection characterisation of trace equivalence).  For a step function whose calls are `Keeps NodupAll`, `Resp` and, when independent, `Comm`
(`Hist.Commutes`), `SwapEq` histories build `JEq` mappings and every call carries its outcome along (`Hist.run_of_swapEq`,
`Hist.perm_history`); a step function of the form the three `add`s have is such a function, given what its leaf update does
(`Hist.commutes_of_setPath`).
-/
namespace PM.Mf
open PM PyVal

mutual
/-- dict keys pairwise distinct, in the mapping and in every dict reached through dict values; what stands in a list is not looked at
(what every state built by `put` from `{}` satisfies) -/
def NodupAll : PyVal → Prop
  | .dict kvs => (kvs.map (·.1)).Nodup ∧ NodupAllK kvs
  | _ => True
def NodupAllK : List (Str × PyVal) → Prop
  | [] => True
  | (_, v) :: rest => NodupAll v ∧ NodupAllK rest
end

theorem nodupAllK_iff : ∀ kvs : Kvs, NodupAllK kvs ↔ ∀ kv ∈ kvs, NodupAll kv.2
  | [] => by simp [NodupAllK]
  | (_, _) :: rest => by simp [NodupAllK, nodupAllK_iff rest]

theorem put_jeqD {l l' : Kvs} (hd : JEqD l l') (hn : (l.map (·.1)).Nodup) (k : Str) {v w : PyVal} (hvw : JEq v w) :
    JEqD (put l k v) (put l' k w) :=
  .ext (put_keys_nodup _ _ _ hn) (put_keys_nodup _ _ _ (hd.nodup_right hn)) fun k' => by
    rw [lookup_put, lookup_put]
    split
    · exact hvw
    · exact lookup_jeqD hd hn k'

theorem put_comm_jeqD (kvs : Kvs) (hn : (kvs.map (·.1)).Nodup) (k1 k2 : Str) (a b : PyVal) (hne : k1 ≠ k2) :
    JEqD (put (put kvs k1 a) k2 b) (put (put kvs k2 b) k1 a) :=
  .ext (put_keys_nodup _ _ _ (put_keys_nodup _ _ _ hn)) (put_keys_nodup _ _ _ (put_keys_nodup _ _ _ hn)) fun k' => by
    simp only [lookup_put]
    split
    · rename_i e1
      split
      · rename_i e2
        exact absurd (e2.symm.trans e1) hne
      · exact OptJEq.refl _
    · exact OptJEq.refl _

theorem nodupAll_dict_put (kvs : Kvs) (k : Str) (v : PyVal) (h : NodupAll (.dict kvs)) (hv : NodupAll v) :
    NodupAll (.dict (put kvs k v)) :=
  ⟨put_keys_nodup _ _ _ h.1,
   (nodupAllK_iff _).mpr fun x hx => (mem_put hx).elim ((nodupAllK_iff _).mp h.2 x) (fun e => e ▸ hv)⟩

theorem nodupAll_empty : NodupAll (.dict []) := ⟨List.nodup_nil, trivial⟩

theorem nodupAll_getD (kvs : Kvs) (k : Str) (d : PyVal) (h : NodupAll (.dict kvs)) (hd : NodupAll d) :
    NodupAll ((lookup kvs k).getD d) :=
  getD_elim (fun _ hl => (nodupAllK_iff kvs).mp h.2 _ (mem_of_lookup hl)) hd

/-- the update cannot tell apart two mappings that differ in the order of dict entries: same outcome, same content afterwards -/
def Resp (h : PyVal → PyVal × Out) : Prop :=
  ∀ x y, NodupAll x → JEq x y → JEq (h x).1 (h y).1 ∧ (h x).2 = (h y).2

/-- the two updates in either order leave the same content, and neither changes the other's outcome -/
def Comm (h1 h2 : PyVal → PyVal × Out) : Prop :=
  ∀ x, NodupAll x → JEq (h2 (h1 x).1).1 (h1 (h2 x).1).1 ∧ (h2 (h1 x).1).2 = (h2 x).2 ∧ (h1 (h2 x).1).2 = (h1 x).2

theorem sub_keeps (nd : Err) {d : PyVal} (k : Str) {h : PyVal → PyVal × Out} (hd : NodupAll d) (hh : Keeps NodupAll h) :
    Keeps NodupAll (sub nd d k h) := by
  intro x hx
  cases x with
  | dict e => exact nodupAll_dict_put _ _ _ hx (hh _ (nodupAll_getD e k d hx hd))
  | _ => exact hx

theorem sub_resp (nd : Err) {d : PyVal} (k : Str) {h : PyVal → PyVal × Out} (hd : NodupAll d) (hh : Resp h) :
    Resp (sub nd d k h) := by
  intro x y hx hj
  rcases PyVal.dict_or_not x with ⟨e, rfl⟩ | hv
  · obtain ⟨e', rfl, hde⟩ := hj.dict_inv
    obtain ⟨h2, h3⟩ := hh _ _ (nodupAll_getD e k d hx hd) ((lookup_jeqD hde hx.1 k).getD d)
    exact ⟨.dict (put_jeqD hde hx.1 k h2) (put_keys_nodup _ _ _ hx.1), h3⟩
  · rw [sub_nondict nd d k h x hv, sub_nondict nd d k h y (hj.notDict hv)]
    exact ⟨hj, rfl⟩

/-- under different keys of one dict: whatever the two statements do -/
theorem sub_comm_ne (n1 n2 : Err) (d1 d2 : PyVal) {k1 k2 : Str} (h1 h2 : PyVal → PyVal × Out) (hne : k1 ≠ k2) :
    Comm (sub n1 d1 k1 h1) (sub n2 d2 k2 h2) := by
  intro x hx
  cases x with
  | dict e =>
    simp only [sub_dict, lookup_put_other _ _ _ _ hne, lookup_put_other _ _ _ _ (Ne.symm hne), and_self, and_true]
    exact .dict (put_comm_jeqD e hx.1 k1 k2 _ _ hne) (put_keys_nodup _ _ _ (put_keys_nodup _ _ _ hx.1))
  | _ => exact ⟨.refl _, rfl, rfl⟩

/-- under one key: when the two statements commute on what is stored there -/
theorem sub_comm_same (nd : Err) {d : PyVal} (k : Str) {h1 h2 : PyVal → PyVal × Out} (hd : NodupAll d) (hc : Comm h1 h2) :
    Comm (sub nd d k h1) (sub nd d k h2) := by
  intro x hx
  cases x with
  | dict e =>
    simp only [sub_dict, lookup_put_same, Option.getD_some, put_put_same]
    obtain ⟨c1, c2, c3⟩ := hc _ (nodupAll_getD e k d hx hd)
    exact ⟨.dict (put_jeqD (JEqD.refl e) hx.1 k c1) (put_keys_nodup _ _ _ hx.1), c2, c3⟩
  | _ => exact ⟨.refl _, rfl, rfl⟩

theorem setPathS_resp {f : PyVal → PyVal × Out} (hf : Resp f) : ∀ ks, Resp (setPathS f ks)
  | [] => setPathS_nil f ▸ hf
  | k :: ks => setPathS_cons f k ks ▸ sub_resp _ k nodupAll_empty (setPathS_resp hf ks)

/-- `Resp f → Resp (setPathS f p)` with both `Resp` written out -/
theorem setPathS_jeq (f : PyVal → PyVal × Out)
    (hf : ∀ x y, NodupAll x → JEq x y → JEq (f x).1 (f y).1 ∧ (f x).2 = (f y).2) :
    ∀ (p : List Str) (s s' : PyVal), NodupAll s → JEq s s' →
      JEq (setPathS f p s).1 (setPathS f p s').1 ∧ (setPathS f p s).2 = (setPathS f p s').2 :=
  setPathS_resp hf

/-- **two state updates commute up to dict order, and neither changes the other's outcome** (`P`: with a proviso for equal paths): at
different addresses of one length whatever their leaf updates do (an update at a prefix of another path would see what that one
wrote); at one address when the leaf updates commute -/
theorem setPathS_commP (f1 f2 : PyVal → PyVal × Out) : ∀ p1 p2 : List Str, p1.length = p2.length → (p1 = p2 → Comm f1 f2) →
    Comm (setPathS f1 p1) (setPathS f2 p2)
  | [], [], _, h => by
    rw [setPathS_nil, setPathS_nil]
    exact h rfl
  | [], _ :: _, hl, _ => by cases hl
  | _ :: _, [], hl, _ => by cases hl
  | k1 :: q1, k2 :: q2, hl, h => by
    rw [setPathS_cons, setPathS_cons]
    by_cases hk : k1 = k2
    · subst hk
      exact sub_comm_same _ k1 nodupAll_empty (setPathS_commP f1 f2 q1 q2 (by simpa using hl) fun e => h (by rw [e]))
    · exact sub_comm_ne _ _ _ _ _ _ hk

theorem setPathS_comm (f1 f2 : PyVal → PyVal × Out) : ∀ (p1 p2 : List Str), p1.length = p2.length → p1 ≠ p2 →
    ∀ s : PyVal, NodupAll s →
    JEq (setPathS f2 p2 (setPathS f1 p1 s).1).1 (setPathS f1 p1 (setPathS f2 p2 s).1).1 :=
  fun p1 p2 hl hne s hs => (setPathS_commP f1 f2 p1 p2 hl (fun e => absurd e hne) s hs).1

/-- `Comm f1 f2 → Comm (setPathS f1 p) (setPathS f2 p)` with both `Comm` written out -/
theorem setPathS_comm_same (f1 f2 : PyVal → PyVal × Out)
    (hf : ∀ x, NodupAll x → JEq (f2 (f1 x).1).1 (f1 (f2 x).1).1 ∧ (f2 (f1 x).1).2 = (f2 x).2 ∧ (f1 (f2 x).1).2 = (f1 x).2) :
    ∀ (p : List Str) (s : PyVal), NodupAll s →
      JEq (setPathS f2 p (setPathS f1 p s).1).1 (setPathS f1 p (setPathS f2 p s).1).1 ∧
      (setPathS f2 p (setPathS f1 p s).1).2 = (setPathS f2 p s).2 ∧
      (setPathS f1 p (setPathS f2 p s).1).2 = (setPathS f1 p s).2 :=
  fun p => setPathS_commP f1 f2 p p rfl fun _ => hf

theorem setPathS_out_other (f1 f2 : PyVal → PyVal × Out) : ∀ (p1 p2 : List Str), p1.length = p2.length → p1 ≠ p2 →
    ∀ s : PyVal, (setPathS f1 p1 (setPathS f2 p2 s).1).2 = (setPathS f1 p1 s).2
  | [], [], _, hne, _ => absurd rfl hne
  | [], _ :: _, hl, _, _ => by cases hl
  | _ :: _, [], hl, _, _ => by cases hl
  | k1 :: q1, k2 :: q2, hl, hne, s => by
    rcases PyVal.dict_or_not s with ⟨kvs, rfl⟩ | hv
    · rw [setPathS_dict_cons f2, setPathS_dict_cons f1, setPathS_dict_cons f1]
      simp only
      by_cases hk : k1 = k2
      · subst hk
        have hq : q1 ≠ q2 := fun e => hne (by rw [e])
        rw [lookup_put_same]
        simp only [Option.getD_some]
        exact setPathS_out_other f1 f2 q1 q2 (by simpa using hl) hq _
      · rw [lookup_put_other _ _ _ _ hk]
    · rw [setPathS_nondict_cons f2 k2 q2 s hv]

theorem seqL_resp {f g : PyVal → PyVal × Out} (hn : Keeps NodupAll f) (hf : Resp f) (hg : Resp g) : Resp (seqL f g) := by
  intro x y hx hj
  obtain ⟨h2, h3⟩ := hf x y hx hj
  unfold seqL
  rw [← h3]
  split
  · exact hg _ _ (hn x hx) h2
  · exact ⟨h2, rfl⟩

theorem const_resp (v : PyVal) : Resp (fun _ => (v, .ok ())) := fun _ _ _ _ => ⟨.refl v, rfl⟩

theorem appendL_keeps (l : List PyVal) : Keeps NodupAll (appendL l) := by
  intro x hx
  cases x <;> first | exact hx | trivial

theorem appendL_resp (l : List PyVal) : Resp (appendL l) := by
  intro x y hx hj
  rcases PyVal.list_or_not x with ⟨old, rfl⟩ | ho
  · obtain ⟨old', rfl, hll⟩ := hj.list_inv
    exact ⟨.list (hll.append_right l), rfl⟩
  · have e1 : ∀ z : PyVal, (∀ xs, z ≠ .list xs) → appendL l z = (z, .error .attributeError) := fun z hz => by
      cases z <;> first | rfl | exact absurd rfl (hz _)
    rw [e1 x ho, e1 y (hj.notList ho)]
    exact ⟨hj, rfl⟩

end PM.Mf

namespace PM

namespace SwapEq
variable {α : Type} {ind : α → α → Prop}

theorem perm {l l' : List α} (h : SwapEq ind l l') : l.Perm l' := by
  induction h with
  | refl => exact List.Perm.refl _
  | cons a _ ih => exact List.Perm.cons a ih
  | swap a b l _ => exact List.Perm.swap b a l
  | trans _ _ ih1 ih2 => exact ih1.trans ih2

theorem symm (hs : ∀ a b, ind a b → ind b a) {l l' : List α} (h : SwapEq ind l l') : SwapEq ind l' l := by
  induction h with
  | refl => exact .refl _
  | cons a _ ih => exact .cons a ih
  | swap a b l hi => exact .swap b a l (hs a b hi)
  | trans _ _ ih1 ih2 => exact .trans ih2 ih1

theorem bubble (a : α) : ∀ (u v : List α), (∀ x ∈ u, ind a x) → SwapEq ind (a :: (u ++ v)) (u ++ a :: v)
  | [], v, _ => .refl _
  | x :: u, v, h =>
    .trans (.swap a x (u ++ v) (h x (by simp))) (.cons x (bubble a u v (fun y hy => h y (by simp [hy]))))

theorem of_perm_pairwise (hs : ∀ {a b}, ind a b → ind b a) {l l' : List α} (hp : l.Perm l') (hi : l.Pairwise ind) :
    SwapEq ind l l' := by
  induction hp with
  | nil => exact .refl _
  | cons x _ ih => exact .cons x (ih (List.pairwise_cons.mp hi).2)
  | swap x y l => exact .swap y x l ((List.pairwise_cons.mp hi).1 x (by simp))
  | trans h1 _ ih1 ih2 => exact .trans (ih1 hi) (ih2 (hi.perm h1 hs))

end SwapEq

theorem CellIndep.ne {α γ : Type} {cell : α → Option γ} {a b : α} {x y : γ} (h : CellIndep cell a b)
    (ha : cell a = some x) (hb : cell b = some y) : x ≠ y := by
  rcases h with h | h | h
  · rw [ha] at h; cases h
  · rw [hb] at h; cases h
  · exact fun e => h (by rw [ha, hb, e])

theorem CellIndep.symm {α γ : Type} {cell : α → Option γ} {a b : α} (h : CellIndep cell a b) : CellIndep cell b a :=
  h.elim (fun h => .inr (.inl h)) fun h => h.elim .inl fun h => .inr (.inr h.symm)

/-- **every order-respecting rearrangement is a sequence of swaps of adjacent independent calls**: the head `a` of `h` stands
in `h'` behind a prefix `u` none of whose calls writes `a`'s cell (the first call of that cell in `h'` is `a`); recurse on the
tails `t` and `u ++ v`, then bubble `a` over `u`. -/
theorem SwapEq.of_sameOrder {α γ : Type} [DecidableEq γ] (cell : α → Option γ) :
    ∀ (h h' : List α), SameOrder cell h h' → SwapEq (CellIndep cell) h h'
  | [], h', ⟨hp, _⟩ => by rw [List.Perm.nil_eq hp]; exact .refl _
  | a :: t, h', ⟨hp, hf⟩ => by
    cases hc : cell a with
    | none =>
      have hm : a ∈ h' := hp.subset (by simp)
      obtain ⟨u, v, rfl⟩ := List.append_of_mem hm
      have hp' : t.Perm (u ++ v) := List.Perm.cons_inv (hp.trans List.perm_middle)
      have hf' : ∀ c : γ, t.filter (fun x => cell x == some c) = (u ++ v).filter (fun x => cell x == some c) := by
        intro c
        have := hf c
        simpa [List.filter_cons, List.filter_append, hc] using this
      exact .trans (.cons a (SwapEq.of_sameOrder cell t (u ++ v) ⟨hp', hf'⟩))
        (SwapEq.bubble a u v (fun x _ => .inl hc))
    | some c =>
      have h1 := hf c
      have hca : (cell a == some c) = true := by simp [hc]
      simp only [List.filter_cons, hca, if_true] at h1
      obtain ⟨u, v, rfl, hu, _, hv⟩ := List.filter_eq_cons_iff.mp h1.symm
      have hp' : t.Perm (u ++ v) := List.Perm.cons_inv (hp.trans List.perm_middle)
      have hf' : ∀ c' : γ, t.filter (fun x => cell x == some c') = (u ++ v).filter (fun x => cell x == some c') := by
        intro c'
        have := hf c'
        by_cases e : c' = c
        · subst e
          have hu' : u.filter (fun x => cell x == some c') = [] := List.filter_eq_nil_iff.mpr (fun x hx => by simpa using hu x hx)
          simp only [List.filter_append, hu', List.nil_append]
          exact hv.symm
        · have hn : (cell a == some c') = false := by simp [hc]; exact fun e' => e e'.symm
          simpa [List.filter_cons, List.filter_append, hn] using this
      refine .trans (.cons a (SwapEq.of_sameOrder cell t (u ++ v) ⟨hp', hf'⟩)) (SwapEq.bubble a u v (fun x hx => ?_))
      refine .inr (.inr ?_)
      rw [hc]
      intro e
      exact hu x hx (by simp [← e])
termination_by h => h.length

/-- converse of `SwapEq.of_sameOrder` -/
theorem SwapEq.sameOrder {α γ : Type} [DecidableEq γ] (cell : α → Option γ) {h h' : List α}
    (hs : SwapEq (CellIndep cell) h h') : SameOrder cell h h' := by
  refine ⟨hs.perm, fun c => ?_⟩
  induction hs with
  | refl => rfl
  | cons a _ ih => simp only [List.filter_cons, ih]
  | swap a b l hi =>
    simp only [List.filter_cons]
    by_cases ha : cell a = some c
    · by_cases hb : cell b = some c
      · exact absurd rfl (hi.ne ha hb)
      · simp [ha, hb]
    · by_cases hb : cell b = some c <;> simp [ha, hb]
  | trans _ _ ih1 ih2 => exact ih1.trans ih2

theorem SameOrder.of_perm_pairwise {α γ : Type} [DecidableEq γ] {cell : α → Option γ} {h h' : List α} (hp : h.Perm h')
    (hi : h.Pairwise (CellIndep cell)) : SameOrder cell h h' :=
  SwapEq.sameOrder cell (SwapEq.of_perm_pairwise CellIndep.symm hp hi)

namespace Hist
variable {α : Type}

/-- the mapping after a history of calls (refused ones included: they return the mapping they leave) -/
def run (step : PyVal → α → PyVal × Mf.Out) (s : PyVal) (h : List α) : PyVal := h.foldl (fun st a => (step st a).1) s

/-- every call of the history with its outcome -/
def trace (step : PyVal → α → PyVal × Mf.Out) : PyVal → List α → List (α × Mf.Out)
  | _, [] => []
  | s, a :: rest => (a, (step s a).2) :: trace step (step s a).1 rest

theorem trace_eq_map (step : PyVal → α → PyVal × Mf.Out) (P : PyVal → Prop) (out : α → Mf.Out)
    (hstep : ∀ s a, P s → P (step s a).1 ∧ (step s a).2 = out a) :
    ∀ (h : List α) (s : PyVal), P s → trace step s h = h.map fun a => (a, out a)
  | [], _, _ => rfl
  | a :: t, s, hs => by simp only [trace, List.map_cons, (hstep s a hs).2, trace_eq_map step P out hstep t _ (hstep s a hs).1]

/-- what the history theorem needs of a builder: every call is a state update that keeps dict keys distinct and respects `JEq`, and
two independent calls commute -/
structure Commutes (step : PyVal → α → PyVal × Mf.Out) (ind : α → α → Prop) : Prop where
  keeps : ∀ a, Mf.Keeps Mf.NodupAll (step · a)
  resp : ∀ a, Mf.Resp (step · a)
  comm : ∀ a b, ind a b → Mf.Comm (step · a) (step · b)

variable {step : PyVal → α → PyVal × Mf.Out} {ind : α → α → Prop}

theorem run_cons (s : PyVal) (a : α) (h : List α) : run step s (a :: h) = run step (step s a).1 h := rfl

theorem trace_fst (s : PyVal) (h : List α) : (trace step s h).map (·.1) = h := by
  induction h generalizing s with
  | nil => rfl
  | cons a t ih => simp [trace, ih]

theorem congr_run (c : Commutes step ind) : ∀ (h : List α) (s s' : PyVal), Mf.NodupAll s → JEq s s' →
    JEq (run step s h) (run step s' h) ∧ trace step s h = trace step s' h
  | [], _, _, _, hj => ⟨hj, rfl⟩
  | a :: t, s, s', hs, hj => by
    have h1 := c.resp a s s' hs hj
    have h2 := congr_run c t _ _ (c.keeps a s hs) h1.1
    simp only [run_cons, trace]
    exact ⟨h2.1, by rw [h1.2, h2.2]⟩

theorem run_of_swapEq (c : Commutes step ind) {h h' : List α} (hs : SwapEq ind h h') :
    ∀ s, Mf.NodupAll s → JEq (run step s h) (run step s h') ∧ SwapEq (fun x y => ind x.1 y.1) (trace step s h) (trace step s h') := by
  induction hs with
  | refl l => intro s _; exact ⟨.refl _, .refl _⟩
  | cons a _ ih =>
    intro s hn
    have := ih _ (c.keeps a s hn)
    exact ⟨this.1, .cons _ this.2⟩
  | swap a b l hi =>
    intro s hn
    obtain ⟨hj, ob, oa⟩ := c.comm a b hi s hn
    have hn2 : Mf.NodupAll (step (step s a).1 b).1 := c.keeps b _ (c.keeps a s hn)
    have := congr_run c l _ _ hn2 hj
    refine ⟨this.1, ?_⟩
    simp only [trace]
    rw [ob, oa, this.2]
    exact .swap _ _ _ hi
  | trans _ _ ih1 ih2 =>
    intro s hn
    exact ⟨(ih1 s hn).1.trans (ih2 s hn).1, .trans (ih1 s hn).2 (ih2 s hn).2⟩

/-- the history theorem; second conjunct: every call has the same outcome in both histories (a refused call is refused in both) -/
theorem perm_history {γ : Type} [DecidableEq γ] {cell : α → Option γ} (c : Commutes step (CellIndep cell)) {h h' : List α}
    (ho : SameOrder cell h h') (s : PyVal) (hs : Mf.NodupAll s) :
    JEq (run step s h) (run step s h') ∧
    SameOrder (fun x : α × Mf.Out => cell x.1) (trace step s h) (trace step s h') := by
  have := run_of_swapEq c (SwapEq.of_sameOrder cell h h' ho) s hs
  -- `CellIndep cell` of the calls is `CellIndep (cell ·.1)` of the annotated calls, by unfolding
  exact ⟨this.1, SwapEq.sameOrder (fun x : α × Mf.Out => cell x.1) this.2⟩

/-- **the form of the three `add`s** (`Rpms.add_eq`, `Modules.add_eq`, `ExtraFiles.add_eq`): refused by a check that does not
look at the mapping, or one `setPathS` with the path and the leaf update that the accepted plan names.  The leaf updates need
commute only for independent calls that meet at ONE address (`hswap`): at different addresses of one length `setPathS_commP` asks
nothing of them -/
theorem commutes_of_setPath {π : Type} {check : α → Except Err π} {path : α → π → List Str}
    {leaf : α → π → PyVal → PyVal × Mf.Out}
    (herr : ∀ s a e, check a = .error e → step s a = (s, .error e))
    (hok : ∀ s a p, check a = .ok p → step s a = Mf.setPathS (leaf a p) (path a p) s)
    (n : Nat) (hlen : ∀ a p, (path a p).length = n)
    (hinv : ∀ a p, check a = .ok p → Mf.Keeps Mf.NodupAll (leaf a p)) (hcongr : ∀ a p, check a = .ok p → Mf.Resp (leaf a p))
    (hswap : ∀ a b pa pb, check a = .ok pa → check b = .ok pb → ind a b → path a pa = path b pb →
      Mf.Comm (leaf a pa) (leaf b pb)) :
    Commutes step ind := by
  have herr' : ∀ a e, check a = .error e → (step · a) = fun s => (s, .error e) := fun a e hc => funext fun s => herr s a e hc
  have hok' : ∀ a p, check a = .ok p → (step · a) = Mf.setPathS (leaf a p) (path a p) := fun a p hc => funext fun s => hok s a p hc
  refine ⟨fun a => ?_, fun a => ?_, fun a b hi => ?_⟩
  · cases hc : check a with
    | error e => rw [herr' a e hc]; exact fun _ hs => hs
    | ok p => rw [hok' a p hc]; exact Mf.setPathS_keeps (fun k _ => Mf.sub_keeps _ k Mf.nodupAll_empty) (hinv a p hc) _
  · cases hc : check a with
    | error e => rw [herr' a e hc]; exact fun _ _ _ hj => ⟨hj, rfl⟩
    | ok p => rw [hok' a p hc]; exact Mf.setPathS_resp (hcongr a p hc) _
  · cases ha : check a with
    | error e => rw [herr' a e ha]; exact fun _ _ => ⟨.refl _, rfl, rfl⟩
    | ok pa =>
      cases hb : check b with
      | error e => rw [herr' b e hb]; exact fun _ _ => ⟨.refl _, rfl, rfl⟩
      | ok pb =>
        rw [hok' a pa ha, hok' b pb hb]
        exact Mf.setPathS_commP _ _ _ _ ((hlen a pa).trans (hlen b pb).symm) (hswap a b pa pb ha hb hi)

end Hist
end PM
