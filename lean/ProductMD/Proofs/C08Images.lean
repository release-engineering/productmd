import ProductMD.Proofs.ImagesLoadExact
import ProductMD.Proofs.RulesJEq
import ProductMD.Proofs.Assoc
/-!
C08 for images manifests: the document `Images.serialize` builds is a function of the *multiset of filings*
`(variant, arch, image content)`; with pairwise distinct paths inside every cell the per-cell sort by path makes the order
of every JSON array canonical, and `sort_keys` does the rest (`JEq`).

`serializeCells` is a fold of `outAppend` over the filings (`Proofs/ImagesSerialize.lean`); the table it builds is
observed through `cellOf o v a` (the array written for cell `(v, a)`), which is the sorted insertion of the cell's filings;
two tables with distinct keys, no empty containers and `JEqL`-related cells are the same content.
-/
namespace PM.Img
open PM PM.PyOps PM.Spec

theorem Image.Same.refl (i : Image) : Image.Same i i :=
  ⟨.refl _, .refl _, .refl _, .refl _, .refl _, .refl _, .refl _, .refl _, .refl _, .refl _, .refl _, .refl _, .refl _, .refl _, .refl _⟩

theorem Image.Same.objEq {i j : Image} (h : Image.Same i j) : ObjEq i.toObj j.toObj :=
  .cons ⟨rfl, h.path⟩ (.cons ⟨rfl, h.mtime⟩ (.cons ⟨rfl, h.size⟩ (.cons ⟨rfl, h.volume_id⟩ (.cons ⟨rfl, h.type⟩
  (.cons ⟨rfl, h.format⟩ (.cons ⟨rfl, h.arch⟩ (.cons ⟨rfl, h.disc_number⟩ (.cons ⟨rfl, h.disc_count⟩
  (.cons ⟨rfl, h.checksums⟩ (.cons ⟨rfl, h.implant_md5⟩ (.cons ⟨rfl, h.bootable⟩ (.cons ⟨rfl, h.subvariant⟩
  (.cons ⟨rfl, h.unified⟩ (.cons ⟨rfl, h.additional_variants⟩ .nil))))))))))))))

/-- no validator of `Image` is hand-bound -/
theorem image_rules_noCustom : Gen.rules_images_Image.flat.flatMap Rule.customNames = [] := by decide

theorem Image.Same.validate_eq {i j : Image} (h : Image.Same i j) : i.validate = j.validate := by
  rw [validate_unfold, validate_unfold]
  exact runRules_jeq customs h.objEq _ image_rules_noCustom

theorem jeqD_of_all2 : ∀ {l l' : List (Str × PyVal)}, All2 (fun a b => a.1 = b.1 ∧ JEq a.2 b.2) l l' → JEqD l l'
  | _, _, .nil => .nil
  | _, _, @All2.cons _ _ _ a b _ _ r t => by
    obtain ⟨ka, va⟩ := a; obtain ⟨kb, vb⟩ := b
    obtain ⟨hk, hv⟩ := r
    simp only at hk hv
    subst hk
    exact .cons ka hv (jeqD_of_all2 t)

theorem Image.Same.dict_jeq {i j : Image} (h : Image.Same i j) : JEq i.dict j.dict := by
  rw [dict_eq_toObj, dict_eq_toObj, ← h.unified.truthy_eq]
  split
  · exact .dict (jeqD_of_all2 h.objEq) (toObj_keys_nodup i)
  · exact .dict (jeqD_of_all2 (All2.take 13 h.objEq)) (((List.take_sublist _ _).map _).nodup (toObj_keys_nodup i))

theorem Image.Same.pathKey_eq {i j : Image} (h : Image.Same i j) : pathKey i.dict = pathKey j.dict := by
  rw [pathKey_dict, pathKey_dict]
  have hg := h.path
  generalize i.path = a at hg ⊢
  generalize j.path = b at hg ⊢
  cases hg <;> rfl

theorem jsonSafe_jeq : ∀ {a b : PyVal}, JEq a b → jsonSafe a = jsonSafe b :=
  fun h => h.congr_of_canon jsonSafe jsonSafe_canon
theorem jsonSafeList_jeq : ∀ {a b : List PyVal}, JEqL a b → jsonSafeList a = jsonSafeList b :=
  fun h => jsonSafe_jeq (.list h)
theorem jsonSafeKvs_jeq : ∀ {a b : List (Str × PyVal)}, JEqD a b → jsonSafeKvs a = jsonSafeKvs b := by
  intro a b h
  rw [← jsonSafe_canonKvs a, ← jsonSafe_canonKvs b, jsonSafeKvs_all, jsonSafeKvs_all]
  exact h.canon_perm.all_eq

/-- the array written for cell `(v, a)`, empty when the table has no such cell -/
def cellOf (o : OutCells) (v a : Str) : List PyVal := (((o.lookup v).getD []).lookup a).getD []

theorem getD_lookup_eq {β : Type} (l : List (Str × List β)) (k : Str) :
    (l.lookup k).getD [] = match l.find? (·.1 == k) with | some p => p.2 | none => [] := by
  rw [Assoc.find?_fst]
  cases l.lookup k <;> rfl

theorem cellOf_eq_valAt (o : OutCells) (v a : Str) : cellOf o v a = valAt [] (archAt o v) a := by
  simp only [cellOf, getD_lookup_eq, valAt, archAt]
  cases List.find? (fun x => x.1 == v) o with
  | none => rfl
  | some p => cases List.find? (fun x => x.1 == a) p.2 <;> rfl

theorem cellOf_outFold (ts : List (Str × Str × Image)) (out : OutCells) (v a : Str) :
    cellOf (outFold ts out) v a = cellFold (cellOf out v a) ((cellFilings ts v a).map (·.2.2.dict)) := by
  rw [cellOf_eq_valAt, cellOf_eq_valAt, cell_outFold]
  rfl

/-- distinct keys at both levels, no variant without an arch, no arch without an image: what the writer builds -/
structure OutInv (o : OutCells) : Prop where
  nodup : OutNodup o
  arches : ∀ va ∈ o, va.2 ≠ []
  cells : ∀ va ∈ o, ∀ al ∈ va.2, al.2 ≠ []

theorem sortByPath_ne_nil (l : List PyVal) (d : PyVal) : sortByPath (l ++ [d]) ≠ [] := by
  intro h
  have := (sortByPath_perm (l ++ [d])).length_eq
  rw [h] at this
  simp at this

theorem outArchAppend_ne_nil (as : List (Str × List PyVal)) (a : Str) (d : PyVal) : outArchAppend as a d ≠ [] :=
  outArchAppend_eq as a d ▸ upsert_ne_nil _ _ as a

theorem outArchAppend_cells (as : List (Str × List PyVal)) (a : Str) (d : PyVal) (h : ∀ al ∈ as, al.2 ≠ []) :
    ∀ al ∈ outArchAppend as a d, al.2 ≠ [] :=
  outArchAppend_eq as a d ▸ upsert_forall _ [] (· ≠ []) as a h (fun l _ => sortByPath_ne_nil l d) (sortByPath_ne_nil [] d)

theorem outAppend_inv (o : OutCells) (v a : Str) (d : PyVal) (h : OutInv o) : OutInv (outAppend o v a d) := by
  refine ⟨outAppend_nodup v a d o h.nodup, ?_, ?_⟩ <;> rw [outAppend_eq]
  · exact upsert_forall _ [] (· ≠ []) o v h.arches (fun as _ => outArchAppend_ne_nil as a d) (outArchAppend_ne_nil [] a d)
  · exact upsert_forall _ [] (fun as => ∀ al ∈ as, al.2 ≠ []) o v h.cells (fun as => outArchAppend_cells as a d)
      (outArchAppend_cells [] a d fun _ h => nomatch h)

theorem outFold_inv (ts : List (Str × Str × Image)) (out : OutCells) (h : OutInv out) : OutInv (outFold ts out) := by
  induction ts generalizing out with
  | nil => exact h
  | cons t rest ih => exact ih _ (outAppend_inv _ _ _ _ h)

theorem OutInv.nil : OutInv [] :=
  { nodup := ⟨List.nodup_nil, fun _ h => absurd h List.not_mem_nil⟩
    arches := fun _ h => absurd h List.not_mem_nil
    cells := fun _ h => absurd h List.not_mem_nil }

theorem OutInv.arch_iff {o : OutCells} (h : OutInv o) {v : Str} {as : List (Str × List PyVal)} (hm : (v, as) ∈ o) (a : Str) :
    a ∈ as.map (·.1) ↔ cellOf o v a ≠ [] := by
  have hl : o.lookup v = some as := Assoc.lookup_of_mem_nodup h.nodup.1 hm
  simp only [cellOf, hl, Option.getD_some]
  constructor
  · intro ha
    obtain ⟨l, hl2⟩ := Assoc.exists_of_mem_keys ha
    rw [hl2]
    exact h.cells _ hm _ (Assoc.mem_of_lookup hl2)
  · intro hne
    cases hl2 : as.lookup a with
    | none => simp [hl2] at hne
    | some l => exact Assoc.lookup_isSome_iff.mp (by simp [hl2])

theorem OutInv.variant_iff {o : OutCells} (h : OutInv o) (v : Str) :
    v ∈ o.map (·.1) ↔ ∃ a, cellOf o v a ≠ [] := by
  constructor
  · intro hv
    obtain ⟨as, hl⟩ := Assoc.exists_of_mem_keys hv
    have hm := Assoc.mem_of_lookup hl
    have hne := h.arches _ hm
    cases as with
    | nil => exact absurd rfl hne
    | cons al rest =>
      exact ⟨al.1, (h.arch_iff hm al.1).mp (by simp)⟩
  · rintro ⟨a, hne⟩
    cases hl : o.lookup v with
    | none => simp [cellOf, hl] at hne
    | some as => exact Assoc.lookup_isSome_iff.mp (by simp [hl])

theorem _root_.PM.JEqL.nil_iff {l l' : List PyVal} (h : JEqL l l') : l = [] ↔ l' = [] := by
  cases h <;> simp

theorem toPy_jeq {o o' : OutCells} (h : OutInv o) (h' : OutInv o') (hc : ∀ v a, JEqL (cellOf o v a) (cellOf o' v a)) :
    JEq o.toPy o'.toPy := by
  have hne : ∀ v a, cellOf o v a ≠ [] ↔ cellOf o' v a ≠ [] := fun v a => not_congr (hc v a).nil_iff
  unfold OutCells.toPy
  refine jeq_dict_map h.nodup.1 h'.nodup.1 (fun v => ?_) ?_
  · rw [h.variant_iff, h'.variant_iff]
    exact exists_congr (hne v)
  · rintro ⟨v, as⟩ hm ⟨v', as'⟩ hm' hv
    obtain rfl : v = v' := hv
    have hn : (as.map (·.1)).Nodup := h.nodup.2 _ hm
    have hn' : (as'.map (·.1)).Nodup := h'.nodup.2 _ hm'
    refine jeq_dict_map hn hn' (fun a => ?_) ?_
    · rw [h.arch_iff hm, h'.arch_iff hm']
      exact hne v a
    · rintro ⟨a, l⟩ hml ⟨a', l'⟩ hml' ha
      obtain rfl : a = a' := ha
      have e1 : cellOf o v a = l := by
        simp [cellOf, Assoc.lookup_of_mem_nodup h.nodup.1 hm, Assoc.lookup_of_mem_nodup hn hml]
      have e2 : cellOf o' v a = l' := by
        simp [cellOf, Assoc.lookup_of_mem_nodup h'.nodup.1 hm', Assoc.lookup_of_mem_nodup hn' hml']
      have := hc v a
      rw [e1, e2] at this
      exact .list this

theorem FSame.refl (t : Str × Str × Image) : FSame t t := ⟨rfl, rfl, Image.Same.refl _⟩

theorem distinctPaths_triples {cs : Cells} (hd : Spec.DistinctPaths cs) : DistinctPaths (triples cs) := by
  intro v a
  have e : (fun t : Str × Str × Image => pathKey t.2.2.dict) = fun t => pathStr t.2.2 := by
    funext t
    simp only [pathKey_dict, pathStr]
    rfl
  unfold cellFilings
  rw [e]
  exact hd v a

theorem all2_jeqL : ∀ {l l' : List PyVal}, All2 (fun a b => JEq a b ∧ pathKey a = pathKey b) l l' → JEqL l l'
  | _, _, .nil => .nil
  | _, _, .cons r t => .cons r.1 (all2_jeqL t)

theorem cellFold_jeqL {ds ds' : List PyVal} (hdicts : PermR (fun x y => JEq x y ∧ pathKey x = pathKey y) ds ds')
    (hd : (ds.map pathKey).Nodup) : JEqL (cellFold [] ds) (cellFold [] ds') := by
  have p1 := cellFold_perm ds
  have p2 := cellFold_perm ds'
  have hR : PermR (fun x y => JEq x y ∧ pathKey x = pathKey y) (cellFold [] ds) (cellFold [] ds') := by
    obtain ⟨m, hm, ha⟩ := hdicts
    obtain ⟨m', hm', ha'⟩ := PermR.all2_perm_swap ha p2.symm
    exact ⟨m', (p1.trans hm).trans hm', ha'⟩
  have hn : ((cellFold [] ds).map pathKey).Nodup := (p1.map pathKey).nodup_iff.mpr hd
  exact all2_jeqL (PermR.sorted_all2 pathKey (fun _ _ h => h.2) (cellFold_sorted ds)
    (cellFold_sorted ds') hn hR)

theorem outFold_jeq {ts ts' : List (Str × Str × Image)} (hp : PermR FSame ts ts') (hd : DistinctPaths ts) :
    JEq (outFold ts []).toPy (outFold ts' []).toPy := by
  refine toPy_jeq (outFold_inv ts [] OutInv.nil) (outFold_inv ts' [] OutInv.nil) ?_
  intro v a
  rw [cellOf_outFold, cellOf_outFold]
  have hnil : cellOf [] v a = [] := rfl
  rw [hnil]
  have hf : PermR FSame (cellFilings ts v a) (cellFilings ts' v a) := by
    refine hp.filter _ ?_
    intro t t' ⟨h1, h2, _⟩
    rw [h1, h2]
  have hdicts : PermR (fun x y => JEq x y ∧ pathKey x = pathKey y)
      ((cellFilings ts v a).map (·.2.2.dict)) ((cellFilings ts' v a).map (·.2.2.dict)) :=
    hf.map (·.2.2.dict) (fun t t' ⟨_, _, hs⟩ => ⟨hs.dict_jeq, hs.pathKey_eq⟩)
  refine cellFold_jeqL hdicts ?_
  have := hd v a
  simpa [List.map_map, Function.comp_def] using this

/-- `outFold_jeq` for two orders of the same filings, as an equation between canonical forms (hence between the bytes) -/
theorem toPy_canon_perm (t₁ t₂ : List (Str × Str × Image)) (hp : t₁.Perm t₂)
    (hd : ∀ v a, ((dictsFor t₁ v a).map pathKey).Nodup) :
    PyVal.canon (outFold t₁ []).toPy = PyVal.canon (outFold t₂ []).toPy := by
  refine (outFold_jeq (PermR.of_perm FSame.refl hp) fun v a => ?_).canon_eq
  have := hd v a
  rw [dictsFor, List.map_map] at this
  exact this

/-- the document `serialize` returns when the compose section is written as `comp` and the image table is `out` -/
def docOf (comp : PyVal) (out : OutCells) : PyVal :=
  .dict [(L "header", PyVal.dict [(L "type", .str Gen.HEADER_TYPE_Images), (L "version", .str currentVersion)]),
         (L "payload", .dict [(L "images", out.toPy), (L "compose", comp)])]

/-- the header is set to the current version before it is validated, so that step cannot fail: what can is the compose
section and the images -/
theorem serialize_snd (s : ImgState) : (serialize s).2 =
    s.compose.serialize.bind fun comp => (serializeCells s.cells []).bind fun out => .ok (docOf comp out) := by
  simp only [serialize, cur_header_valid, bind, Except.bind]
  rfl

theorem Same.refl (x : ImgState) : Same x x := ⟨rfl, PermR.refl FSame.refl _⟩

theorem Same.of_perm_variants (x : ImgState) (cells' : Cells) (h : x.cells.Perm cells') : Same x { x with cells := cells' } := by
  refine ⟨rfl, PermR.of_perm FSame.refl ?_⟩
  simp only [triples_eq]
  exact h.flatMap_right _

theorem docOf_jeq (comp : PyVal) {o o' : OutCells} (h : JEq o.toPy o'.toPy) : JEq (docOf comp o) (docOf comp o') := by
  unfold docOf
  refine .dict (.cons _ (.refl _) (.cons _ (.dict (.cons _ h (.cons _ (.refl _) .nil)) ?_) .nil)) ?_
  · simp only [List.map_cons, List.map_nil]; decide
  · simp only [List.map_cons, List.map_nil]; decide

theorem dumps_eq_of_filings {x y : ImgState} (hc : y.compose.serialize = x.compose.serialize)
    (hf : PermR FSame (triples x.cells) (triples y.cells)) (hd : DistinctPaths (triples x.cells))
    (hx : ∀ i ∈ x.cells.all, i.validate = .ok ()) : (dumps y).2 = (dumps x).2 := by
  have vy : ∀ i ∈ y.cells.all, i.validate = .ok () := by
    simp only [all_eq_triples, List.mem_map]
    rintro _ ⟨t, ht, rfl⟩
    obtain ⟨t0, ht0, hs⟩ := hf.mem_right t ht
    exact hs.2.2.validate_eq ▸ hx _ (mem_all_of_triple ht0)
  rw [dumps_eq, dumps_eq, serialize_snd, serialize_snd, (serializeCells_ok _ _ _).mpr ⟨hx, rfl⟩,
    (serializeCells_ok _ _ _).mpr ⟨vy, rfl⟩, hc]
  cases x.compose.serialize with
  | error e => rfl
  | ok comp =>
    have hj := docOf_jeq comp (outFold_jeq hf hd)
    simp only [Except.bind, jsonSafe_jeq hj, hj.dumps_eq]

theorem serialize_doc (m : ImgState) (cd : PyVal) (hcd : m.compose.serialize = .ok cd)
    (hi : ∀ i ∈ m.cells.all, i.validate = .ok ()) :
    (serialize m).2 = .ok (docOf cd (outFold (triples m.cells) [])) :=
  Returns.bind cur_header_valid <| Returns.bind hcd <| Returns.bind ((serializeCells_ok m.cells [] _).mpr ⟨hi, rfl⟩) rfl

theorem serialize_inv (m : ImgState) (doc : PyVal) (hs : (serialize m).2 = .ok doc) :
    ∃ cd, m.compose.serialize = .ok cd ∧ doc = docOf cd (outFold (triples m.cells) []) := by
  rw [serialize_snd] at hs
  obtain ⟨cd, hcd, hs⟩ := bind_ok hs
  obtain ⟨out, hout, hs⟩ := bind_ok hs
  obtain ⟨_, rfl⟩ := (serializeCells_ok _ _ _).mp hout
  exact ⟨cd, hcd, (Except.ok.inj hs).symm⟩

end PM.Img
