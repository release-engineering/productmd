import ProductMD.Model.TreeInfo
/-! The example tree of C04 (a layered tree with a dashed top-level UID, three levels, children of all three types) and its normal form.
They stand below everything else about examples because the witness definitions `wT00` / `wT03` fall back on `C04_exTree`. -/
namespace PM
open Ini TI

def C04_exTree0 : TreeInfo :=
  { headerVersion := "0.0".toList, release := ⟨"Fedora".toList, "F".toList, "21".toList⟩, isLayered := true,
    baseProduct := some ⟨"Base".toList, "B".toList, "7".toList⟩,
    tree := ⟨"x86_64".toList, .int 1417653911, ["xen".toList]⟩,
    variants := [.mk "Server-optional".toList "optional".toList "Server-optional".toList "opt".toList "optional".toList [] [],
                 .mk "Server".toList "Server".toList "Server".toList "Server".toList "variant".toList
                    [("packages".toList, "Packages".toList), ("identity".toList, "id.pem".toList)]
                    [.mk "HA".toList "HA".toList "Server-HA".toList "HA".toList "addon".toList []
                      [.mk "X".toList "X".toList "Server-HA-X".toList "X".toList "variant".toList [] []],
                     .mk "AA".toList "AA".toList "Server-AA".toList "AA".toList "optional".toList [] []]],
    checksums := [("images/boot.iso".toList, "sha256".toList, "ab".toList)],
    images := [("xen".toList, [("kernel".toList, "images/vmlinuz".toList), ("Initrd".toList, "images/initrd".toList)])],
    mainimage := some "LiveOS/squashfs.img".toList, instimage := some [], discnum := some 1, totaldiscs := some 2 }

/-- its normal form (children and dictionaries sorted, `x86_64` among the platforms, empty `instimage` unset) -/
def C04_exTree : TreeInfo := norm C04_exTree0

end PM
