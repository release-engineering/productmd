import ProductMD.Proofs.C10Images
/-!
C10, images side: where the reader files every image of a document whose image table is a JSON object — exactly.

The filings of a manifest are `Spec.entries` : (variant, arch, object id, attributes).  The reader gives the k-th
image dictionary of the document (iteration order) the object id k.  In a document of format ≤ 1.1 an image found under
`src` is ONE object filed under every other arch key of ITS variant (`Img.refile`); any other image, and every image of a
newer document, goes to its own cell (`targetsOf`).  One dictionary is an equation on the state (`loadOne_cells`: a fold of
`cellsAdd` over the targets), the whole table an induction over it (`loadTriples_exact`).
-/
namespace PM.Img.C10
open PM PM.PyOps PM.Spec

/-- the arch keys under which the reader files an image found under `(variant, a)`: `_add_1_1`'s targets in a document old enough
for the `src` re-filing, the cell itself otherwise -/
def targetsOf (old : Bool) (ks : List Str) (a : Str) : List Str := if old then targets ks a else [a]

theorem targetsOf_of_ne_src {old : Bool} {ks : List Str} {a : Str} (h : old = true → a ≠ L "src") : targetsOf old ks a = [a] := by
  unfold targetsOf targets
  cases old with
  | false => rfl
  | true => rw [if_pos rfl, if_neg (h rfl)]

theorem targetsOf_src (ks : List Str) : targetsOf true ks (L "src") = ks.filter (fun b => b ≠ L "src") := by
  unfold targetsOf targets
  rw [if_pos rfl, if_pos rfl]

theorem self_target {old : Bool} {ks : List Str} {a : Str} (h : old = true → a ≠ L "src") : a ∈ targetsOf old ks a := by
  rw [targetsOf_of_ne_src h]
  exact List.mem_singleton.mpr rfl

/-- wherever the object `id` is filed already, it is filed with the attributes `img` -/
def Coherent (id : Nat) (img : Image) (cs : Cells) : Prop := ∀ e ∈ entries cs, e.2.2.1 = id → e.2.2.2 = img

theorem coherent_of_idsBelow {n : Nat} {cs : Cells} (h : IdsBelow n cs) (img : Image) : Coherent n img cs := by
  intro e he hid
  exact absurd hid (Nat.ne_of_lt (h e he))

theorem mem_entries_cellsAdd_iff (v a : Str) (id : Nat) (img : Image) (cs : Cells)
    (h : Coherent id img cs) (e : Str × Str × Nat × Image) :
    e ∈ entries (cellsAdd cs v a id img) ↔ e = (v, a, id, img) ∨ e ∈ entries cs :=
  ⟨mem_entries_cellsAdd, fun h' => h'.elim (fun he => he ▸ filed_cellsAdd h) mem_entries_cellsAdd_old⟩

theorem addPy_ok {s s' : ImgState} {variant arch : PyVal} {id : Nat} {img : Image} (h : addPy s variant arch id img = .ok s') :
    ∃ v a, variant = .str v ∧ arch = .str a ∧ add s v a id img = (s', .ok ()) := by
  unfold addPy at h
  split at h
  · split at h
    · rename_i a _ v
      split at h
      · rename_i hadd
        injection h with h
        exact ⟨v, a, rfl, rfl, h ▸ hadd⟩
      · cases h
    · split at h <;> cases h
  · cases h

theorem addPy_cells {s s' : ImgState} {v a : Str} {id : Nat} {img : Image}
    (h : addPy s (.str v) (.str a) id img = .ok s') : s' = { s with cells := cellsAdd s.cells v a id img } := by
  obtain ⟨v', a', ev, ea, hadd⟩ := addPy_ok h
  cases ev; cases ea
  exact (add_ok hadd).1

/-- the object `(id, img)` filed under every arch of `bs` of variant `v` -/
def fileUnder (v : Str) (id : Nat) (img : Image) (bs : List Str) (cs : Cells) : Cells :=
  bs.foldl (fun cs b => cellsAdd cs v b id img) cs

theorem mem_entries_fileUnder (v : Str) (id : Nat) (img : Image) :
    ∀ (bs : List Str) (cs : Cells), Coherent id img cs →
      ∀ e, e ∈ entries (fileUnder v id img bs cs) ↔ e ∈ entries cs ∨ ∃ b ∈ bs, e = (v, b, id, img)
  | [], _, _, e => by simp [fileUnder]
  | b :: bs, cs, hco, e => by
    have hmem := mem_entries_cellsAdd_iff v b id img cs hco
    have hco1 : Coherent id img (cellsAdd cs v b id img) := fun x hx hxid => by
      rcases (hmem x).mp hx with rfl | hx'
      · rfl
      · exact hco x hx' hxid
    show e ∈ entries (fileUnder v id img bs (cellsAdd cs v b id img)) ↔ _
    rw [mem_entries_fileUnder v id img bs _ hco1 e, hmem e]
    simp only [List.mem_cons, exists_eq_or_imp]
    exact ⟨fun h => h.elim (fun h => h.elim (fun h => .inr (.inl h)) .inl) (fun h => .inr (.inr h)),
      fun h => h.elim (fun h => .inl (.inr h)) (fun h => h.elim (fun h => .inl (.inl h)) .inr)⟩

theorem refile_cells (v : Str) (id : Nat) (img : Image) :
    ∀ (ks : List Str) (s s' : ImgState), refile s (.str v) id img (ks.map fun k => PyVal.str k) = .ok s' →
      s' = { s with cells := fileUnder v id img (ks.filter fun b => b ≠ L "src") s.cells }
  | [], s, s', h => by
    cases h
    rfl
  | k :: rest, s, s', h => by
    simp only [List.map_cons] at h
    unfold refile at h
    split at h
    · rename_i hsrc
      have hk : k = L "src" := (pyEq_str k _).mp hsrc
      rw [refile_cells v id img rest s s' h, List.filter_cons_of_neg (by simpa using hk)]
    · rename_i hsrc
      have hk : k ≠ L "src" := fun e => hsrc ((pyEq_str k _).mpr e)
      obtain ⟨s1, h1, h2⟩ := bind_ok h
      rw [refile_cells v id img rest s1 s' h2, addPy_cells h1, List.filter_cons_of_pos (by simpa using hk)]
      rfl

theorem loadOne_ok {ver images variant arch d : PyVal} {s : ImgState} {n : Nat} {r : ImgState × Nat}
    (h : loadCell ver images variant arch [d] (s, n) = .ok r) :
    ∃ img vt old s1, Image.deserialize ver d = .ok img ∧ versionTuple ver = .ok vt
      ∧ gateEval Gen.gate_images_Images_deserialize_0 vt = .ok old
      ∧ fileLoaded old s images variant arch n img = .ok s1 ∧ r = (s1, n + 1) := by
  unfold loadCell at h
  obtain ⟨img, h1, h⟩ := bind_ok h
  obtain ⟨vt, h2, h⟩ := bind_ok h
  obtain ⟨old, h3, h⟩ := bind_ok h
  obtain ⟨s1, h4, h⟩ := bind_ok h
  rw [loadCell] at h
  injection h with h
  exact ⟨img, vt, old, s1, h1, h2, h3, h4, h.symm⟩

theorem loadOne_cells (ver images : PyVal) (vt : VerT) (hvt : versionTuple ver = .ok vt) (old : Bool)
    (hold : gateEval Gen.gate_images_Images_deserialize_0 vt = .ok old)
    (v a : Str) (d : PyVal) (ks : List Str)
    (hk : old = true → ∃ X, subscript images (.str v) = .ok X ∧ iter X = .ok (ks.map fun k => PyVal.str k))
    (s : ImgState) (n : Nat) (r : ImgState × Nat)
    (h : loadCell ver images (.str v) (.str a) [d] (s, n) = .ok r) :
    ∃ img, Image.deserialize ver d = .ok img ∧ r = ({ s with cells := fileUnder v n img (targetsOf old ks a) s.cells }, n + 1) := by
  obtain ⟨img, _, _, s1, h1, h2, h3, h4, rfl⟩ := loadOne_ok h
  cases hvt.symm.trans h2
  cases hold.symm.trans h3
  refine ⟨img, h1, ?_⟩
  have plain : addPy s (.str v) (.str a) n img = .ok s1 → s1 = { s with cells := fileUnder v n img [a] s.cells } := addPy_cells
  unfold fileLoaded at h4
  split at h4
  · rename_i ho
    subst ho
    obtain ⟨X, hsub, hiter⟩ := hk rfl
    split at h4
    · rename_i hsrc
      cases (pyEq_str a _).mp hsrc
      simp only [hsub, hiter, bind, Except.bind] at h4
      rw [refile_cells v n img ks s s1 h4, targetsOf_src]
    · rename_i hsrc
      have ha : a ≠ L "src" := fun e => hsrc ((pyEq_str a _).mpr e)
      rw [plain h4, targetsOf_of_ne_src fun _ => ha]
  · rename_i ho
    rw [plain h4, targetsOf_of_ne_src fun h => absurd h ho]

theorem loadTriples_exact (ver images : PyVal) (vt : VerT) (hvt : versionTuple ver = .ok vt) (old : Bool)
    (hold : gateEval Gen.gate_images_Images_deserialize_0 vt = .ok old) (keys : Str → List Str) :
    ∀ (ts : List (Str × Str × PyVal)) (s : ImgState) (n : Nat) (r : ImgState × Nat),
      (old = true → ∀ t ∈ ts, ∃ X, subscript images (.str t.1) = .ok X ∧ iter X = .ok ((keys t.1).map fun k => PyVal.str k)) →
      IdsBelow n s.cells → loadTriples ver images ts (s, n) = .ok r →
      r.2 = n + ts.length ∧ IdsBelow r.2 r.1.cells ∧ (∀ t ∈ ts, ∃ img, Image.deserialize ver t.2.2 = .ok img) ∧
      ∀ e, e ∈ entries r.1.cells ↔ e ∈ entries s.cells ∨
        ∃ k t img, ts[k]? = some t ∧ Image.deserialize ver t.2.2 = .ok img ∧
          ∃ b ∈ targetsOf old (keys t.1) t.2.1, e = (t.1, b, n + k, img) := by
  intro ts
  induction ts with
  | nil =>
    intro s n r _ hids h
    cases h
    refine ⟨rfl, hids, ?_, ?_⟩
    · intro t ht
      cases ht
    · intro e
      simp
  | cons t rest ih =>
    intro s n r hk hids h
    simp only [loadTriples] at h
    obtain ⟨r1, h1, h⟩ := bind_ok h
    obtain ⟨img, hd, rfl⟩ := loadOne_cells ver images vt hvt old hold t.1 t.2.1 t.2.2 (keys t.1)
      (fun ho => hk ho t List.mem_cons_self) s n r1 h1
    have hmem1 := mem_entries_fileUnder t.1 n img (targetsOf old (keys t.1) t.2.1) s.cells (coherent_of_idsBelow hids img)
    have hids1 : IdsBelow (n + 1) (fileUnder t.1 n img (targetsOf old (keys t.1) t.2.1) s.cells) := by
      intro e he
      rcases (hmem1 e).mp he with h' | ⟨b, _, rfl⟩
      · exact Nat.lt_succ_of_lt (hids e h')
      · exact Nat.lt_succ_self _
    obtain ⟨hlen, hb, hrd, hmem⟩ := ih _ (n + 1) r (fun ho t' ht' => hk ho t' (List.mem_cons_of_mem _ ht')) hids1 h
    refine ⟨by rw [hlen, List.length_cons]; omega, hb, List.forall_mem_cons.mpr ⟨⟨img, hd⟩, hrd⟩, fun e => ?_⟩
    rw [hmem e, hmem1 e]
    constructor
    · rintro ((hl | ⟨b, hb', rfl⟩) | ⟨k, t', img', hk', hd', b, hb', rfl⟩)
      · exact Or.inl hl
      · exact Or.inr ⟨0, t, img, rfl, hd, b, hb', rfl⟩
      · exact Or.inr ⟨k + 1, t', img', by simpa using hk', hd', b, hb', by congr 3; omega⟩
    · rintro (hl | ⟨k, t', img', hk', hd', b, hb', rfl⟩)
      · exact Or.inl (Or.inl hl)
      · cases k with
        | zero =>
          simp only [List.getElem?_cons_zero, Option.some.injEq] at hk'
          subst hk'
          cases hd.symm.trans hd'
          exact Or.inl (Or.inr ⟨b, hb', rfl⟩)
        | succ k =>
          exact Or.inr ⟨k, t', img', by simpa using hk', hd', b, hb', by congr 3; omega⟩

/-- the arch keys of variant `v` in the image table `O` -/
def keysOf (O : OutCells) (v : Str) : List Str := (archAt O v).map (·.1)

theorem keysOf_mem (O : OutCells) (hn : (O.map (·.1)).Nodup) (v : Str) (as : List (Str × List PyVal)) (h : (v, as) ∈ O) :
    keysOf O v = as.map (·.1) := by
  rw [keysOf, archAt_of_mem hn h]

theorem mem_outTriples {O : OutCells} {t : Str × Str × PyVal} (h : t ∈ outTriples O) :
    ∃ as, (t.1, as) ∈ O ∧ ∃ l, (t.2.1, l) ∈ as ∧ t.2.2 ∈ l := by
  simp only [outTriples, archTriples, List.mem_flatMap, List.mem_map] at h
  obtain ⟨va, hva, al, hal, d, hd, rfl⟩ := h
  exact ⟨va.2, hva, al.2, hal, hd⟩

/-- the table of a document answers the look-ups of `_add_1_1` -/
theorem table_keys (O : OutCells) (hO : OutNodup O) : ∀ t ∈ outTriples O,
    ∃ X, subscript O.toPy (.str t.1) = .ok X ∧ iter X = .ok ((keysOf O t.1).map fun k => PyVal.str k) := by
  intro t ht
  obtain ⟨as, hmem, _⟩ := mem_outTriples ht
  refine ⟨archsPy as, subscript_toPy hO.1 hmem, ?_⟩
  rw [keysOf_mem O hO.1 t.1 as hmem, iter_archsPy, List.map_map]
  rfl

/-- either gate: the filings of the manifest are the k-th dictionary's image as object `k` under each of its targets -/
theorem deserialize_table_files {doc : PyVal} {s : ImgState} (h : deserialize doc = .ok s)
    {ver : PyVal} (hver : headerDeserialize doc = .ok ver) {vt : VerT} (hvt : versionTuple ver = .ok vt) {old : Bool}
    (hold : gateEval Gen.gate_images_Images_deserialize_0 vt = .ok old)
    {payload : PyVal} (hp : item doc (L "payload") = .ok payload) {O : OutCells} (hO : OutNodup O)
    (himg : item payload (L "images") = .ok O.toPy) :
    (∀ t ∈ outTriples O, ∃ img, Image.deserialize ver t.2.2 = .ok img) ∧
    ∀ v b k img, (v, b, k, img) ∈ entries s.cells ↔
      ∃ a d as, (outTriples O)[k]? = some (v, a, d) ∧ Image.deserialize ver d = .ok img ∧ (v, as) ∈ O
        ∧ b ∈ targetsOf old (as.map (·.1)) a := by
  obtain ⟨ver', payload', _, images, vs, r, hver', hp', _, himg', hvs, hl, rfl⟩ :=
    readWith_ok ((deserialize_eq_readWith doc).symm.trans h)
  cases hver.symm.trans hver'
  cases hp.symm.trans hp'
  cases himg.symm.trans himg'
  cases (iter_toPy O).symm.trans hvs
  rw [loadVariants_eq ver O hO O (fun _ h => h)] at hl
  obtain ⟨_, _, hrd, hmem⟩ := loadTriples_exact ver O.toPy vt hvt old hold (keysOf O) (outTriples O) _ 0 r
    (fun _ => table_keys O hO) (fun e he => by cases he) hl
  refine ⟨hrd, fun v b k img => ?_⟩
  rw [show ({ r.1 with version := PyVal.str currentVersion } : ImgState).cells = r.1.cells from rfl, hmem]
  simp only [entries, List.flatMap_nil, List.not_mem_nil, false_or, Nat.zero_add]
  constructor
  · rintro ⟨k', t, img', hk', hd', b', hb', heq⟩
    obtain ⟨as, hmemO, _⟩ := mem_outTriples (List.mem_of_getElem? hk')
    rw [keysOf_mem O hO.1 t.1 as hmemO] at hb'
    cases heq
    exact ⟨t.2.1, t.2.2, as, hk', hd', hmemO, hb'⟩
  · rintro ⟨a, d, as, hk', hd', hmemO, hb'⟩
    refine ⟨k, (v, a, d), img, hk', hd', b, ?_, rfl⟩
    rw [keysOf_mem O hO.1 v as hmemO]
    exact hb'

theorem filed_of_table {doc : PyVal} {s : ImgState} (h : deserialize doc = .ok s)
    {ver : PyVal} (hver : headerDeserialize doc = .ok ver) {vt : VerT} (hvt : versionTuple ver = .ok vt) {old : Bool}
    (hold : gateEval Gen.gate_images_Images_deserialize_0 vt = .ok old)
    {payload : PyVal} (hp : item doc (L "payload") = .ok payload) {O : OutCells} (hO : OutNodup O)
    (himg : item payload (L "images") = .ok O.toPy)
    {t : Str × Str × PyVal} (ht : t ∈ outTriples O) (hs : old = true → t.2.1 ≠ L "src") {i : Image}
    (hi : Image.deserialize ver t.2.2 = .ok i) : i ∈ s.cells.all := by
  obtain ⟨k, hk⟩ := List.getElem?_of_mem ht
  obtain ⟨as, hmemO, _⟩ := mem_outTriples ht
  rw [all_eq_entries]
  exact List.mem_map.mpr ⟨_, ((deserialize_table_files h hver hvt hold hp hO himg).2 t.1 t.2.1 k i).mpr
    ⟨t.2.1, t.2.2, as, hk, hi, hmemO, self_target hs⟩, rfl⟩

end PM.Img.C10

namespace PM.Img
open PM PM.PyOps PM.Spec

theorem loadTriples_files (ver images : PyVal) (vt : VerT) (hvt : versionTuple ver = .ok vt)
    (hnew : gateEval Gen.gate_images_Images_deserialize_0 vt = .ok false) :
    ∀ (ts : List (Str × Str × PyVal)) (s : ImgState) (n : Nat) (r : ImgState × Nat), IdsBelow n s.cells →
      loadTriples ver images ts (s, n) = .ok r →
      IdsBelow r.2 r.1.cells ∧ (∀ x ∈ s.cells.all, x ∈ r.1.cells.all)
        ∧ ∀ t ∈ ts, ∀ img, Image.deserialize ver t.2.2 = .ok img → img ∈ r.1.cells.all := by
  intro ts s n r hids h
  obtain ⟨_, hb, _, hmem⟩ := C10.loadTriples_exact ver images vt hvt false hnew (fun _ => []) ts s n r (fun ho => nomatch ho) hids h
  simp only [all_eq_entries, List.mem_map]
  refine ⟨hb, fun x ⟨e, he, hx⟩ => ⟨e, (hmem e).mpr (.inl he), hx⟩, fun t ht img hd => ?_⟩
  obtain ⟨k, hk⟩ := List.getElem?_of_mem ht
  exact ⟨_, (hmem _).mpr (.inr ⟨k, t, img, hk, hd, t.2.1, C10.self_target (fun ho => nomatch ho), rfl⟩), rfl⟩

end PM.Img
