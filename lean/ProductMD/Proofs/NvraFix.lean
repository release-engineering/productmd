import ProductMD.Proofs.NvraExact
/-!
The directly written parser (`Spec/NvraDirect.lean`) on its own: what a result of `p1` says about the string (`p1_spec` …
`p6_spec`), what it finds in the documented shape (`p1_fmt`), and that canonical re-formatting is a fixed point for
EVERY parse result, not only on the documented shape: whatever `p1` found in a first line `x`, it finds again in
`name-E:version-release.arch` (`p1_canon`); the value of an epoch's digit string is re-rendered within `int()`'s digit limit
(`pyIntDigits_canon`); so `parseNvraDirect` accepts the canonical string of whatever it accepted (`parseNvraDirect_ok`,
`parseNvraDirect_canon`).
-/
namespace PM.NvraFix
open PM PM.First PM.Spec PM.Dec PM.NvraProof PM.NvraExact

theorem split_right_of_not_mem {d : Char} {P T w z : Str} (hP : d ∉ P) (h : P ++ T = w ++ d :: z) :
    ∃ w2, w = P ++ w2 ∧ T = w2 ++ d :: z := by
  rcases List.append_eq_append_iff.mp h with ⟨a', h1, h2⟩ | ⟨b', h1, h2⟩
  · exact ⟨a', h1, h2⟩
  · cases b' with
    | nil =>
      simp at h1 h2
      exact ⟨[], by simp [h1], h2.symm⟩
    | cons y ys =>
      simp at h2
      exact absurd (by rw [h1, ← h2.1]; exact List.mem_append_right _ List.mem_cons_self) hP

/-- `p5` and `p2` are "the last `d` after which `g` is defined, then `g`" -/
theorem lastSplit_then_iff {d : Char} {β γ : Type} {g : Str → Option β} {F : Str → β → γ} {x : Str} {res : γ} :
    (match lastSplit d (fun z => (g z).isSome) x with
      | some (a, z) => (g z).map (F a)
      | none => none) = some res ↔
    ∃ a z q, x = a ++ d :: z ∧ g z = some q ∧ F a q = res ∧ ∀ w z', z = w ++ d :: z' → (g z').isSome = false := by
  constructor
  · intro h
    cases hl : lastSplit d (fun z => (g z).isSome) x with
    | none => rw [hl] at h; cases h
    | some p =>
      obtain ⟨a, z⟩ := p
      rw [hl] at h
      obtain ⟨h1, _, h3⟩ := lastSplit_some hl
      obtain ⟨q, hq, hF⟩ := Option.map_eq_some_iff.mp h
      exact ⟨a, z, q, h1, hq, hF, h3⟩
  · rintro ⟨a, z, q, h1, h2, h3, h4⟩
    rw [h1, lastSplit_intro d _ a z (by simp [h2]) h4]
    simp [h2, h3]

theorem p6_spec {e : Bool} {z6 rl a : Str} (h : p6 e z6 = some (rl, a)) : z6 = rl ++ '.' :: a ∧ '.' ∉ a := by
  obtain ⟨h1, h2, h3⟩ := lastSplit_some (d := '.') (ok := fun _ => e) h
  refine ⟨h1, fun hm => ?_⟩
  obtain ⟨w, z, hw⟩ := List.append_of_mem hm
  have := h3 w z hw
  rw [show e = true from h2] at this; cases this

theorem p5_spec {e : Bool} {y v rl a : Str} (h : p5 e y = some (v, rl, a)) :
    ∃ z6, y = v ++ '-' :: z6 ∧ p6 e z6 = some (rl, a)
      ∧ ∀ w z, z6 = w ++ '-' :: z → (p6 e z).isSome = false := by
  obtain ⟨v', z6, q, h1, hq, hres, h3⟩ :=
    (lastSplit_then_iff (g := p6 e) (F := fun v (ra : Str × Str) => (v, ra.1, ra.2))).mp h
  cases hres
  exact ⟨z6, h1, hq, h3⟩

theorem p5_intro {e : Bool} {v z6 rl a : Str} (hp : p6 e z6 = some (rl, a))
    (hl : ∀ w z, z6 = w ++ '-' :: z → (p6 e z).isSome = false) : p5 e (v ++ '-' :: z6) = some (v, rl, a) :=
  (lastSplit_then_iff (g := p6 e) (F := fun v (ra : Str × Str) => (v, ra.1, ra.2))).mpr ⟨v, z6, _, rfl, hp, rfl, hl⟩

theorem not_mem_epoch_prefix {D : Str} (hD : ∀ c ∈ D, digitCls.mem c = true) {d : Char} (hd : digitCls.mem d = false)
    (hc : d ≠ ':') : d ∉ D ++ [':'] := by
  intro hm
  rcases List.mem_append.mp hm with hm | hm
  · rw [hD d hm] at hd; cases hd
  · exact hc (List.mem_singleton.mp hm)

theorem p4_inv {e : Bool} {z4 : Str} {ep : Option Str} {q : Str × Str × Str} (h : p4 e z4 = some (ep, q)) :
    (ep = none ∧ p5 e z4 = some q) ∨ ∃ D y, ep = some D ∧ epochSplit z4 = some (D, y) ∧ p5 e y = some q := by
  have habs : (p5 e z4).map (fun r => ((none : Option Str), r)) = some (ep, q) → ep = none ∧ p5 e z4 = some q := by
    intro h
    cases hp : p5 e z4 with
    | none => rw [hp] at h; cases h
    | some q' => rw [hp] at h; cases h; exact ⟨rfl, rfl⟩
  unfold p4 at h
  cases hes : epochSplit z4 with
  | none => rw [hes] at h; exact .inl (habs h)
  | some Dy =>
    obtain ⟨D, y⟩ := Dy
    rw [hes] at h
    dsimp only at h
    cases hpy : p5 e y with
    | some q' => rw [hpy] at h; cases h; exact .inr ⟨D, y, rfl, rfl, hpy⟩
    -- the retry without epoch that `p4` copies from the regex's `(…)?`; it never has a result (a `-` of `z4` lies
    -- behind the colon), which this lemma does not need
    | none => rw [hpy] at h; exact .inl (habs h)

/-- `P`: the epoch digits and the colon, if an epoch was found -/
theorem p4_spec {e : Bool} {z4 : Str} {ep : Option Str} {v rl a : Str} (h : p4 e z4 = some (ep, v, rl, a)) :
    ∃ P z6, z4 = P ++ (v ++ '-' :: z6) ∧ p6 e z6 = some (rl, a)
      ∧ (∀ w z, z6 = w ++ '-' :: z → (p6 e z).isSome = false)
      ∧ (∀ D, ep = some D → D ≠ [] ∧ ∀ c ∈ D, digitCls.mem c = true) := by
  rcases p4_inv h with ⟨rfl, h5⟩ | ⟨D, y, rfl, hes, h5⟩
  · obtain ⟨z6, g1, g2, g3⟩ := p5_spec h5
    exact ⟨[], z6, by simpa using g1, g2, g3, fun D hD => by cases hD⟩
  · obtain ⟨hxe, hD, hDd⟩ := epochSplit_spec hes
    obtain ⟨z6, g1, g2, g3⟩ := p5_spec h5
    exact ⟨D ++ [':'], z6, by rw [hxe, g1]; simp, g2, g3, fun D' hD' => by cases hD'; exact ⟨hD, hDd⟩⟩

theorem p2_spec {e : Bool} {x2 n : Str} {q : Option Str × Str × Str × Str} (h : p2 e x2 = some (n, q)) :
    ∃ z4, x2 = n ++ '-' :: z4 ∧ p4 e z4 = some q ∧ ∀ w z, z4 = w ++ '-' :: z → (p4 e z).isSome = false := by
  obtain ⟨n', z4, q', h1, hq, hres, h3⟩ :=
    (lastSplit_then_iff (g := p4 e) (F := fun n (r : Option Str × Str × Str × Str) => (n, r))).mp h
  cases hres
  exact ⟨z4, h1, hq, h3⟩

theorem p2_intro {e : Bool} {n z4 : Str} {q : Option Str × Str × Str × Str} (hp : p4 e z4 = some q)
    (hl : ∀ w z, z4 = w ++ '-' :: z → (p4 e z).isSome = false) : p2 e (n ++ '-' :: z4) = some (n, q) :=
  (lastSplit_then_iff (g := p4 e) (F := fun n (r : Option Str × Str × Str × Str) => (n, r))).mpr ⟨n, z4, _, rfl, hp, rfl, hl⟩

theorem p1_spec {e : Bool} {x : Str} {q : Str × Option Str × Str × Str × Str} (h : p1 e x = some q) :
    ∃ pre x2, x = pre ++ x2 ∧ p2 e x2 = some q ∧ ∀ w z, x2 = w ++ '/' :: z → (p2 e z).isSome = false := by
  unfold p1 at h
  cases hl : lastSplit '/' (fun z => (p2 e z).isSome) x with
  | none =>
    rw [hl] at h
    exact ⟨[], x, rfl, h, lastSplit_none hl⟩
  | some p =>
    obtain ⟨d, z⟩ := p
    rw [hl] at h
    obtain ⟨h1, _, h3⟩ := lastSplit_some hl
    exact ⟨d ++ ['/'], z, by rw [h1]; simp, h, h3⟩

theorem p1_epoch_ne {e : Bool} {x n D : Str} {q : Str × Str × Str} (h : p1 e x = some (n, some D, q)) : D ≠ [] := by
  obtain ⟨_, x2, _, h2, _⟩ := p1_spec h
  obtain ⟨z4, _, h4, _⟩ := p2_spec h2
  obtain ⟨_, _, _, _, _, hD⟩ := p4_spec h4
  exact (hD D rfl).1

/-- `name-E:version-release.arch` for a digit string `E` -/
def canonStr (n E v rl a : Str) : Str := n ++ '-' :: (E ++ ':' :: (v ++ '-' :: (rl ++ '.' :: a)))

theorem canonNvra_eq (n v rl a : Str) (E : Nat) :
    canonNvra { name := some n, epoch := E, version := some v, release := some rl, arch := some a }
      = canonStr n (Str.natStr E) v rl a := by
  simp [canonNvra, pctS, canonStr]

theorem p1_canon {x : Str} {n : Str} {ep : Option Str} {v rl a E : Str} (h : p1 true x = some (n, ep, v, rl, a))
    (hE : E ≠ []) (hEd : ∀ c ∈ E, digitCls.mem c = true) :
    p1 true (canonStr n E v rl a) = some (n, some E, v, rl, a) := by
  obtain ⟨pre, x2, _, h2, hslash⟩ := p1_spec h
  obtain ⟨z4, hx2, hp4, hdash⟩ := p2_spec h2
  obtain ⟨P, z6, hz4, hp6, hl6, _⟩ := p4_spec hp4
  obtain ⟨hz6, _⟩ := p6_spec hp6
  have hP'd := not_mem_epoch_prefix hEd dash_not_digit (by decide)
  have hP's := not_mem_epoch_prefix hEd slash_not_digit (by decide)
  have hz4' : E ++ ':' :: (v ++ '-' :: z6) = (E ++ [':']) ++ (v ++ '-' :: z6) := by simp
  have hp5 : p5 true (v ++ '-' :: z6) = some (v, rl, a) := p5_intro hp6 hl6
  have hp4' : p4 true (E ++ ':' :: (v ++ '-' :: z6)) = some (some E, v, rl, a) := by
    unfold p4
    rw [epochSplit_of E _ hE hEd]
    simp [hp5]
  have hdash' : ∀ w z, E ++ ':' :: (v ++ '-' :: z6) = w ++ '-' :: z → (p4 true z).isSome = false := by
    intro w z hw
    rw [hz4'] at hw
    obtain ⟨w2, _, hT⟩ := split_right_of_not_mem hP'd hw
    exact hdash (P ++ w2) z (by rw [hz4, hT]; simp)
  have hp2' : p2 true (n ++ '-' :: (E ++ ':' :: (v ++ '-' :: z6))) = some (n, some E, v, rl, a) := p2_intro hp4' hdash'
  -- the name has no slash: what follows one would have parsed in the first place
  have hn : '/' ∉ n := by
    intro hm
    obtain ⟨w, n2, hn⟩ := List.append_of_mem hm
    have hbad := hslash w (n2 ++ '-' :: z4) (by rw [hx2, hn]; simp)
    rw [p2_intro hp4 hdash] at hbad
    cases hbad
  -- so a slash lies to the right of `name-E:`, where the old string has the same rest
  have hnone : lastSplit '/' (fun z => (p2 true z).isSome) (n ++ '-' :: (E ++ ':' :: (v ++ '-' :: z6))) = none := by
    apply lastSplit_none_intro
    intro w z hw
    have hn' : '/' ∉ (n ++ ['-']) ++ (E ++ [':']) := by
      simp only [List.mem_append, List.mem_singleton, not_or] at hP's ⊢
      exact ⟨⟨hn, by decide⟩, hP's⟩
    obtain ⟨w2, _, hT⟩ := split_right_of_not_mem hn' (T := v ++ '-' :: z6) (by rw [← hw]; simp)
    exact hslash (n ++ '-' :: (P ++ w2)) z (by rw [hx2, hz4, hT]; simp)
  unfold canonStr p1
  rw [hz6] at hnone hp2'
  rw [hnone]
  exact hp2'

theorem p1_shape {x n : Str} {ep : Option Str} {v rl a : Str} (h : p1 true x = some (n, ep, v, rl, a)) :
    (∃ pre P, x = pre ++ (n ++ '-' :: (P ++ (v ++ '-' :: (rl ++ '.' :: a))))) ∧ '.' ∉ a := by
  obtain ⟨pre, x2, hx, h2, _⟩ := p1_spec h
  obtain ⟨z4, hx2, hp4, _⟩ := p2_spec h2
  obtain ⟨P, z6, hz4, hp6, _, _⟩ := p4_spec hp4
  obtain ⟨hz6, hdot⟩ := p6_spec hp6
  exact ⟨⟨pre, P, by rw [hx, hx2, hz4, hz6]⟩, hdot⟩

theorem p5_no_dash {z : Str} (h : '-' ∉ z) : p5 true z = none := by
  unfold p5; rw [lastSplit_not_mem _ _ h]

theorem p4_no_dash {z : Str} (h : '-' ∉ z) : p4 true z = none := by
  unfold p4
  cases hes : epochSplit z with
  | none => simp [p5_no_dash h]
  | some Dy =>
    obtain ⟨D, y⟩ := Dy
    have hy : '-' ∉ y := by rw [(epochSplit_spec hes).1] at h; exact not_mem_after h
    simp [p5_no_dash h, p5_no_dash hy]

theorem not_mem_fmtBase {x : Char} {name : Str} {ep : Option Nat} {ver rel arch : Str} (h1 : x ≠ '-') (h2 : x ≠ '.')
    (h3 : x.toNat < 48 ∨ 58 < x.toNat) (hn : x ∉ name) (hv : x ∉ ver) (hr : x ∉ rel) (ha : x ∉ arch) :
    x ∉ fmtBase name ep ver rel arch := by
  simp only [fmtBase, List.mem_append, List.mem_cons, not_or]
  exact ⟨hn, h1, epStr_not_mem ep x h3, hv, h1, hr, h2, ha⟩

theorem p1_fmt {dir name : Str} {ep : Option Nat} {ver rel arch : Str} (h : Dom dir name ep ver rel arch) :
    p1 true (dir ++ fmtBase name ep ver rel arch) = some (name, ep.map Str.natStr, ver, rel, arch) := by
  have h6 : p6 true (rel ++ '.' :: arch) = some (rel, arch) := lastSplit_last '.' _ rel h.arch_dot rfl
  have hd6 : '-' ∉ rel ++ '.' :: arch := by simp [h.rel_dash, h.arch_dash]
  have h5 : p5 true (ver ++ '-' :: (rel ++ '.' :: arch)) = some (ver, rel, arch) :=
    p5_intro h6 fun w z hz => absurd (hz ▸ List.mem_append_right w List.mem_cons_self) hd6
  have h4 : p4 true (epStr ep ++ (ver ++ '-' :: (rel ++ '.' :: arch))) = some (ep.map Str.natStr, ver, rel, arch) := by
    unfold p4
    cases ep with
    | some e =>
      simp only [epStr, List.append_assoc, List.cons_append, List.nil_append]
      rw [epochSplit_of _ _ (natStr_ne_nil e) fun c hc => (natStr_dig e c hc).cls]
      simp [h5]
    | none =>
      cases hes : epochSplit (ver ++ '-' :: (rel ++ '.' :: arch)) with
      | none => simp [epStr, hes, h5]
      | some Dy =>
        -- a digit run and a colon in front would put the colon into the version, or the dash into the digits
        exfalso
        obtain ⟨hx, _, hD⟩ := epochSplit_spec hes
        obtain ⟨w2, hw, hT⟩ := split_right_of_not_mem (h.ver_colon rfl) hx
        cases w2 with
        | nil => simp at hT
        | cons y ys =>
          simp only [List.cons_append, List.cons.injEq] at hT
          have := hD '-' (by rw [hw, ← hT.1]; exact List.mem_append_right _ List.mem_cons_self)
          rw [dash_not_digit] at this; cases this
  have h2 : p2 true (fmtBase name ep ver rel arch) = some (name, ep.map Str.natStr, ver, rel, arch) :=
    p2_intro h4 fun w z hz => by
      have ha : '-' ∉ epStr ep ++ ver := by
        simp only [List.mem_append, not_or]; exact ⟨epStr_not_mem ep '-' (by decide), h.ver_dash⟩
      rw [p4_no_dash (no_later_delim ha hd6 (by rw [List.append_assoc]; exact hz))]; rfl
  have hs : '/' ∉ fmtBase name ep ver rel arch :=
    not_mem_fmtBase (by decide) (by decide) (by decide) h.name_slash h.ver_slash h.rel_slash h.arch_slash
  unfold p1
  rcases h.dir_shape with rfl | ⟨d, rfl⟩
  · rw [List.nil_append, lastSplit_not_mem _ _ hs]; exact h2
  · rw [List.append_assoc, List.singleton_append, lastSplit_last '/' _ d hs (by simp [h2])]; exact h2

theorem line_of_no_nl {c : Str} (h : '\n' ∉ c) : c.takeWhile Cls.any.mem = c ∧ c.dropWhile Cls.any.mem = [] := by
  simpa using line_append h (r := []) fun _ _ h => by cases h

theorem parseNvraDirect_ok {s : Str} {p : Nvra} (h : parseNvraDirect s = .ok p) :
    ∃ n ep v rl a E, p1 true ((stripRpm s).takeWhile Cls.any.mem) = some (n, ep, v, rl, a)
      ∧ p = { name := some n, epoch := E, version := some v, release := some rl, arch := some a }
      ∧ (Str.natStr E).length ≤ intMaxStrDigits := by
  unfold parseNvraDirect at h
  simp only at h
  cases he : isEol ((stripRpm s).dropWhile Cls.any.mem) with
  | false => rw [he, p1_false] at h; cases h
  | true =>
    rw [he] at h
    cases hp1 : p1 true ((stripRpm s).takeWhile Cls.any.mem) with
    | none => rw [hp1] at h; cases h
    | some q =>
      obtain ⟨n, ep, v, rl, a⟩ := q
      rw [hp1] at h
      simp only at h
      cases ep with
      | none =>
        simp only [Except.map, Except.ok.injEq] at h
        exact ⟨n, none, v, rl, a, 0, rfl, h.symm, by decide⟩
      | some D =>
        simp only at h
        cases hv : pyIntDigits D with
        | error e => rw [hv] at h; cases h
        | ok E =>
          rw [hv] at h
          simp only [Except.map, Except.ok.injEq] at h
          exact ⟨n, some D, v, rl, a, E, rfl, h.symm, pyIntDigits_canon hv⟩

/-- `E` need not be the value of `ep`: `name-E:version-release.arch` parses with any epoch in that place (`p1_canon`) -/
theorem parseNvraDirect_canon {x n : Str} {ep : Option Str} {v rl a : Str} {E : Nat} (hx : '\n' ∉ x)
    (hp1 : p1 true x = some (n, ep, v, rl, a)) (hlen : (Str.natStr E).length ≤ intMaxStrDigits)
    (harch : a ≠ ['r', 'p', 'm']) :
    parseNvraDirect (canonStr n (Str.natStr E) v rl a)
      = .ok { name := some n, epoch := E, version := some v, release := some rl, arch := some a } := by
  obtain ⟨⟨pre, P, hshape⟩, hdot⟩ := p1_shape hp1
  have hnl : '\n' ∉ canonStr n (Str.natStr E) v rl a := by
    rw [hshape] at hx
    have hd : '\n' ∉ Str.natStr E := fun hm => (natStr_dig E _ hm).ne (by decide) rfl
    simp only [List.mem_append, List.mem_cons, not_or] at hx
    obtain ⟨_, hn, _, _, hv, _, hrl, _, ha⟩ := hx
    simp only [canonStr, List.mem_append, List.mem_cons, not_or]
    exact ⟨hn, by decide, hd, by decide, hv, by decide, hrl, by decide, ha⟩
  have hstrip : stripRpm (canonStr n (Str.natStr E) v rl a) = canonStr n (Str.natStr E) v rl a := by
    have := stripRpm_other (n ++ '-' :: (Str.natStr E ++ ':' :: (v ++ '-' :: rl))) a hdot harch
    simpa [canonStr] using this
  obtain ⟨hl1, hl2⟩ := line_of_no_nl hnl
  unfold parseNvraDirect
  simp only [hstrip, hl1, hl2]
  rw [show isEol ([] : Str) = true from rfl, p1_canon hp1 (natStr_ne_nil E) fun c hc => (natStr_dig E c hc).cls]
  simp only [pyIntDigits_natStr E hlen, Except.map]

end PM.NvraFix
