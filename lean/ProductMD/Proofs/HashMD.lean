import ProductMD.Model.HashMD
/-!
# The streaming law of block-buffered hashes (C16)

For EVERY block size > 0, EVERY compression function and all byte strings:
`update (update h a) b = update h (a ++ b)`, `update h [] = h` (for hash objects whose pending buffer is shorter
than a block – the initial object and every object `update` returns), and hence feeding any list of chunks one by
one gives the same object as feeding their concatenation at once.  No bound on sizes; nothing is assumed of `compress`.

Then the Merkle–Damgård padding `mdPad` (pending bytes, 0x80, zeros, bit length): its length (`mdPad_length`,
`mdPad_blocks`), that absorbing it leaves nothing pending, and that it starts with the pending bytes (`mdPad_prefix`).
-/
namespace PM
namespace HashMD

variable {S : Type}

theorem absorb_small (bs : Nat) (f : S → Bytes → S) (fuel : Nat) (s : S) (buf : Bytes) (h : buf.length < bs) :
    absorb bs f fuel s buf = (s, buf) := by
  cases fuel with
  | zero => rfl
  | succ n =>
    have : (buf.take bs).length ≠ bs := by simp only [List.length_take]; omega
    simp only [absorb, this, if_false]

theorem absorb_step (bs : Nat) (f : S → Bytes → S) (fuel : Nat) (s : S) (buf : Bytes) (h : bs ≤ buf.length) :
    absorb bs f (fuel + 1) s buf = absorb bs f fuel (f s (buf.take bs)) (buf.drop bs) := by
  have : (buf.take bs).length = bs := by simp only [List.length_take]; omega
  simp only [absorb, this, if_true]

theorem absorb_fuel (bs : Nat) (hbs : 0 < bs) (f : S → Bytes → S) :
    ∀ (f1 f2 : Nat) (s : S) (buf : Bytes), buf.length ≤ f1 → buf.length ≤ f2 → absorb bs f f1 s buf = absorb bs f f2 s buf := by
  intro f1
  induction f1 with
  | zero =>
    intro f2 s buf h1 _
    rw [absorb_small bs f 0 s buf (by omega), absorb_small bs f f2 s buf (by omega)]
  | succ n ih =>
    intro f2 s buf h1 h2
    by_cases hb : bs ≤ buf.length
    · cases f2 with
      | zero => omega
      | succ m =>
        rw [absorb_step bs f n s buf hb, absorb_step bs f m s buf hb]
        exact ih m _ _ (by simp only [List.length_drop]; omega) (by simp only [List.length_drop]; omega)
    · rw [absorb_small bs f _ s buf (by omega), absorb_small bs f f2 s buf (by omega)]

theorem absorbAll_small (bs : Nat) (f : S → Bytes → S) (s : S) (buf : Bytes) (h : buf.length < bs) :
    absorbAll bs f s buf = (s, buf) := absorb_small bs f _ s buf h

theorem absorbAll_step (bs : Nat) (hbs : 0 < bs) (f : S → Bytes → S) (s : S) (buf : Bytes) (h : bs ≤ buf.length) :
    absorbAll bs f s buf = absorbAll bs f (f s (buf.take bs)) (buf.drop bs) := by
  unfold absorbAll
  obtain ⟨n, hn⟩ : ∃ n, buf.length = n + 1 := ⟨buf.length - 1, by omega⟩
  rw [hn, absorb_step bs f n s buf h]
  exact absorb_fuel bs hbs f _ _ _ _ (by simp only [List.length_drop]; omega) (Nat.le_refl _)

theorem absorbAll_pending (bs : Nat) (hbs : 0 < bs) (f : S → Bytes → S) (s : S) (buf : Bytes) :
    (absorbAll bs f s buf).2.length = buf.length % bs := by
  by_cases hb : bs ≤ buf.length
  · rw [absorbAll_step bs hbs f s buf hb, absorbAll_pending bs hbs f _ (buf.drop bs), List.length_drop]
    exact (Nat.mod_eq_sub_mod hb).symm
  · rw [absorbAll_small bs f s buf (by omega)]
    exact (Nat.mod_eq_of_lt (Nat.lt_of_not_le hb)).symm
termination_by buf.length
decreasing_by simp only [List.length_drop]; omega

/-- The heart of the streaming law: what absorbing `x` leaves pending is all of `x` that absorbing `x ++ y` has yet to see. -/
theorem absorbAll_append (bs : Nat) (hbs : 0 < bs) (f : S → Bytes → S) (s : S) (x y : Bytes) :
    absorbAll bs f s (x ++ y) = absorbAll bs f (absorbAll bs f s x).1 ((absorbAll bs f s x).2 ++ y) := by
  by_cases hb : bs ≤ x.length
  · rw [absorbAll_step bs hbs f s (x ++ y) (by simp only [List.length_append]; omega),
      absorbAll_step bs hbs f s x hb, List.take_append_of_le_length hb, List.drop_append_of_le_length hb]
    exact absorbAll_append bs hbs f _ (x.drop bs) y
  · rw [absorbAll_small bs f s x (by omega)]
termination_by x.length
decreasing_by simp only [List.length_drop]; omega

theorem update_update (A : Alg S) (hbs : 0 < A.blockSize) (h : State S) (a b : Bytes) :
    update A (update A h a) b = update A h (a ++ b) := by
  simp only [update, ← List.append_assoc, List.length_append, Nat.add_assoc]
  rw [absorbAll_append A.blockSize hbs A.compress h.cv (h.pending ++ a) b]

def State.WF (A : Alg S) (h : State S) : Prop := h.pending.length < A.blockSize

theorem init_wf (A : Alg S) (hbs : 0 < A.blockSize) : (init A).WF A := by
  simpa [State.WF, init] using hbs

theorem update_wf (A : Alg S) (hbs : 0 < A.blockSize) (h : State S) (a : Bytes) : (update A h a).WF A := by
  rw [State.WF, update, absorbAll_pending A.blockSize hbs]
  exact Nat.mod_lt _ hbs

theorem update_nil (A : Alg S) (h : State S) (hw : h.WF A) : update A h [] = h := by
  cases h with
  | mk cv p t =>
    simp only [update, List.append_nil, List.length_nil, Nat.add_zero]
    rw [absorbAll_small A.blockSize A.compress cv p hw]

theorem foldl_update (A : Alg S) (hbs : 0 < A.blockSize) (chunks : List Bytes) (h : State S) (hw : h.WF A) :
    chunks.foldl (update A) h = update A h chunks.flatten := by
  induction chunks generalizing h with
  | nil => simp only [List.foldl_nil, List.flatten_nil]; exact (update_nil A h hw).symm
  | cons c rest ih =>
    simp only [List.foldl_cons, List.flatten_cons]
    rw [ih _ (update_wf A hbs h c), update_update A hbs]

theorem digest_foldl_update (A : Alg S) (hbs : 0 < A.blockSize) (chunks : List Bytes) :
    digest A (chunks.foldl (update A) (init A)) = hashBytes A chunks.flatten := by
  rw [foldl_update A hbs chunks (init A) (init_wf A hbs)]
  rfl

theorem hashBytes_eq (A : Alg S) (data : Bytes) :
    hashBytes A data = A.finish (absorbAll A.blockSize A.compress A.iv data).1
      (absorbAll A.blockSize A.compress A.iv data).2 data.length := by
  simp [hashBytes, digest, update, init]

theorem natToBytesLE_length : ∀ (k n : Nat), (natToBytesLE n k).length = k := by
  intro k
  induction k with
  | zero => intro n; rfl
  | succ k ih => intro n; simp [natToBytesLE, ih]

theorem mdPad_length (bs lb : Nat) (be : Bool) (pending : Bytes) (total : Nat) :
    (mdPad bs lb be pending total).length
      = pending.length + 1 + lb + (bs - (pending.length + 1 + lb) % bs) % bs := by
  unfold mdPad
  cases be <;> simp [natToBytesBE, natToBytesLE_length] <;> omega

/-- a whole number of blocks, and the shortest that holds the pending bytes, the 0x80 byte and the length field -/
theorem mdPad_blocks (bs lb : Nat) (hbs : 0 < bs) (be : Bool) (pending : Bytes) (total : Nat) :
    (mdPad bs lb be pending total).length % bs = 0
    ∧ pending.length + 1 + lb ≤ (mdPad bs lb be pending total).length
    ∧ (mdPad bs lb be pending total).length < pending.length + 1 + lb + bs := by
  rw [mdPad_length]
  generalize pending.length + 1 + lb = n
  have hd := Nat.div_add_mod n bs
  have hr : n % bs < bs := Nat.mod_lt _ hbs
  by_cases h0 : n % bs = 0
  · rw [h0, Nat.sub_zero, Nat.mod_self, Nat.add_zero]
    exact ⟨h0, Nat.le_refl _, by omega⟩
  · have hk : (bs - n % bs) % bs = bs - n % bs := Nat.mod_eq_of_lt (by omega)
    rw [hk]
    refine ⟨?_, by omega, by omega⟩
    have : n + (bs - n % bs) = bs * (n / bs + 1) := by rw [Nat.mul_add, Nat.mul_one]; omega
    rw [this, Nat.mul_mod_right]

theorem absorbAll_mdPad_consumed (bs lb : Nat) (hbs : 0 < bs) (be : Bool) (f : S → Bytes → S) (cv : S) (pending : Bytes) (total : Nat) :
    (absorbAll bs f cv (mdPad bs lb be pending total)).2 = [] := by
  apply List.eq_nil_of_length_eq_zero
  rw [absorbAll_pending bs hbs f cv]
  exact (mdPad_blocks bs lb hbs be pending total).1

theorem mdPad_prefix (bs lb : Nat) (be : Bool) (pending : Bytes) (total : Nat) :
    pending ++ [0x80] <+: mdPad bs lb be pending total := by
  unfold mdPad
  refine ⟨List.replicate ((bs - (pending.length + 1 + lb) % bs) % bs) 0 ++ (if be then natToBytesBE (total * 8) lb else natToBytesLE (total * 8) lb), ?_⟩
  simp

end HashMD
end PM
