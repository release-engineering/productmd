import ProductMD.Model.Gate
/-!
Python's comparison of version tuples is a total order.  A proof about a gate uses these facts, and closed comparisons
(`by decide`), instead of unfolding both sides to arithmetic.  The model writes the same two comparisons four more times:
`CI.verLt` (Model/ComposeInfo), `CI.vLt` / `CI.vLe` (Model/ComposeInfoDown) and `TI.tupleLe` (Model/TreeInfo) are `verLt` / `verLe`
word for word.  The lemmas apply to them through definitional unfolding only: `exact`, `▸` and a type ascription see through the
names, `rw` and `simp` with one of these lemmas do not find `CI.vLe …` in a goal (restate the hypothesis with `verLe` first).
-/
namespace PM

theorem verLt_eq_not_verLe (a b : Nat × Nat) : verLt a b = !verLe b a := by
  obtain ⟨a1, a2⟩ := a
  obtain ⟨b1, b2⟩ := b
  rw [Bool.eq_iff_iff]
  simp only [verLt, verLe, Bool.or_eq_true, Bool.and_eq_true, decide_eq_true_eq, beq_iff_eq, Bool.not_eq_true',
    Bool.or_eq_false_iff, Bool.and_eq_false_iff, decide_eq_false_iff_not, beq_eq_false_iff_ne]
  omega

theorem verLe_of_verLt_false {a b : Nat × Nat} (h : verLt a b = false) : verLe b a = true := by
  rw [verLt_eq_not_verLe] at h
  simpa using h

theorem verLt_false_of_verLe {a b : Nat × Nat} (h : verLe a b = true) : verLt b a = false := by
  rw [verLt_eq_not_verLe, h]
  rfl

theorem verLt_of_verLe_false {a b : Nat × Nat} (h : verLe a b = false) : verLt b a = true := by
  rw [verLt_eq_not_verLe, h]
  rfl

theorem verLe_false_of_verLt {a b : Nat × Nat} (h : verLt a b = true) : verLe b a = false := by
  rw [verLt_eq_not_verLe] at h
  simpa using h

theorem verLe_trans {a b c : Nat × Nat} (h1 : verLe a b = true) (h2 : verLe b c = true) : verLe a c = true := by
  obtain ⟨a1, a2⟩ := a
  obtain ⟨b1, b2⟩ := b
  obtain ⟨c1, c2⟩ := c
  simp only [verLe, Bool.or_eq_true, Bool.and_eq_true, decide_eq_true_eq, beq_iff_eq] at h1 h2 ⊢
  omega

theorem verLt_of_verLt_of_verLe {a b c : Nat × Nat} (h1 : verLt a b = true) (h2 : verLe b c = true) : verLt a c = true := by
  -- otherwise `c ≤ a`, so `b ≤ a` by transitivity, against `a < b`
  refine verLt_of_verLe_false (Bool.eq_false_iff.mpr fun h => ?_)
  have hba := verLe_false_of_verLt h1
  rw [verLe_trans h2 h] at hba
  cases hba

theorem verLt_of_verLe_of_verLt {a b c : Nat × Nat} (h1 : verLe a b = true) (h2 : verLt b c = true) : verLt a c = true := by
  -- otherwise `c ≤ a`, so `c ≤ b` by transitivity, against `b < c`
  refine verLt_of_verLe_false (Bool.eq_false_iff.mpr fun h => ?_)
  have hcb := verLe_false_of_verLt h2
  rw [verLe_trans h h1] at hcb
  cases hcb

end PM
