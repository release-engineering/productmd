import ProductMD.Proofs.TreeInfoWriter
import ProductMD.Spec.TIWords
/-!
Lookups in the written document: which part of `docList` answers for which section name (the sections of the forest are those
of its nodes, `flatVs_eq_map`); and when its section names are pairwise distinct (`docList_nodup`), which with the `validate()`
calls and the look-ups of `[general]` is all `serialize` needs in order to succeed (`serialize_conv`).
-/
namespace PM
namespace TI
open Ini

/-- `k` starts with `a` or `v`, as `addon-*` and `variant-*` do and no other section name of the document -/
def headAV (k : Str) : Prop := k.head? = some 'a' ∨ k.head? = some 'v'

instance (k : Str) : Decidable (headAV k) := by unfold headAV; infer_instance

theorem pAddon_eq : pAddon = ['a', 'd', 'd', 'o', 'n', '-'] := by decide
theorem pVariant_eq : pVariant = ['v', 'a', 'r', 'i', 'a', 'n', 't', '-'] := by decide
theorem pImages_eq : pImages = ['i', 'm', 'a', 'g', 'e', 's', '-'] := by decide

theorem secName_headAV (type uid : Str) : headAV (secName type uid) := by
  unfold secName headAV
  split
  · left; rw [pAddon_eq]; rfl
  · right; rw [pVariant_eq]; rfl

/-- the section a node of the forest is written as -/
def secOf (x : Option Str × Variant) : Str × IniSec := (secName x.2.type x.2.uid, varOpts x.1 x.2)

mutual
theorem flatV_eq_map : ∀ (v : Variant) (pu : Option Str), flatV pu v = ((subV pu v).map secOf).reverse
  | .mk key id uid name type paths kids, pu => by
    rw [flatV, subV, List.map_cons, List.reverse_cons, flatVs_eq_map kids (some uid)]; rfl
theorem flatVs_eq_map : ∀ (vs : List Variant) (pu : Option Str), flatVs pu vs = ((subVs pu vs).map secOf).reverse
  | [], _ => rfl
  | v :: vs, pu => by rw [flatVs, subVs, List.map_append, List.reverse_append, flatV_eq_map v pu, flatVs_eq_map vs pu]
end

mutual
theorem namesV_eq_map : ∀ (v : Variant) (pu : Option Str), namesV v = (subV pu v).map fun x => secName x.2.type x.2.uid
  | .mk key id uid name type paths kids, pu => by
    rw [namesV, subV, List.map_cons, namesVs_eq_map kids (some uid)]; rfl
theorem namesVs_eq_map : ∀ (vs : List Variant) (pu : Option Str), namesVs vs = (subVs pu vs).map fun x => secName x.2.type x.2.uid
  | [], _ => rfl
  | v :: vs, pu => by rw [namesVs, subVs, List.map_append, namesV_eq_map v pu, namesVs_eq_map vs pu]
end

/-- `Variant.validate()` of one node, with the UID of its parent -/
def NodeValid (x : Option Str × Variant) : Prop :=
  validateClass "treeinfo.Variant" (variantObj x.1 x.2.id x.2.uid x.2.name x.2.type x.2.kids) = .ok ()

mutual
theorem validV_iff_nodes : ∀ (v : Variant) (pu : Option Str), ValidV pu v ↔ ∀ x ∈ subV pu v, NodeValid x
  | .mk key id uid name type paths kids, pu => by
    rw [ValidV, subV, List.forall_mem_cons, validVs_iff_nodes kids (some uid)]; rfl
theorem validVs_iff_nodes : ∀ (vs : List Variant) (pu : Option Str), ValidVs pu vs ↔ ∀ x ∈ subVs pu vs, NodeValid x
  | [], _ => by simp [ValidVs, subVs]
  | v :: vs, pu => by rw [ValidVs, subVs, List.forall_mem_append, validV_iff_nodes v pu, validVs_iff_nodes vs pu]
end

theorem namesVs_perm (vs : List Variant) (pu : Option Str) : (namesVs vs).Perm ((flatVs pu vs).map (·.1)) := by
  rw [namesVs_eq_map vs pu, flatVs_eq_map, List.map_reverse, List.map_map]
  exact (List.reverse_perm _).symm

theorem mem_flatVs {vs : List Variant} {pu : Option Str} {e : Str × IniSec} : e ∈ flatVs pu vs ↔ ∃ x ∈ subVs pu vs, secOf x = e := by
  rw [flatVs_eq_map, List.mem_reverse, List.mem_map]

theorem flatVs_keys_headAV (vs : List Variant) (pu : Option Str) : ∀ k ∈ (flatVs pu vs).map (·.1), headAV k := by
  intro k hk
  obtain ⟨e, he, rfl⟩ := List.mem_map.mp hk
  obtain ⟨x, _, rfl⟩ := mem_flatVs.mp he
  exact secName_headAV _ _

theorem imgFlat_eq : ∀ l : List (Str × List (Str × Str)),
    imgFlat l = (l.map fun p => (pImages ++ p.1, setsKV [] p.2)).reverse
  | [] => rfl
  | p :: ps => by simp [imgFlat, imgFlat_eq ps]

theorem imgFlat_keys (ps : List (Str × List (Str × Str))) : (imgFlat ps).map (·.1) = (ps.map fun p => pImages ++ p.1).reverse := by
  rw [imgFlat_eq, List.map_reverse, List.map_map]; rfl

theorem mem_imgFlat (ps : List (Str × List (Str × Str))) (p : Str × List (Str × Str)) (h : p ∈ ps) :
    (pImages ++ p.1, setsKV [] p.2) ∈ imgFlat ps := by
  rw [imgFlat_eq, List.mem_reverse]
  exact List.mem_map.mpr ⟨p, h, rfl⟩

theorem imgFlat_keys_head (ps : List (Str × List (Str × Str))) : ∀ k ∈ (imgFlat ps).map (·.1), k.head? = some 'i' := by
  intro k hk
  rw [imgFlat_keys, List.mem_reverse] at hk
  obtain ⟨p, _, rfl⟩ := List.mem_map.mp hk
  rw [pImages_eq]; rfl

/-- the fixed-name sections of the document (everything except `variant-*`, `addon-*`, `images-*`) -/
def fixedList (t : TreeInfo) (g : IniSec) : List (Str × IniSec) :=
  [(sGeneral, g)] ++ (optSec (mediaOn t.discnum t.totaldiscs) sMedia (mediaOpts t.discnum t.totaldiscs)
  ++ (optSec (stage2On t.mainimage t.instimage) sStage2 (stage2Opts t.mainimage t.instimage)
  ++ (optSec (!t.checksums.isEmpty) sChecksums (checksumOpts t.checksums)
  ++ ([(sTree, treeOptsFull t)] ++ (baseL t ++ ([(sRelease, releaseOpts t.release t.isLayered)] ++ [(sHeader, headerOpts)]))))))

theorem L_fixed (t : TreeInfo) (g : IniSec) (s : Str) (h1 : ¬ headAV s) (h2 : s.head? ≠ some 'i') :
    (docList t g).lookup s = (fixedList t g).lookup s := by
  have hv : (flatVs none t.variants).lookup s = none := Assoc.lookup_none_iff.mpr fun hm => h1 (flatVs_keys_headAV _ _ s hm)
  have hi : (imgFlat t.images).lookup s = none := Assoc.lookup_none_iff.mpr fun hm => h2 (imgFlat_keys_head _ s hm)
  simp only [docList, fixedList, List.lookup_append, hv, hi]
  simp

def fixedNames : List Str := [sGeneral, sMedia, sStage2, sChecksums, sTree, sBase, sRelease, sHeader]

theorem fixedNames_plain : ∀ s ∈ fixedNames, ¬ headAV s ∧ s.head? ≠ some 'i' := by decide

theorem fixedNames_nodup : fixedNames.Nodup := by decide

/-- the sections with fixed names, present or not, in the order of `fixedNames` -/
def fixedTable (t : TreeInfo) (g : IniSec) : List (Str × Option IniSec) :=
  [(sGeneral, some g),
   (sMedia, if mediaOn t.discnum t.totaldiscs then some (mediaOpts t.discnum t.totaldiscs) else none),
   (sStage2, if stage2On t.mainimage t.instimage then some (stage2Opts t.mainimage t.instimage) else none),
   (sChecksums, if t.checksums.isEmpty then none else some (checksumOpts t.checksums)),
   (sTree, some (treeOptsFull t)),
   (sBase, if t.isLayered then t.baseProduct.map baseOpts' else none),
   (sRelease, some (releaseOpts t.release t.isLayered)),
   (sHeader, some headerOpts)]

theorem fixedTable_keys (t : TreeInfo) (g : IniSec) : (fixedTable t g).map (·.1) = fixedNames := rfl

theorem fixedList_eq (t : TreeInfo) (g : IniSec) : fixedList t g = Assoc.optsOf (fixedTable t g) := by
  have optSec_eq : ∀ (c : Bool) (s : Str) (o : IniSec), optSec c s o = Assoc.optsOf [(s, if c then some o else none)] := by
    intro c s o
    cases c <;> rfl
  have optSec_not_eq : ∀ (c : Bool) (s : Str) (o : IniSec), optSec (!c) s o = Assoc.optsOf [(s, if c then none else some o)] := by
    intro c s o
    cases c <;> rfl
  have baseL_eq : baseL t = Assoc.optsOf [(sBase, if t.isLayered then t.baseProduct.map baseOpts' else none)] := by
    unfold baseL
    cases t.isLayered <;> cases t.baseProduct <;> rfl
  unfold fixedList fixedTable
  rw [optSec_eq, optSec_eq, optSec_not_eq, baseL_eq]
  show Assoc.optsOf [(sGeneral, some g)] ++ (_ ++ (_ ++ (_ ++ (Assoc.optsOf [(sTree, some (treeOptsFull t))] ++ (_ ++
    (Assoc.optsOf [(sRelease, some (releaseOpts t.release t.isLayered))] ++ Assoc.optsOf [(sHeader, some headerOpts)])))))) = _
  simp only [← Assoc.optsOf_append]
  rfl

section fixed
variable (t : TreeInfo) (g : IniSec)

theorem L_of_mem {k : Str} {x : Option IniSec} (hm : (k, x) ∈ fixedTable t g) : (docList t g).lookup k = x := by
  have hk : k ∈ fixedNames := fixedTable_keys t g ▸ List.mem_map.mpr ⟨_, hm, rfl⟩
  have hp := fixedNames_plain k hk
  rw [L_fixed t g k hp.1 hp.2, fixedList_eq]
  exact Assoc.lookup_optsOf_of_mem (fixedTable_keys t g ▸ fixedNames_nodup) hm

theorem L_absent {s : Str} (h1 : ¬ headAV s) (h2 : s.head? ≠ some 'i') (h3 : s ∉ fixedNames) : (docList t g).lookup s = none := by
  rw [L_fixed t g s h1 h2, fixedList_eq]
  exact Assoc.lookup_none_iff.mpr fun h => h3 (fixedTable_keys t g ▸ (Assoc.optsOf_keys_sublist _).subset h)

theorem L_general : (docList t g).lookup sGeneral = some g :=
  L_of_mem t g (List.getElem_mem (l := fixedTable t g) (n := 0) (by decide : 0 < 8))

theorem L_media : (docList t g).lookup sMedia =
    if mediaOn t.discnum t.totaldiscs then some (mediaOpts t.discnum t.totaldiscs) else none :=
  L_of_mem t g (List.getElem_mem (l := fixedTable t g) (n := 1) (by decide : 1 < 8))

theorem L_stage2 : (docList t g).lookup sStage2 =
    if stage2On t.mainimage t.instimage then some (stage2Opts t.mainimage t.instimage) else none :=
  L_of_mem t g (List.getElem_mem (l := fixedTable t g) (n := 2) (by decide : 2 < 8))

theorem L_checksums : (docList t g).lookup sChecksums =
    if t.checksums.isEmpty then none else some (checksumOpts t.checksums) :=
  L_of_mem t g (List.getElem_mem (l := fixedTable t g) (n := 3) (by decide : 3 < 8))

theorem L_tree : (docList t g).lookup sTree = some (treeOptsFull t) :=
  L_of_mem t g (List.getElem_mem (l := fixedTable t g) (n := 4) (by decide : 4 < 8))

theorem L_base : (docList t g).lookup sBase = if t.isLayered then t.baseProduct.map baseOpts' else none :=
  L_of_mem t g (List.getElem_mem (l := fixedTable t g) (n := 5) (by decide : 5 < 8))

theorem L_release : (docList t g).lookup sRelease = some (releaseOpts t.release t.isLayered) :=
  L_of_mem t g (List.getElem_mem (l := fixedTable t g) (n := 6) (by decide : 6 < 8))

theorem L_header : (docList t g).lookup sHeader = some headerOpts :=
  L_of_mem t g (List.getElem_mem (l := fixedTable t g) (n := 7) (by decide : 7 < 8))

end fixed

theorem header_written {t : TreeInfo} {mv : Option Str} {d : Ini} (h : serialize t mv = .ok d) : d.lookup sHeader = some headerOpts := by
  obtain ⟨n0, key, chosen, w⟩ := serialize_spec h
  rw [w.look, L_header]

theorem docList_perm (t : TreeInfo) (g : IniSec) :
    (docList t g).Perm (fixedList t g ++ (imgFlat t.images ++ flatVs none t.variants)) := by
  unfold docList fixedList
  simp only [List.append_assoc]
  -- `[general]`, `[media]`, `[stage2]` stand first on both sides
  refine List.Perm.append_left _ (List.Perm.append_left _ (List.Perm.append_left _ ?_))
  -- `imgFlat` goes behind everything that follows it, and `[checksums]` is in place
  refine List.perm_append_comm.trans ?_
  rw [List.append_assoc]
  refine List.Perm.append_left _ ?_
  -- `flatVs` goes behind the fixed-name sections that follow it; the last step exchanges it with `imgFlat`
  refine (List.Perm.append_right _ List.perm_append_comm).trans ?_
  simp only [List.append_assoc]
  exact List.Perm.append_left _ (List.Perm.append_left _ (List.Perm.append_left _ (List.Perm.append_left _ List.perm_append_comm)))

theorem mem_docList {t : TreeInfo} {g : IniSec} {e : Str × IniSec} (h : e ∈ docList t g) :
    e ∈ flatVs none t.variants ∨ e ∈ imgFlat t.images ∨ e ∈ fixedList t g := by
  rcases List.mem_append.mp ((docList_perm t g).mem_iff.mp h) with h | h
  · exact .inr (.inr h)
  · exact (List.mem_append.mp h).elim (fun h => .inr (.inl h)) .inl

theorem mem_keys_fixedList {t : TreeInfo} {g : IniSec} {s : Str} (h : s ∈ (fixedList t g).map (·.1)) : s ∈ fixedNames := by
  rw [fixedList_eq] at h
  exact fixedTable_keys t g ▸ (Assoc.optsOf_keys_sublist _).subset h

theorem mem_keys_docList {t : TreeInfo} {g : IniSec} {s : Str} (h : s ∈ (docList t g).map (·.1)) :
    headAV s ∨ s.head? = some 'i' ∨ s ∈ fixedNames := by
  obtain ⟨e, he, rfl⟩ := List.mem_map.mp h
  rcases mem_docList he with h | h | h
  · exact .inl (flatVs_keys_headAV _ _ _ (List.mem_map.mpr ⟨e, h, rfl⟩))
  · exact .inr (.inl (imgFlat_keys_head _ _ (List.mem_map.mpr ⟨e, h, rfl⟩)))
  · exact .inr (.inr (mem_keys_fixedList (List.mem_map.mpr ⟨e, h, rfl⟩)))

theorem default_not_mem_docList (t : TreeInfo) (g : IniSec) : DEFAULT ∉ (docList t g).map (·.1) := fun hm => by
  rcases mem_keys_docList hm with h | h | h <;> revert h <;> decide

theorem flatVs_sublist_docList (t : TreeInfo) (g : IniSec) : (flatVs none t.variants).Sublist (docList t g) := by
  unfold docList
  iterate 5 apply List.sublist_append_of_sublist_right
  exact List.sublist_append_left _ _

theorem imgFlat_sublist_docList (t : TreeInfo) (g : IniSec) : (imgFlat t.images).Sublist (docList t g) := by
  unfold docList
  iterate 3 apply List.sublist_append_of_sublist_right
  exact List.sublist_append_left _ _

theorem L_variant {t : TreeInfo} {g : IniSec} (hn : ((docList t g).map (·.1)).Nodup) (x : Option Str × Variant)
    (hx : x ∈ subVs none t.variants) : (docList t g).lookup (secName x.2.type x.2.uid) = some (varOpts x.1 x.2) :=
  Assoc.lookup_of_mem_nodup hn ((flatVs_sublist_docList t g).subset (mem_flatVs.mpr ⟨x, hx, rfl⟩))

theorem L_variant_inv {t : TreeInfo} {g : IniSec} {s : Str} {o : IniSec} (hs : headAV s)
    (h : (docList t g).lookup s = some o) : ∃ x ∈ subVs none t.variants, s = secName x.2.type x.2.uid ∧ o = varOpts x.1 x.2 := by
  rcases mem_docList (Assoc.mem_of_lookup h) with hm | hm | hm
  · obtain ⟨x, hx, hxe⟩ := mem_flatVs.mp hm
    exact ⟨x, hx, (Prod.mk.inj hxe).1.symm, (Prod.mk.inj hxe).2.symm⟩
  · have := imgFlat_keys_head _ s (List.mem_map.mpr ⟨_, hm, rfl⟩)
    rcases hs with h' | h' <;> rw [h'] at this <;> cases this
  · exact absurd hs (fixedNames_plain s (mem_keys_fixedList (List.mem_map.mpr ⟨_, hm, rfl⟩))).1

theorem L_images {t : TreeInfo} {g : IniSec} (hn : ((docList t g).map (·.1)).Nodup) (p : Str × List (Str × Str))
    (hp : p ∈ t.images) : (docList t g).lookup (pImages ++ p.1) = some (setsKV [] p.2) :=
  Assoc.lookup_of_mem_nodup hn ((imgFlat_sublist_docList t g).subset (mem_imgFlat t.images p hp))

theorem nodup_image_names {t : TreeInfo} {g : IniSec} (h : ((docList t g).map (·.1)).Nodup) :
    (t.images.map fun p => pImages ++ p.1).Nodup := by
  have := List.Nodup.sublist ((imgFlat_sublist_docList t g).map _) h
  rw [imgFlat_keys] at this
  exact (List.reverse_perm _).nodup_iff.mp this

/-- the other sections have fixed, distinct names, and the three kinds of name are told apart by their first character -/
theorem docList_nodup (t : TreeInfo) (g : IniSec) (h1 : (namesVs t.variants).Nodup) (h2 : (t.images.map fun p => pImages ++ p.1).Nodup) :
    ((docList t g).map (·.1)).Nodup := by
  refine ((docList_perm t g).map (·.1)).nodup_iff.mpr ?_
  rw [List.map_append, List.map_append, List.nodup_append, List.nodup_append]
  refine ⟨?_, ⟨?_, (namesVs_perm _ none).nodup_iff.mp h1, fun a ha b hb e => ?_⟩, fun a ha b hb e => ?_⟩
  · rw [fixedList_eq]
    exact (Assoc.optsOf_keys_sublist _).nodup (fixedTable_keys t g ▸ fixedNames_nodup)
  · rw [imgFlat_keys]
    exact (List.reverse_perm _).nodup_iff.mpr h2
  · have hi := imgFlat_keys_head _ a ha
    rcases flatVs_keys_headAV _ _ b hb with hb | hb <;> rw [← e, hi] at hb <;> cases hb
  · have hp := fixedNames_plain a (mem_keys_fixedList ha)
    rcases List.mem_append.mp hb with hb | hb
    · exact hp.2 (e ▸ imgFlat_keys_head _ b hb)
    · exact hp.1 (e ▸ flatVs_keys_headAV _ _ b hb)

/-- the fields of `WriteValid` (`media` with both disc numbers present), section names distinct (by `docList_nodup` it is enough to
ask it of the forest and of the image platforms) and the three look-ups of `[general]` -/
structure CanWrite (t : TreeInfo) (mv : Option Str) : Prop where
  header : validateClass "treeinfo.Header" (headerObj t.headerVersion) = .ok ()
  release : validateClass "treeinfo.Release" (releaseObj t.release t.isLayered) = .ok ()
  base : t.isLayered = true → ∃ p, t.baseProduct = some p ∧ validateClass "treeinfo.BaseProduct" (productObj p) = .ok ()
  tree : validateClass "treeinfo.Tree" (treeObj t.tree) = .ok ()
  tops : validateClass "treeinfo.Variants" (variantsObj t.variants) = .ok ()
  forest : ValidVs none t.variants
  checksums : validateClass "treeinfo.Checksums" (checksumsObj t.checksums) = .ok ()
  images : t.images.isEmpty = false → validateClass "treeinfo.Images" (imagesObj t.images t.tree.platforms) = .ok ()
  stage2 : stage2On t.mainimage t.instimage = true → validateClass "treeinfo.Stage2" (stage2Obj t.mainimage t.instimage) = .ok ()
  media : mediaOn t.discnum t.totaldiscs = true →
    validateClass "treeinfo.Media" (mediaObj t.discnum t.totaldiscs) = .ok () ∧ t.discnum.isSome ∧ t.totaldiscs.isSome
  namesForest : (namesVs t.variants).Nodup
  namesImages : (t.images.map fun p => pImages ++ p.1).Nodup
  ts : ∃ n, t.tree.ts.toInt = .ok n
  chosen : ∃ key v, chosenKey t.variants mv = .ok key ∧ getItem (key.length + 1) t.variants key = .ok v

/-- the converse of `serialize_ok` -/
theorem serialize_conv {t : TreeInfo} {mv : Option Str} (cw : CanWrite t mv) : ∃ d, serialize t mv = .ok d := by
  obtain ⟨n, hn⟩ := cw.ts
  obtain ⟨key, v, hkey, hv⟩ := cw.chosen
  have hnd := docList_nodup t (generalOpts t n key v) cw.namesForest cw.namesImages
  exact ⟨_, (serialize_iff t mv _).mpr ⟨n, key, v, hn, hkey, hv,
    ⟨⟨cw.header, cw.release, cw.base, cw.tree, cw.tops, cw.forest, cw.checksums, cw.images, cw.stage2, fun h => (cw.media h).1⟩,
      fun h => (cw.media h).2⟩, Fresh.empty.mpr ⟨hnd, default_not_mem_docList t _⟩, rfl⟩⟩

end TI
end PM
