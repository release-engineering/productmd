import ProductMD.Proofs.Builders
import ProductMD.Model.RpmsLegacy
import ProductMD.Proofs.PyValEq
import ProductMD.Proofs.ExceptMatch
/-!
C10, rpms side: which architecture keys `Rpms.add` can create, inversion lemmas for the loops of the 0.3 reader
(`Model/RpmsLegacy.lean`), the invariants carried through them, and where the mapping stands in a document that is
loaded or written.
-/
namespace PM.Mf.C10
open PM
open PM.PyOps (iter subscript item pyEq)

def dictKeys : PyVal → List Str
  | .dict kvs => kvs.map (·.1)
  | _ => []

/-- every key on the second level of the mapping: the tree architectures of every variant (empty tables included) -/
def archKeys : PyVal → List Str
  | .dict kvs => kvs.flatMap fun kv => dictKeys kv.2
  | _ => []

/-- what the first two checks of `Rpms.add` let through -/
def Admissible (a : Str) : Prop := a ∈ Gen.RPM_ARCHES ∧ a ∉ srcArches

def KeysOK (s : PyVal) : Prop := ∀ x ∈ archKeys s, Admissible x

theorem mem_keys_put {kvs : Kvs} {k : Str} {c : PyVal} {x : Str} (h : x ∈ (put kvs k c).map (·.1)) :
    x = k ∨ x ∈ kvs.map (·.1) := by
  obtain ⟨y, hy, rfl⟩ := List.mem_map.mp h
  rcases mem_put hy with hy | rfl
  · exact .inr (List.mem_map_of_mem hy)
  · exact .inl rfl

theorem mem_flat_put {kvs : Kvs} {k : Str} {c : PyVal} {x : Str} (h : x ∈ (put kvs k c).flatMap (fun kv => dictKeys kv.2)) :
    x ∈ dictKeys c ∨ x ∈ kvs.flatMap (fun kv => dictKeys kv.2) := by
  obtain ⟨y, hy, hx⟩ := List.mem_flatMap.mp h
  rcases mem_put hy with hy | rfl
  · exact .inr (List.mem_flatMap.mpr ⟨y, hy, hx⟩)
  · exact .inl hx

theorem mem_archKeys_setPathS (f : PyVal → PyVal × Out) (v a : Str) (ks : List Str) (s : PyVal) (x : Str) :
    x ∈ archKeys (setPathS f (v :: a :: ks) s).1 → x = a ∨ x ∈ archKeys s := by
  cases s with
  | dict kvs =>
    rw [setPathS_dict_cons]
    simp only [archKeys]
    intro h
    rcases mem_flat_put h with h | h
    · -- the variant's own table
      cases hl : lookup kvs v with
      | none =>
        rw [hl] at h
        simp only [Option.getD_none, setPathS_dict_cons, dictKeys] at h
        rcases mem_keys_put h with e | e
        · exact Or.inl e
        · simp at e
      | some inner =>
        rw [hl] at h
        simp only [Option.getD_some] at h
        have hm := mem_of_lookup hl
        cases inner with
        | dict as =>
          rw [setPathS_dict_cons] at h
          simp only [dictKeys] at h
          rcases mem_keys_put h with e | e
          · exact Or.inl e
          · right
            exact List.mem_flatMap.mpr ⟨(v, .dict as), hm, by simpa [dictKeys] using e⟩
        | _ =>
          rw [setPathS_nondict_cons _ _ _ _ (by intro kvs' hh; cases hh)] at h
          simp [dictKeys] at h
    · exact Or.inr h
  | _ => intro h; simp [setPathS, archKeys] at h

theorem keysOK_add (s : PyVal) (a : RpmsArgs) (h : KeysOK s) : KeysOK (Rpms.add s a).1 := by
  rw [Rpms.add_eq]
  cases hc : rpmsCheck a with
  | error e => exact h
  | ok p =>
    have acc := rpmsCheck_ok hc
    intro x hx
    rcases mem_archKeys_setPathS _ _ _ _ _ x hx with rfl | hx'
    · exact ⟨acc.arch_known, acc.arch_binary⟩
    · exact h x hx'

theorem keysOK_run (h : List RpmsArgs) : ∀ s, KeysOK s → KeysOK (runRpms s h) :=
  fun _ hs => List.foldlRecOn (motive := KeysOK) h _ hs fun s hs a _ => keysOK_add s a hs

theorem keysOK_empty : KeysOK empty := by
  intro x hx; simp [empty, archKeys] at hx

theorem addDyn_ok {s s' : PyVal} {variant arch nevra : Str} {path sigkey category : PyVal} {srpm : Option Str}
    (h : addDyn s variant arch nevra path sigkey category srpm = .ok s') :
    ∃ (p cat : Str) (sk : Option Str), path = .str p ∧ category = .str cat ∧ sigkey = optStr sk ∧
      Rpms.add s { variant, arch, nevra, path := p, sigkey := sk, category := cat, srpm } = (s', .ok ()) := by
  -- the tests of `addDyn` in its order
  unfold addDyn at h
  split at h; · cases h
  split at h; · cases h
  split at h
  · rename_i cat
    split at h; · cases h
    split at h; · cases h
    split at h
    · rename_i p _
      simp only at h
      -- `sigkey` neither `None` nor a string (unmodelled)?
      split at h
      · cases h
      · rename_i sk hsk
        split at h
        · rename_i s1 hadd
          injection h with h
          subst h
          refine ⟨p, cat, sk, rfl, rfl, ?_, hadd⟩
          -- `hsk`: which of the three forms `sigkey` had
          split at hsk
          · injection hsk with hsk; subst hsk; rfl
          · injection hsk with hsk; subst hsk; rfl
          · cases hsk
        · cases h
    · cases h
  · cases h

/-- the second half of one iteration of the innermost loop: `if srpm_data is not None: self.add(... "source")`.  It is the inner
`match srpmData with …` of `loadRpms03` (Model/RpmsLegacy), which writes it inline. -/
def srcStep (variant arch srpm : Str) (srpmData : PyVal) (s1 : PyVal) : Except Err PyVal :=
  match srpmData with
  | .none => .ok s1
  | sd =>
    match item sd (lit "path") with
    | .error e => .error e
    | .ok sp =>
    match item sd (lit "sigkey") with
    | .error e => .error e
    | .ok sk => addDyn s1 variant arch srpm sp sk (.str sSource) none

theorem srcStep_ok {variant arch srpm : Str} {sd s1 s2 : PyVal} (h : srcStep variant arch srpm sd s1 = .ok s2) :
    (sd = .none ∧ s2 = s1) ∨ (sd ≠ .none ∧ ∃ sp sk, item sd (lit "path") = .ok sp ∧ item sd (lit "sigkey") = .ok sk ∧
      addDyn s1 variant arch srpm sp sk (.str sSource) none = .ok s2) := by
  unfold srcStep at h
  split at h
  · injection h with h; exact Or.inl ⟨rfl, h.symm⟩
  · rename_i hne
    right
    refine ⟨fun e => hne e, ?_⟩
    split at h; · cases h
    rename_i sp h1
    split at h; · cases h
    rename_i sk h2
    exact ⟨sp, sk, h1, h2, h⟩

/-- `if category == "package": category = "binary"`: the `let cat := …` of `loadRpms03`, which writes it inline -/
def cat03 (cat0 : PyVal) : PyVal := if pyEq cat0 (.str sPackage) then .str sBinary else cat0

theorem strKey_ok {x : PyVal} {a : Str} (h : strKey x = .ok a) : x = .str a := by
  cases x <;> simp [strKey] at h
  subst h; rfl

theorem loadRpms03_nil (variant arch srpm : Str) (sd : PyVal) (s : PyVal) :
    loadRpms03 variant arch srpm sd [] s = .ok s := rfl

theorem loadRpms03_cons {variant arch srpm : Str} {sd : PyVal} {nevra : Str} {data : PyVal} {rest : List (Str × PyVal)} {s s' : PyVal}
    (h : loadRpms03 variant arch srpm sd ((nevra, data) :: rest) s = .ok s') :
    ∃ cat0 path sigkey s1 s2, item data (lit "type") = .ok cat0 ∧ item data (lit "path") = .ok path ∧
      item data (lit "sigkey") = .ok sigkey ∧
      addDyn s variant arch nevra path sigkey (cat03 cat0) (some srpm) = .ok s1 ∧
      srcStep variant arch srpm sd s1 = .ok s2 ∧ loadRpms03 variant arch srpm sd rest s2 = .ok s' := by
  unfold loadRpms03 at h
  -- `cat03 cat0` and `srcStep …` in the statement are the inline terms of the definition: `exact` below unifies them by unfolding
  obtain ⟨cat0, h1, h⟩ := matchV_ok h
  obtain ⟨path, h2, h⟩ := matchV_ok h
  obtain ⟨sigkey, h3, h⟩ := matchV_ok h
  obtain ⟨s1, h4, h⟩ := matchV_ok h
  obtain ⟨s2, h5, h⟩ := matchV_ok h
  exact ⟨cat0, path, sigkey, s1, s2, h1, h2, h3, h4, h5, h⟩

theorem loadSrpms03_nil (variant arch : Str) (srcTable : PyVal) (s : PyVal) : loadSrpms03 variant arch srcTable [] s = .ok s := rfl

theorem loadSrpms03_cons {variant arch : Str} {srcTable : PyVal} {srpm : Str} {rpms : PyVal} {rest : List (Str × PyVal)} {s s' : PyVal}
    (h : loadSrpms03 variant arch srcTable ((srpm, rpms) :: rest) s = .ok s') :
    ∃ sd its s1, dictGetD srcTable srpm .none = .ok sd ∧ dictItems rpms = .ok its ∧
      loadRpms03 variant arch srpm sd its s = .ok s1 ∧ loadSrpms03 variant arch srcTable rest s1 = .ok s' := by
  unfold loadSrpms03 at h
  obtain ⟨sd, h1, h⟩ := matchV_ok h
  split at h; · cases h
  rename_i its h2
  obtain ⟨s1, h3, h⟩ := matchV_ok h
  exact ⟨sd, its, s1, h1, h2, h3, h⟩

theorem loadArches03_nil (variant : Str) (archs : PyVal) (s : PyVal) : loadArches03 variant archs [] s = .ok s := rfl

theorem loadArches03_cons {variant : Str} {archs a : PyVal} {rest : List PyVal} {s s' : PyVal}
    (h : loadArches03 variant archs (a :: rest) s = .ok s') :
    (pyEq a (.str sSrcArch) = true ∧ loadArches03 variant archs rest s = .ok s') ∨
    (pyEq a (.str sSrcArch) = false ∧ ∃ cell its srcTable arch s1, subscript archs a = .ok cell ∧ dictItems cell = .ok its ∧
      dictGetD archs sSrcArch (.dict []) = .ok srcTable ∧ strKey a = .ok arch ∧
      loadSrpms03 variant arch srcTable its s = .ok s1 ∧ loadArches03 variant archs rest s1 = .ok s') := by
  unfold loadArches03 at h
  split at h
  · rename_i hsrc; exact Or.inl ⟨hsrc, h⟩
  · rename_i hsrc
    right
    refine ⟨by simpa using hsrc, ?_⟩
    obtain ⟨cell, h1, h⟩ := matchV_ok h
    split at h; · cases h
    rename_i its h2
    obtain ⟨srcTable, h3, h⟩ := matchV_ok h
    split at h; · cases h
    rename_i arch h4
    obtain ⟨s1, h5, h⟩ := matchV_ok h
    exact ⟨cell, its, srcTable, arch, s1, h1, h2, h3, h4, h5, h⟩

theorem loadVariants03_nil (payload : PyVal) (s : PyVal) : loadVariants03 payload [] s = .ok s := rfl

theorem loadVariants03_cons {payload v : PyVal} {rest : List PyVal} {s s' : PyVal}
    (h : loadVariants03 payload (v :: rest) s = .ok s') :
    ∃ archs keys variant s1, subscript payload v = .ok archs ∧ iter archs = .ok keys ∧ strKey v = .ok variant ∧
      loadArches03 variant archs keys s = .ok s1 ∧ loadVariants03 payload rest s1 = .ok s' := by
  unfold loadVariants03 at h
  obtain ⟨archs, h1, h⟩ := matchV_ok h
  split at h; · cases h
  rename_i keys h2
  split at h; · cases h
  rename_i variant h3
  obtain ⟨s1, h4, h⟩ := matchV_ok h
  exact ⟨archs, keys, variant, s1, h1, h2, h3, h4, h⟩

theorem manifest03_ok {pl s : PyVal} (h : manifest03 pl = .ok s) :
    ∃ payload vs, getItem pl (lit "manifest") = .ok payload ∧ iter payload = .ok vs ∧ loadVariants03 payload vs empty = .ok s := by
  unfold manifest03 at h
  obtain ⟨payload, h1, h⟩ := matchV_ok h
  split at h; · cases h
  rename_i vs h2
  exact ⟨payload, vs, h1, h2, h⟩

/-! Invariants through the loops: every entry goes through `Rpms.add`.  The invariant need only be kept by the calls the loop
at hand can make: those for its variant and arch, for an arch among its arch keys, for a variant among its variant keys. -/

section inv
variable (P : PyVal → Prop)

theorem addDyn_inv {variant arch : Str} (hP : ∀ s args, args.variant = variant → args.arch = arch → P s → P (Rpms.add s args).1)
    {s s' : PyVal} {nevra : Str} {path sigkey category : PyVal} {srpm : Option Str}
    (h : addDyn s variant arch nevra path sigkey category srpm = .ok s') (hs : P s) : P s' := by
  obtain ⟨p, cat, sk, _, _, _, hadd⟩ := addDyn_ok h
  have := hP s { variant, arch, nevra, path := p, sigkey := sk, category := cat, srpm } rfl rfl hs
  rw [hadd] at this
  exact this

theorem loadRpms03_inv {variant arch : Str} (hP : ∀ s args, args.variant = variant → args.arch = arch → P s → P (Rpms.add s args).1)
    (srpm : Str) (sd : PyVal) :
    ∀ (its : List (Str × PyVal)) (s s' : PyVal), loadRpms03 variant arch srpm sd its s = .ok s' → P s → P s' := by
  intro its
  induction its with
  | nil => intro s s' h hs; rw [loadRpms03_nil] at h; injection h with h; subst h; exact hs
  | cons it rest ih =>
    intro s s' h hs
    obtain ⟨nevra, data⟩ := it
    obtain ⟨_, _, _, s1, s2, _, _, _, h4, h5, h6⟩ := loadRpms03_cons h
    have hs1 := addDyn_inv P hP h4 hs
    have hs2 : P s2 := by
      rcases srcStep_ok h5 with ⟨_, rfl⟩ | ⟨_, sp, sk, _, _, hadd⟩
      · exact hs1
      · exact addDyn_inv P hP hadd hs1
    exact ih s2 s' h6 hs2

theorem loadSrpms03_inv {variant arch : Str} (hP : ∀ s args, args.variant = variant → args.arch = arch → P s → P (Rpms.add s args).1)
    (srcTable : PyVal) :
    ∀ (its : List (Str × PyVal)) (s s' : PyVal), loadSrpms03 variant arch srcTable its s = .ok s' → P s → P s' := by
  intro its
  induction its with
  | nil => intro s s' h hs; rw [loadSrpms03_nil] at h; injection h with h; subst h; exact hs
  | cons it rest ih =>
    intro s s' h hs
    obtain ⟨srpm, rpms⟩ := it
    obtain ⟨sd, its', s1, _, _, h3, h4⟩ := loadSrpms03_cons h
    exact ih s1 s' h4 (loadRpms03_inv P hP srpm sd its' s s1 h3 hs)

theorem loadArches03_inv {variant : Str} (archs : PyVal) :
    ∀ (keys : List PyVal), (∀ s args, args.variant = variant → PyVal.str args.arch ∈ keys → P s → P (Rpms.add s args).1) →
      ∀ (s s' : PyVal), loadArches03 variant archs keys s = .ok s' → P s → P s' := by
  intro keys
  induction keys with
  | nil => intro _ s s' h hs; rw [loadArches03_nil] at h; injection h with h; subst h; exact hs
  | cons a rest ih =>
    intro hP s s' h hs
    have hP' : ∀ s args, args.variant = variant → PyVal.str args.arch ∈ rest → P s → P (Rpms.add s args).1 :=
      fun s args hv ha => hP s args hv (List.mem_cons_of_mem _ ha)
    rcases loadArches03_cons h with ⟨_, h'⟩ | ⟨_, cell, its, srcTable, arch, s1, _, _, _, h4, h5, h6⟩
    · exact ih hP' s s' h' hs
    · have ha := strKey_ok h4
      subst ha
      refine ih hP' s1 s' h6 (loadSrpms03_inv P (variant := variant) (arch := arch) ?_ srcTable its s s1 h5 hs)
      intro s args hv ha
      exact hP s args hv (ha ▸ List.mem_cons_self)

theorem loadVariants03_inv (payload : PyVal) :
    ∀ (vs : List PyVal), (∀ s args, PyVal.str args.variant ∈ vs → P s → P (Rpms.add s args).1) →
      ∀ (s s' : PyVal), loadVariants03 payload vs s = .ok s' → P s → P s' := by
  intro vs
  induction vs with
  | nil => intro _ s s' h hs; rw [loadVariants03_nil] at h; injection h with h; subst h; exact hs
  | cons v rest ih =>
    intro hP s s' h hs
    obtain ⟨archs, keys, variant, s1, _, _, h3, h4, h5⟩ := loadVariants03_cons h
    have hv := strKey_ok h3
    subst hv
    refine ih (fun s args hv => hP s args (List.mem_cons_of_mem _ hv)) s1 s' h5 ?_
    exact loadArches03_inv P (variant := variant) archs keys (fun s args hv _ => hP s args (hv ▸ List.mem_cons_self)) s s1 h4 hs

theorem manifest03_inv (hP : ∀ s a, P s → P (Rpms.add s a).1) {pl s : PyVal} (h : manifest03 pl = .ok s) (h0 : P empty) : P s := by
  obtain ⟨payload, vs, _, _, h3⟩ := manifest03_ok h
  exact loadVariants03_inv P payload vs (fun s a _ => hP s a) empty s h3 h0

end inv

theorem deserializeL_legacy (doc : PyVal) (m : Manifest) (h : deserializeL .rpms doc = .ok m)
    (ver : PyVal) (l : Nat × Nat) (hh : headerDeserialize .rpms doc = .ok (ver, .nums l))
    (hg : gateHolds Gen.gate_rpms_Rpms_deserialize_0 l = true) :
    ∃ pl, getItem doc (lit "payload") = .ok pl ∧ manifest03 pl = .ok m.payload := by
  unfold deserializeL at h
  rw [hh] at h
  simp only [hg] at h
  split at h; · cases h
  rename_i pl hpl
  split at h; · cases h
  split at h; · cases h
  rename_i payload hm
  split at h; · cases h
  injection h with h
  subst h
  exact ⟨pl, hpl, hm⟩

theorem serialize_rpms_payload (m : Manifest) (doc : PyVal) (h : (serialize .rpms m).2 = .ok doc) :
    ∃ pl, getItem doc (lit "payload") = .ok pl ∧ getItem pl (lit "rpms") = .ok m.payload := by
  simp only [serialize] at h
  split at h; · cases h
  split at h; · cases h
  injection h with h
  subst h
  exact ⟨_, rfl, rfl⟩

end PM.Mf.C10
