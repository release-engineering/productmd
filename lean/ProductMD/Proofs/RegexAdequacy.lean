import ProductMD.Proofs.RegexBasic
/-!
`Den r s t` — "some prefix of `s` is matched by `r` and `t` is what is left" — is the declarative reading of
the list-of-successes matcher `m` of `Model/Regex.lean`: `t ∈ m f r s ↔ Den r s t` once the fuel `f` is at least `|s|`.

`Den` mirrors the engine, not a textbook semantics: `$` holds at the end *or before a final line feed*, `^` is
only meaningful in leading position of a `match` (it is the empty match, as in `m`), an iteration of a star must
consume input (CPython's guard), groups are transparent, `Re.bad` matches nothing.

`Lang r E A` says which words `r` consumes and what it requires of the rest; it has combinators for `cls`, `cat`, `alt`, a
leading `^` and a final `$`, and closed forms for the shapes the library's patterns are made of: a star / plus over a
character class, a literal-led segment `c k+` and a star of such segments.  `Lang.pyMatches` reads off what a pattern ending in `$` accepts.
-/
namespace PM

inductive Den : Re → Str → Str → Prop where
  | eps (s) : Den .eps s s
  | bol (s) : Den .bol s s
  | eol (s) : isEol s = true → Den .eol s s
  | cls (k c s) : k.mem c = true → Den (.cls k) (c :: s) s
  | cat {a b s t u} : Den a s t → Den b t u → Den (.cat a b) s u
  | altL {a b s t} : Den a s t → Den (.alt a b) s t
  | altR {a b s t} : Den b s t → Den (.alt a b) s t
  | star0 (a s) : Den (.star a) s s
  | starS {a s t u} : Den a s t → t.length < s.length → Den (.star a) t u → Den (.star a) s u
  | grp {n a s t} : Den a s t → Den (.grp n a) s t

theorem starAux_sound {a : Re} (body : Str → List Str) (hb : ∀ s t, t ∈ body s → Den a s t) :
    ∀ (n : Nat) (s t : Str), t ∈ starAux body n s → Den (.star a) s t := by
  intro n
  induction n with
  | zero => intro s t h; simp at h; subst h; exact .star0 _ _
  | succ n ih =>
    intro s t h
    rw [starAux_succ] at h
    rcases List.mem_append.mp h with h | h
    · obtain ⟨u, hu, ht⟩ := List.mem_flatMap.mp h
      obtain ⟨hu1, hu2⟩ := List.mem_filter.mp hu
      exact .starS (hb s u hu1) (by simpa using hu2) (ih u t ht)
    · simp at h; subst h; exact .star0 _ _

theorem den_sound : ∀ (r : Re) (f : Nat) (s t : Str), t ∈ m f r s → Den r s t := by
  intro r
  induction r with
  | eps => intro f s t h; simp at h; subst h; exact .eps _
  | bol => intro f s t h; simp at h; subst h; exact .bol _
  | bad => intro f s t h; simp at h
  | eol =>
    intro f s t h; rw [m_eol] at h
    split at h
    · simp at h; subst h; exact .eol _ ‹_›
    · simp at h
  | cls k =>
    intro f s t h
    cases s with
    | nil => simp [m_cls_nil] at h
    | cons c cs =>
      rw [m_cls_cons] at h
      split at h
      · simp at h; subst h; exact .cls k c _ ‹_›
      · simp at h
  | cat a b iha ihb =>
    intro f s t h; rw [m_cat] at h
    obtain ⟨u, hu, ht⟩ := List.mem_flatMap.mp h
    exact .cat (iha f s u hu) (ihb f u t ht)
  | alt a b iha ihb =>
    intro f s t h; rw [m_alt] at h
    rcases List.mem_append.mp h with h | h
    · exact .altL (iha f s t h)
    · exact .altR (ihb f s t h)
  | grp n a iha => intro f s t h; simp at h; exact .grp (iha f s t h)
  | star a iha =>
    intro f s t h
    rw [m_star] at h
    exact starAux_sound (m f a) (iha f) f s t h

theorem den_suffix : ∀ {r s t}, Den r s t → ∃ w, s = w ++ t := by
  intro r s t h
  induction h with
  | eps | bol | eol | star0 => exact ⟨[], rfl⟩
  | cls _ c s => exact ⟨[c], rfl⟩
  | cat _ _ ih1 ih2 =>
    obtain ⟨w1, rfl⟩ := ih1; obtain ⟨w2, rfl⟩ := ih2
    exact ⟨w1 ++ w2, by simp⟩
  | altL _ ih => exact ih
  | altR _ ih => exact ih
  | grp _ ih => exact ih
  | starS _ _ _ ih1 ih2 =>
    obtain ⟨w1, rfl⟩ := ih1; obtain ⟨w2, rfl⟩ := ih2
    exact ⟨w1 ++ w2, by simp⟩

theorem den_len {r s t} (h : Den r s t) : t.length ≤ s.length := by
  obtain ⟨w, rfl⟩ := den_suffix h
  simp

theorem m_length_le (r : Re) (f : Nat) (s s' : Str) (h : s' ∈ m f r s) : s'.length ≤ s.length :=
  den_len (den_sound r f s s' h)

/-- induction along the iterations of a star: the index `.star a` is no variable, so `induction` wants it generalised;
that is done here, once -/
theorem den_star_rec {a : Re} {P : Str → Str → Prop} (h0 : ∀ s, P s s)
    (hS : ∀ s t u, Den a s t → t.length < s.length → P t u → P s u) {s u : Str} (h : Den (.star a) s u) : P s u := by
  generalize hr : Re.star a = r at h
  induction h with
  | eps | bol | eol | cls | cat | altL | altR | grp => cases hr
  | star0 => exact h0 _
  | starS h1 hl _ _ ih2 => cases hr; exact hS _ _ _ h1 hl (ih2 rfl)

/-- the iteration fuel `n` goes down along the induction while the fuel `f` of the body stays: two variables, though `m`
passes the same number for both -/
theorem starAux_complete {a : Re} (body : Str → List Str) (f : Nat) (hb : ∀ s t, Den a s t → s.length ≤ f → t ∈ body s)
    {s u : Str} (h : Den (.star a) s u) : ∀ n, s.length ≤ n → s.length ≤ f → u ∈ starAux body n s := by
  refine den_star_rec (P := fun s u => ∀ n, s.length ≤ n → s.length ≤ f → u ∈ starAux body n s) ?_ ?_ h
  · intro s n _ _
    cases n with
    | zero => simp
    | succ n => rw [starAux_succ]; simp
  · intro s t u h1 hl ih n hn hf
    cases n with
    | zero => omega
    | succ n =>
      rw [starAux_succ]
      exact List.mem_append.mpr (.inl (List.mem_flatMap.mpr
        ⟨t, List.mem_filter.mpr ⟨hb s t h1 hf, by simpa using hl⟩, ih n (by omega) (by omega)⟩))

theorem den_complete {r s t} (h : Den r s t) (f : Nat) (hf : s.length ≤ f) : t ∈ m f r s := by
  induction r generalizing s t with
  | eps | bol => cases h; simp
  | bad => cases h
  | eol => cases h with | eol _ he => rw [m_eol]; simp [he]
  | cls k => cases h with | cls _ c _ hk => rw [m_cls_cons]; simp [hk]
  | cat a b iha ihb =>
    cases h with
    | cat h1 h2 =>
      rw [m_cat]
      exact List.mem_flatMap.mpr ⟨_, iha h1 hf, ihb h2 (Nat.le_trans (den_len h1) hf)⟩
  | alt a b iha ihb =>
    rw [m_alt]
    cases h with
    | altL h => exact List.mem_append.mpr (.inl (iha h hf))
    | altR h => exact List.mem_append.mpr (.inr (ihb h hf))
  | grp n a iha => cases h with | grp h => simp; exact iha h hf
  | star a iha => rw [m_star]; exact starAux_complete (m f a) f (fun _ _ h hf => iha h hf) h f hf hf

theorem m_fuel_irrelevant (r : Re) (s t : Str) (f : Nat) (hf : s.length ≤ f) : t ∈ m f r s ↔ Den r s t :=
  ⟨den_sound r _ s t, fun h => den_complete h _ hf⟩

theorem m_adequate (r : Re) (s t : Str) : t ∈ m s.length r s ↔ Den r s t :=
  m_fuel_irrelevant r s t _ (Nat.le_refl _)

theorem m_nil_of_fuel {r : Re} {s : Str} {f F : Nat} (hF : s.length ≤ F) (h : m F r s = []) : m f r s = [] := by
  apply List.eq_nil_iff_forall_not_mem.mpr
  intro t ht
  have := den_complete (den_sound r f s t ht) F hF
  rw [h] at this; cases this

theorem pyMatches_iff (r : Re) (s : Str) : pyMatches r s = true ↔ ∃ t, Den r s t := by
  rw [pyMatches, Bool.not_eq_true', List.isEmpty_eq_false_iff_exists_mem]
  exact exists_congr fun t => m_adequate r s t

theorem pyMatches_false_iff (r : Re) (s : Str) : pyMatches r s = false ↔ ¬ ∃ t, Den r s t := by
  rw [← pyMatches_iff]; simp

theorem pyMatches_strip (r : Re) (s : Str) : pyMatches r.strip s = pyMatches r s := by
  unfold pyMatches; rw [m_strip]

theorem den_eps_iff {s t} : Den .eps s t ↔ t = s := ⟨fun h => (by cases h; rfl), fun h => h ▸ .eps _⟩
theorem den_bol_iff {s t} : Den .bol s t ↔ t = s := ⟨fun h => (by cases h; rfl), fun h => h ▸ .bol _⟩
theorem den_eol_iff {s t} : Den .eol s t ↔ t = s ∧ (s = [] ∨ s = ['\n']) := by
  constructor
  · intro h; cases h with | eol _ he => exact ⟨rfl, by simpa [isEol] using he⟩
  · rintro ⟨rfl, h⟩; exact .eol _ (by simpa [isEol] using h)
theorem den_cls_iff {k s t} : Den (.cls k) s t ↔ ∃ c, k.mem c = true ∧ s = c :: t :=
  ⟨fun h => (by cases h with | cls _ c _ hc => exact ⟨c, hc, rfl⟩), fun ⟨c, hc, e⟩ => e ▸ .cls k c t hc⟩
theorem den_cat_iff {a b s u} : Den (.cat a b) s u ↔ ∃ t, Den a s t ∧ Den b t u :=
  ⟨fun h => (by cases h with | cat h1 h2 => exact ⟨_, h1, h2⟩), fun ⟨_, h1, h2⟩ => .cat h1 h2⟩
theorem den_alt_iff {a b s t} : Den (.alt a b) s t ↔ Den a s t ∨ Den b s t :=
  ⟨fun h => (by cases h with | altL h => exact .inl h | altR h => exact .inr h),
   fun h => h.elim .altL .altR⟩
theorem den_grp_iff {n a s t} : Den (.grp n a) s t ↔ Den a s t :=
  ⟨fun h => (by cases h with | grp h => exact h), .grp⟩
theorem den_bad_iff {s t} : Den .bad s t ↔ False := ⟨fun h => (by cases h), False.elim⟩

/-- the pattern can match the empty string -/
def _root_.PM.Re.nullable : Re → Bool
  | .eps | .bol | .star _ => true
  | .cat a b => a.nullable && b.nullable
  | .alt a b => a.nullable || b.nullable
  | .grp _ a => a.nullable
  | _ => false

theorem den_nullable : ∀ (r : Re) (s : Str), r.nullable = true → Den r s s := by
  intro r
  induction r with
  | eps => intro s _; exact .eps s
  | bol => intro s _; exact .bol s
  | star a _ => intro s _; exact .star0 a s
  | eol | bad | cls => intro s h; cases h
  | cat a b iha ihb =>
    intro s h
    simp only [Re.nullable, Bool.and_eq_true] at h
    exact .cat (iha s h.1) (ihb s h.2)
  | alt a b iha ihb =>
    intro s h
    simp only [Re.nullable, Bool.or_eq_true] at h
    exact h.elim (fun h => .altL (iha s h)) (fun h => .altR (ihb s h))
  | grp n a iha => intro s h; exact .grp (iha s h)

def Cls.All (k : Cls) (w : Str) : Prop := ∀ c ∈ w, k.mem c = true

theorem Cls.All_nil (k : Cls) : k.All [] := by intro c hc; cases hc
theorem Cls.All_cons {k : Cls} {c : Char} {w : Str} : k.All (c :: w) ↔ k.mem c = true ∧ k.All w := by
  simp [Cls.All]
theorem Cls.All_append {k : Cls} {v w : Str} : k.All (v ++ w) ↔ k.All v ∧ k.All w := by
  simp only [Cls.All, List.mem_append]
  exact ⟨fun h => ⟨fun c hc => h c (.inl hc), fun c hc => h c (.inr hc)⟩,
         fun h c hc => hc.elim (h.1 c) (h.2 c)⟩
theorem Cls.any_All {w : Str} : Cls.any.All w ↔ '\n' ∉ w := by
  simp only [Cls.All, Cls.any_mem]
  exact ⟨fun h hm => h _ hm rfl, fun h c hc e => h (e ▸ hc)⟩

/-- a separator-led segment `d k+` -/
def Re.seg (d : Char) (k : Cls) : Re := .cat (Re.lit d) (.cat (.cls k) (.star (.cls k)))

/-- `d g₁ d g₂ …` -/
def segsStr (d : Char) : List Str → Str
  | [] => []
  | g :: gs => d :: g ++ segsStr d gs

/-- `Lang r E A`: `r` consumes exactly the words of `A`, in front of a rest that satisfies `E`.  There is no
combinator for `grp`: a pattern is analysed on a group-free copy (`pyMatches_strip`). -/
def Lang (r : Re) (E A : Str → Prop) : Prop := ∀ s t, Den r s t ↔ ∃ w, A w ∧ s = w ++ t ∧ E t

abbrev Any : Str → Prop := fun _ => True
/-- what `$` accepts as the rest -/
def End (t : Str) : Prop := t = [] ∨ t = ['\n']
/-- a word of `A` followed by a word of `B` -/
def Cc (A B : Str → Prop) (w : Str) : Prop := ∃ u v, w = u ++ v ∧ A u ∧ B v
/-- one character of `k` -/
def One (k : Cls) (w : Str) : Prop := ∃ c, k.mem c = true ∧ w = [c]
/-- one or more characters of `k` -/
def Run (k : Cls) (g : Str) : Prop := g ≠ [] ∧ k.All g
/-- any number of `d`-led pieces, each in `P` -/
def Segs (d : Char) (P : Str → Prop) (w : Str) : Prop := ∃ gs : List Str, (∀ g ∈ gs, P g) ∧ w = segsStr d gs

theorem Cc_One {k : Cls} {B : Str → Prop} {w : Str} : Cc (One k) B w ↔ ∃ c v, k.mem c = true ∧ B v ∧ w = c :: v :=
  ⟨by rintro ⟨_, v, e, ⟨c, hc, rfl⟩, hv⟩; exact ⟨c, v, hc, hv, e⟩, fun ⟨c, v, hc, hv, e⟩ => ⟨[c], v, e, ⟨c, hc, rfl⟩, hv⟩⟩

theorem Run_iff {k : Cls} {g : Str} : Run k g ↔ ∃ c w, k.mem c = true ∧ k.All w ∧ g = c :: w := by
  cases g with
  | nil => simp [Run]
  | cons c w => simp [Run, Cls.All_cons]

theorem Run.not_mem {k : Cls} {d : Char} (hd : k.mem d = false) {g : Str} (h : Run k g) : d ∉ g :=
  fun hm => absurd (h.2 d hm) (by simp [hd])

namespace Lang

theorem cls (k : Cls) : Lang (.cls k) Any (One k) := fun s t => by
  rw [den_cls_iff]
  exact ⟨fun ⟨c, hc, e⟩ => ⟨[c], ⟨c, hc, rfl⟩, e, trivial⟩, fun ⟨_, ⟨c, hc, rfl⟩, e, _⟩ => ⟨c, hc, e⟩⟩

/-- The left factor must not look at what follows it (`Any`): that is what lets the two languages be concatenated.  `^` and
`$`, which consume nothing and look at their position, come in through `bolCat` and `catEol` instead. -/
theorem cat {a b : Re} {E A B} (ha : Lang a Any A) (hb : Lang b E B) : Lang (.cat a b) E (Cc A B) := fun s t => by
  rw [den_cat_iff]
  constructor
  · rintro ⟨u, h1, h2⟩
    obtain ⟨x, hx, rfl, _⟩ := (ha _ _).mp h1
    obtain ⟨y, hy, rfl, he⟩ := (hb _ _).mp h2
    exact ⟨x ++ y, ⟨x, y, rfl, hx, hy⟩, by simp, he⟩
  · rintro ⟨_, ⟨x, y, rfl, hx, hy⟩, rfl, he⟩
    exact ⟨y ++ t, (ha _ _).mpr ⟨x, hx, by simp, trivial⟩, (hb _ _).mpr ⟨y, hy, rfl, he⟩⟩

theorem alt {a b : Re} {E A B} (ha : Lang a E A) (hb : Lang b E B) : Lang (.alt a b) E (fun w => A w ∨ B w) := fun s t => by
  rw [den_alt_iff, ha, hb]
  constructor
  · rintro (⟨w, h, r⟩ | ⟨w, h, r⟩)
    · exact ⟨w, .inl h, r⟩
    · exact ⟨w, .inr h, r⟩
  · rintro ⟨w, h | h, r⟩
    · exact .inl ⟨w, h, r⟩
    · exact .inr ⟨w, h, r⟩

theorem bolCat {b E B} (hb : Lang b E B) : Lang (.cat .bol b) E B := fun s t => by
  rw [den_cat_iff]
  simp only [den_bol_iff, exists_eq_left]
  exact hb s t

theorem catEol {a A} (ha : Lang a Any A) : Lang (.cat a .eol) End A := fun s t => by
  rw [den_cat_iff]
  constructor
  · rintro ⟨u, h1, h2⟩
    obtain ⟨rfl, he⟩ := den_eol_iff.mp h2
    obtain ⟨w, hw, e, _⟩ := (ha _ _).mp h1
    exact ⟨w, hw, e, he⟩
  · rintro ⟨w, hw, e, he⟩
    exact ⟨t, (ha _ _).mpr ⟨w, hw, e, trivial⟩, den_eol_iff.mpr ⟨rfl, he⟩⟩

theorem congr {r E A A'} (h : ∀ w, A w ↔ A' w) (hr : Lang r E A) : Lang r E A' := fun s t => by
  rw [hr]
  simp only [h]

theorem starCls (k : Cls) : Lang (.star (.cls k)) Any k.All := fun s t => by
  constructor
  · refine den_star_rec (P := fun s t => ∃ w, k.All w ∧ s = w ++ t ∧ True) (fun s => ⟨[], k.All_nil, rfl, trivial⟩)
      fun s t u h1 _ ih => ?_
    obtain ⟨c, hc, rfl⟩ := den_cls_iff.mp h1
    obtain ⟨w, hw, rfl, _⟩ := ih
    exact ⟨c :: w, Cls.All_cons.mpr ⟨hc, hw⟩, rfl, trivial⟩
  · rintro ⟨w, hw, rfl, _⟩
    induction w with
    | nil => exact .star0 _ _
    | cons c w ih =>
      have := Cls.All_cons.mp hw
      exact .starS (.cls k c _ this.1) (by simp) (ih this.2)

/-- `k+` as the translator writes it: `k k*` -/
theorem plusCls (k : Cls) : Lang (.cat (.cls k) (.star (.cls k))) Any (Run k) :=
  ((cls k).cat (starCls k)).congr fun _ => Cc_One.trans Run_iff.symm

theorem seg (d : Char) (k : Cls) : Lang (Re.seg d k) Any (fun w => ∃ g, Run k g ∧ w = d :: g) :=
  ((cls _).cat (plusCls k)).congr fun _ => Cc_One.trans
    ⟨fun ⟨c, g, hc, hg, e⟩ => ⟨g, hg, (Cls.mem_lit d c).mp hc ▸ e⟩, fun ⟨g, hg, e⟩ => ⟨d, g, Cls.lit_self d, hg, e⟩⟩

theorem starSeg (d : Char) (k : Cls) : Lang (.star (Re.seg d k)) Any (Segs d (Run k)) := fun s t => by
  constructor
  · refine den_star_rec (P := fun s t => ∃ w, Segs d (Run k) w ∧ s = w ++ t ∧ True)
      (fun s => ⟨[], ⟨[], by simp, rfl⟩, rfl, trivial⟩) fun s t u h1 _ ih => ?_
    obtain ⟨_, ⟨g, hg, rfl⟩, rfl, _⟩ := (seg d k _ _).mp h1
    obtain ⟨_, ⟨gs, hgs, rfl⟩, rfl, _⟩ := ih
    exact ⟨_, ⟨g :: gs, List.forall_mem_cons.mpr ⟨hg, hgs⟩, rfl⟩, by simp [segsStr], trivial⟩
  · rintro ⟨_, ⟨gs, hgs, rfl⟩, rfl, _⟩
    induction gs with
    | nil => exact .star0 _ _
    | cons g gs ih =>
      refine .starS (t := segsStr d gs ++ t)
        ((seg d k _ _).mpr ⟨_, ⟨g, hgs g (by simp), rfl⟩, by simp [segsStr], trivial⟩) ?_ (ih fun x hx => hgs x (by simp [hx]))
      simp [segsStr]
      omega

/-- `re.match` on a pattern that ends in `$`: the words of the language, with or without one final line feed -/
theorem pyMatches {R : Re} {L : Str → Prop} (h : Lang R End L) (s : Str) :
    pyMatches R s = true ↔ L s ∨ ∃ t, s = t ++ ['\n'] ∧ L t := by
  rw [pyMatches_iff]
  constructor
  · rintro ⟨t, ht⟩
    obtain ⟨b, hb, rfl, he⟩ := (h s t).mp ht
    rcases he with rfl | rfl
    · left
      simpa using hb
    · right
      exact ⟨b, rfl, hb⟩
  · rintro (hs | ⟨b, rfl, hb⟩)
    · exact ⟨[], (h s []).mpr ⟨s, hs, by simp, .inl rfl⟩⟩
    · exact ⟨['\n'], (h _ _).mpr ⟨b, hb, rfl, .inr rfl⟩⟩

end Lang

end PM
