import ProductMD.Proofs.CIOrder
import ProductMD.Proofs.CITop
/-!
C01: the document the composeinfo writer produces is JSON-representable (`Mf.jsonRep`: no foreign object, no dict with a
key twice) and its only number is the compose respin.
-/
namespace PM.CI
open PM PM.Mf PM.JsonParse

theorem rep_strList (lim : Nat) (l : List Str) : jsonRep (strList l) = true ∧ numsOk lim (strList l) = true :=
  rep_list lim _ fun x hx => by
    obtain ⟨s, _, rfl⟩ := List.mem_map.mp hx
    exact ⟨rfl, rfl⟩

theorem rep_releaseVal (lim : Nat) (r : Release) : jsonRep (releaseVal r) = true ∧ numsOk lim (releaseVal r) = true := by
  cases h : r.isLayered <;> simp [releaseVal, h, jsonRep, jsonRepKvs, hasKey, numsOk, numsOkKvs]

theorem rep_baseVal (lim : Nat) (b : BaseProduct) : jsonRep (baseVal b) = true ∧ numsOk lim (baseVal b) = true := by
  simp [baseVal, jsonRep, jsonRepKvs, hasKey, numsOk, numsOkKvs]

theorem rep_headerVal (lim : Nat) : jsonRep headerVal = true ∧ numsOk lim headerVal = true := by
  simp [headerVal, jsonRep, jsonRepKvs, hasKey, numsOk, numsOkKvs]

theorem rep_composeVal (lim : Nat) (c : Compose) :
    jsonRep (composeVal c) = true ∧ numsOk lim (composeVal c) = intFits lim c.respin := by
  obtain ⟨id, type, date, respin, label, final⟩ := c
  rcases label with _ | _ | _ <;> simp [composeVal, jsonRep, jsonRepKvs, hasKey, numsOk, numsOkKvs]

theorem rep_archTableVal (lim : Nat) (t : ArchTable) (hn : (t.map (·.1)).Nodup) :
    jsonRep (archTableVal t) = true ∧ numsOk lim (archTableVal t) = true := by
  rw [archTableVal_eq]
  refine rep_dict lim _ (by simpa [List.map_map, Function.comp_def] using hn) fun p hp => ?_
  obtain ⟨q, _, rfl⟩ := List.mem_map.mp hp
  exact ⟨rfl, rfl⟩

theorem filterMap_keys_sublist {α β} (key : α → Str) (g : α → Option (Str × β)) (hg : ∀ a b, g a = some b → b.1 = key a) :
    ∀ (l : List α), ((l.filterMap g).map (·.1)).Sublist (l.map key)
  | [] => by simp
  | a :: as => by
    simp only [List.filterMap_cons, List.map_cons]
    cases h : g a with
    | none => exact List.Sublist.cons _ (filterMap_keys_sublist key g hg as)
    | some b =>
      simp only [List.map_cons, hg a b h]
      exact List.Sublist.cons_cons _ (filterMap_keys_sublist key g hg as)

theorem rep_pathsVal (lim : Nat) (p : PathTable) (hn : (p.map (·.1)).Nodup) (ht : ∀ ct ∈ p, (ct.2.map (·.1)).Nodup) :
    jsonRep (pathsVal p) = true ∧ numsOk lim (pathsVal p) = true := by
  have hsub := filterMap_keys_sublist (·.1) (fun (ct : Str × ArchTable) => if ct.2 = [] then none else some (ct.1, archTableVal ct.2))
    (fun ct b h => by split at h <;> cases h; rfl) p
  refine rep_dict lim (p.filterMap fun (ct : Str × ArchTable) => if ct.2 = [] then none else some (ct.1, archTableVal ct.2))
    (hsub.nodup hn) fun q hq => ?_
  obtain ⟨ct, hct, hq'⟩ := List.mem_filterMap.mp hq
  split at hq'
  · cases hq'
  · cases hq'
    exact rep_archTableVal lim ct.2 (ht ct hct)

theorem fields_nodup : Gen.COMPOSEINFO_PATH_FIELDS.Nodup := by decide +kernel

theorem storedPaths_keys (A : List Str) (p : PathTable) : (storedPaths A p).map (·.1) = Gen.COMPOSEINFO_PATH_FIELDS := by
  simp [storedPaths, List.map_map, Function.comp_def]

theorem storedPaths_tables (A : List Str) (hA : A.Nodup) (p : PathTable) : ∀ ct ∈ storedPaths A p, (ct.2.map (·.1)).Nodup := by
  intro ct hct
  simp only [storedPaths_eq, List.mem_map] at hct
  obtain ⟨cat, _, rfl⟩ := hct
  have hsub := filterMap_keys_sublist id (storedCell p cat) (fun _ _ h => (storedCell_some h).1) A
  rw [List.map_id] at hsub
  exact hsub.nodup hA

theorem rep_entryVal (lim : Nat) (e : Entry) (hp : jsonRep (pathsVal e.paths) = true ∧ numsOk lim (pathsVal e.paths) = true) :
    jsonRep (entryVal e) = true ∧ numsOk lim (entryVal e) = true := by
  obtain ⟨hs1, hn1⟩ := rep_strList lim e.arches
  obtain ⟨hs2, hn2⟩ := rep_strList lim e.kids
  cases hr : e.release with
  | none =>
    by_cases hk : e.kids = [] <;>
      simp [entryVal, hr, hk, jsonRep, jsonRepKvs, hasKey, numsOk, numsOkKvs, hp.1, hp.2, hs1, hs2, hn1, hn2]
  | some r =>
    have h1 := rep_releaseVal lim r
    by_cases hk : e.kids = [] <;>
      simp [entryVal, hr, hk, jsonRep, jsonRepKvs, hasKey, numsOk, numsOkKvs, hp.1, hp.2, hs1, hs2, hn1, hn2, h1.1, h1.2]

theorem rep_entryOf (lim : Nat) (v : Variant) : jsonRep (entryVal (entryOf v)) = true ∧ numsOk lim (entryVal (entryOf v)) = true := by
  apply rep_entryVal
  cases v with
  | mk key id uid name type arches paths rel kids =>
  simp only [entryOf]
  exact rep_pathsVal lim _ (by rw [storedPaths_keys]; exact fields_nodup)
    (storedPaths_tables _ (sortDedup_nodup _) _)

theorem flat_entries : ∀ (v : Variant), ∀ x ∈ flat v, ∃ n, x.2 = entryOf n :=
  Variant.induct fun v ih x hx => by
    rw [flat_eq, List.mem_append, List.mem_singleton] at hx
    rcases hx with hx | rfl
    · obtain ⟨k, hk, hxk⟩ := mem_flats.mp hx
      exact ih k hk x hxk
    · exact ⟨v, rfl⟩

theorem flats_entries (vs : List Variant) : ∀ x ∈ flats vs, ∃ n, x.2 = entryOf n := fun x hx =>
  let ⟨v, _, hxv⟩ := mem_flats.mp hx
  flat_entries v x hxv

theorem rep_flatVal (lim : Nat) (d : Flat) (hs : FSorted d) (he : ∀ x ∈ d, ∃ n, x.2 = entryOf n) :
    jsonRep (flatVal d) = true ∧ numsOk lim (flatVal d) = true := by
  refine rep_dict lim (d.map fun p => (p.1, entryVal p.2)) (by simpa [List.map_map, Function.comp_def] using hs.keys_nodup)
    fun p hp => ?_
  obtain ⟨q, hq, rfl⟩ := List.mem_map.mp hp
  obtain ⟨n, hn⟩ := he q hq
  simp only [hn]
  exact rep_entryOf lim n

end PM.CI
