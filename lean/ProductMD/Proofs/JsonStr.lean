import ProductMD.Model.JsonParse
/-!
String layer of the JSON round trip: the string scanner of `Model/JsonParse.lean` inverts `JsonText.quote`
(`ensure_ascii=True` escaping) for EVERY string of Unicode scalar values — short escapes, `\u00XX` for the other
control characters, `\uXXXX` for U+007F and the rest of the BMP (hex arithmetic), surrogate pairs for code points ≥ 0x10000.
-/
namespace PM.JsonParse
open PM JsonText

theorem hexVal_hexDigit : ∀ d, d < 16 → hexVal (hexDigit d) = some d := by decide

theorem hex4?_hex4 (n : Nat) (h : n < 65536) (tail : Str) : hex4? (hex4 n ++ tail) = some (n, tail) := by
  have h1 := hexVal_hexDigit (n / 4096 % 16) (Nat.mod_lt _ (by decide))
  have h2 := hexVal_hexDigit (n / 256 % 16) (Nat.mod_lt _ (by decide))
  have h3 := hexVal_hexDigit (n / 16 % 16) (Nat.mod_lt _ (by decide))
  have h4 := hexVal_hexDigit (n % 16) (Nat.mod_lt _ (by decide))
  simp only [hex4, List.cons_append, List.nil_append, hex4?, h1, h2, h3, h4]
  congr 2
  omega

theorem unescape_u_bmp (n : Nat) (h : n < 65536) (hs : isHigh n = false) (hl : isLow n = false) (tail : Str) :
    unescape ('u' :: (hex4 n ++ tail)) = .ok (Char.ofNat n, tail) := by
  simp only [unescape, if_true, hex4?_hex4 n h tail, hs, hl, Bool.false_eq_true, if_false]

theorem unescape_u_pair (hi lo : Nat) (h1 : hi < 65536) (h2 : lo < 65536) (hs : isHigh hi = true) (hl : isLow lo = true)
    (tail : Str) :
    unescape ('u' :: (hex4 hi ++ '\\' :: 'u' :: (hex4 lo ++ tail)))
      = .ok (Char.ofNat (0x10000 + (hi - 0xD800) * 1024 + (lo - 0xDC00)), tail) := by
  simp only [unescape, if_true, hex4?_hex4 hi h1, hs, and_self, hex4?_hex4 lo h2, hl]

theorem scanStr_backslash (f : Nat) (acc cs : Str) (ch : Char) (rest : Str) (h : unescape cs = .ok (ch, rest)) :
    scanStr (f + 1) acc ('\\' :: cs) = scanStr f (ch :: acc) rest := by
  simp [scanStr, h]

theorem scanStr_escChar (c : Char) (f : Nat) (acc tail : Str) :
    scanStr (f + 1) acc (escChar c ++ tail) = scanStr f (c :: acc) tail := by
  by_cases h1 : c = '"'
  · subst h1; simp [escChar, scanStr, unescape]
  by_cases h2 : c = '\\'
  · subst h2; simp [escChar, scanStr, unescape]
  by_cases h3 : c = '\n'
  · subst h3; simp [escChar, scanStr, unescape]
  by_cases h4 : c = '\r'
  · subst h4; simp [escChar, scanStr, unescape]
  by_cases h5 : c = '\t'
  · subst h5; simp [escChar, scanStr, unescape]
  by_cases h6 : c.toNat = 8
  · have : c = Char.ofNat 8 := by rw [← h6, Char.ofNat_toNat]
    subst this; simp [escChar, scanStr, unescape]
  by_cases h7 : c.toNat = 12
  · have : c = Char.ofNat 12 := by rw [← h7, Char.ofNat_toNat]
    subst this; simp [escChar, scanStr, unescape]
  have hr : c.toNat < 0xD800 ∨ (0xDFFF < c.toNat ∧ c.toNat < 0x110000) := c.valid
  -- both `\uXXXX` branches: a scalar value below 0x10000 is not a surrogate, so it is read back as one unit
  have bmp : c.toNat < 0x10000 → escChar c = '\\' :: 'u' :: hex4 c.toNat →
      scanStr (f + 1) acc (escChar c ++ tail) = scanStr f (c :: acc) tail := by
    intro hlt he
    rw [he, List.cons_append, List.cons_append, scanStr_backslash _ _ _ _ _
      (unescape_u_bmp c.toNat hlt (by simp [isHigh]; omega) (by simp [isLow]; omega) tail), Char.ofNat_toNat]
  by_cases h8 : c.toNat < 32
  · exact bmp (by omega) (by simp [escChar, h1, h2, h3, h4, h5, h6, h7, h8])
  by_cases h9 : c.toNat < 127
  · have he : escChar c = [c] := by simp [escChar, h1, h2, h3, h4, h5, h6, h7, h8, h9]
    rw [he]
    simp [scanStr, h1, h2, h8]
  by_cases h10 : c.toNat < 0x10000
  · exact bmp h10 (by simp [escChar, h1, h2, h3, h4, h5, h6, h7, h8, h9, h10])
  · have he : escChar c = ('\\' :: 'u' :: hex4 (0xD800 + (c.toNat - 0x10000) / 1024))
        ++ ('\\' :: 'u' :: hex4 (0xDC00 + (c.toNat - 0x10000) % 1024)) := by
      simp [escChar, h1, h2, h3, h4, h5, h6, h7, h8, h9, h10]
    rw [he]
    simp only [List.cons_append, List.append_assoc]
    rw [scanStr_backslash _ _ _ _ _ (unescape_u_pair _ _ (by omega) (by omega) (by simp [isHigh]; omega) (by simp [isLow]; omega) tail)]
    have : 0x10000 + (0xD800 + (c.toNat - 0x10000) / 1024 - 0xD800) * 1024 + (0xDC00 + (c.toNat - 0x10000) % 1024 - 0xDC00) = c.toNat := by
      omega
    rw [this, Char.ofNat_toNat]

theorem scanStr_flatMap (s : Str) : ∀ (f : Nat) (acc rest : Str), s.length < f →
    scanStr f acc (s.flatMap escChar ++ '"' :: rest) = .ok (acc.reverse ++ s, rest) := by
  induction s with
  | nil =>
    intro f acc rest hf
    cases f with
    | zero => omega
    | succ f => simp [scanStr]
  | cons c cs ih =>
    intro f acc rest hf
    cases f with
    | zero => omega
    | succ f =>
      simp only [List.flatMap_cons, List.append_assoc]
      rw [scanStr_escChar, ih f (c :: acc) rest (by simpa using hf)]
      simp

/-- an empty escape could not be read back: the scanner would have to find `c` in front of the closing quote -/
theorem escChar_length_pos (c : Char) : 0 < (escChar c).length := by
  refine List.length_pos_iff.mpr fun h => ?_
  have hs := scanStr_escChar c 1 [] ['"']
  rw [h] at hs
  simp [scanStr] at hs

theorem flatMap_escChar_length (s : Str) : s.length ≤ (s.flatMap escChar).length := by
  induction s with
  | nil => simp
  | cons c cs ih =>
    have := escChar_length_pos c
    simp only [List.flatMap_cons, List.length_append, List.length_cons]
    omega

theorem parseString_quote (s rest : Str) :
    parseString ((quote s).tail ++ rest) = .ok (s, rest) := by
  have h := flatMap_escChar_length s
  simp only [quote, List.tail_cons, List.append_assoc, List.cons_append, List.nil_append, parseString]
  rw [scanStr_flatMap s _ [] rest (by simp only [List.length_append, List.length_cons]; omega)]
  simp

theorem quote_eq (s : Str) : quote s = '"' :: (quote s).tail := by simp [quote]

end PM.JsonParse
