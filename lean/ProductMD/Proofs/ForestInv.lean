import ProductMD.Proofs.ForestValidate
import ProductMD.Proofs.Assoc
import ProductMD.Proofs.C14Str
import ProductMD.Spec.ForestWords
/-! Invariants of the variant forest and their preservation by `add` (C11). -/
namespace PM.Forest

theorem dget_eq_lookup (k : Str) : ∀ l : List (Str × Nat), dget k l = l.lookup k
  | [] => rfl
  | (a, b) :: r => by rw [dget, Ini.lookup_cons_eq, dget_eq_lookup k r]

theorem dget_mem {k : Str} {l : List (Str × Nat)} {v : Nat} (h : dget k l = some v) : (k, v) ∈ l :=
  Assoc.mem_of_lookup (dget_eq_lookup k l ▸ h)

theorem dget_of_mem {k : Str} {l : List (Str × Nat)} {v : Nat} (hn : (l.map (·.1)).Nodup) (h : (k, v) ∈ l) :
    dget k l = some v :=
  dget_eq_lookup k l ▸ Assoc.lookup_of_mem_nodup hn h

theorem dget_eq_none_iff {k : Str} {l : List (Str × Nat)} : dget k l = none ↔ k ∉ l.map (·.1) :=
  dget_eq_lookup k l ▸ Assoc.lookup_none_iff

theorem kidsOf_empty (c : Cont) : State.empty.kidsOf c = [] := by
  cases c <;> rfl

theorem setKids_kidsOf (s : State) (c d : Cont) (l : List (Str × Nat)) :
    (s.setKids c l).kidsOf d = if d = c then l else s.kidsOf d := by
  cases c <;> cases d <;> simp [State.setKids, State.kidsOf]

@[simp] theorem setKids_parent (s : State) (c : Cont) (l : List (Str × Nat)) : (s.setKids c l).parent = s.parent := by
  cases c <;> rfl

/-- the state after the first mutation of `add`: `variant.parent = self if hasattr(self, "uid") else None` -/
def pre (s : State) (c : Cont) (v : Nat) : State := s.setParent v c

@[simp] theorem pre_kids (s : State) (c : Cont) (v : Nat) : (pre s c v).kids = s.kids := rfl
@[simp] theorem pre_top (s : State) (c : Cont) (v : Nat) : (pre s c v).top = s.top := rfl

@[simp] theorem pre_kidsOf (s : State) (c : Cont) (v : Nat) (d : Cont) : (pre s c v).kidsOf d = s.kidsOf d := by
  cases d <;> simp [State.kidsOf]

theorem pre_parent_self (s : State) (c : Cont) (v : Nat) : (pre s c v).parent v = c := by
  simp [pre, State.setParent]

theorem pre_parent_other (s : State) (c : Cont) (v w : Nat) (h : w ≠ v) : (pre s c v).parent w = s.parent w := by
  simp [pre, State.setParent, h]

/-- the handler `variant.parent = old_parent` undoes the first mutation -/
theorem setParent_restore (s : State) (v : Nat) (x : Option Nat) : (s.setParent v x).setParent v (s.parent v) = s := by
  cases s with
  | mk parent kids top =>
    simp only [State.setParent, State.mk.injEq, and_true]
    funext j
    by_cases h : j = v <;> simp [h]

theorem mem_kidsOf_insert {s : State} {c : Cont} {v : Nat} {key : Str} {d : Cont} {k : Str} {w : Nat} :
    (k, w) ∈ ((pre s c v).setKids c (s.kidsOf c ++ [(key, v)])).kidsOf d ↔ (k, w) ∈ s.kidsOf d ∨ (d = c ∧ k = key ∧ w = v) := by
  rw [setKids_kidsOf]
  by_cases hc : d = c
  · simp [hc]
  · simp [hc]

theorem nodup_kidsOf_insert {β : Type} (f : Str × Nat → β) {s : State} {c : Cont} {v : Nat} {key : Str}
    (h : ∀ d, ((s.kidsOf d).map f).Nodup) (hn : f (key, v) ∉ (s.kidsOf c).map f) (d : Cont) :
    ((((pre s c v).setKids c (s.kidsOf c ++ [(key, v)])).kidsOf d).map f).Nodup := by
  rw [setKids_kidsOf]
  by_cases hc : d = c
  · rw [if_pos hc, List.map_append]
    refine List.nodup_append.mpr ⟨h c, List.pairwise_singleton _ _, ?_⟩
    rintro a ha b hb rfl
    exact hn (List.mem_singleton.mp hb ▸ ha)
  · rw [if_neg hc, pre_kidsOf]; exact h d

/-- the statement order of `VariantBase.add` the theorems below are about; `script_here` is re-checked against the file
regenerated from the source on every run -/
def specScript : AddScript :=
  { pre := [.saveParent, .parentOrNone],
    body := [.validate, .pickKey, .cycleCheck, .setdefault, .dupRefuse],
    restore := true,
    post := [] }

theorem script_here : Gen.forest_add_script = specScript := by decide

/-- A refused call returns the state it started from: the parent pointer written first is restored by the handler
(`setParent_restore`). -/
theorem add_cases (U : Nat → Attrs) (fuel : Nat) (s : State) (c : Cont) (v : Nat) (key : Option Str) :
    (∃ e, add U fuel s c v key = (s, .error e)) ∨
    (add U fuel s c v key = (pre s c v, .ok ()) ∧ validate U (pre s c v) v = .ok ()
        ∧ dget (addKey U c v key) (s.kidsOf c) = some v) ∨
    (add U fuel s c v key = ((pre s c v).setKids c (s.kidsOf c ++ [(addKey U c v key, v)]), .ok ())
        ∧ validate U (pre s c v) v = .ok () ∧ dget (addKey U c v key) (s.kidsOf c) = none) := by
  have hrest : (pre s c v).setParent v (s.parent v) = s := setParent_restore s v c
  have hk : (pre s c v).kidsOf c = s.kidsOf c := pre_kidsOf s c v c
  have hun : add U fuel s c v key = runScript U fuel specScript s c v key := by unfold add; rw [script_here]
  rw [hun]
  -- the script unfolded once: nested matches on `validate`, `allParents` and `dget` in the state `pre s c v` that its first two
  -- statements leave; each branch below evaluates them with its hypotheses
  simp only [runScript, specScript, execSteps, execStep]
  rw [show s.setParent v c = pre s c v from rfl]
  cases hval : validate U (pre s c v) v with
  | error e =>
    refine Or.inl ⟨e, ?_⟩
    simp only [if_true, hrest]
  | ok u =>
    cases u
    cases hp : allParents (pre s c v) fuel c with
    | none =>
      refine Or.inl ⟨.runtimeError, ?_⟩
      simp only [hp, if_true, hrest]
    | some ps =>
      by_cases hc : ps.contains (some v) = true
      · refine Or.inl ⟨.valueError, ?_⟩
        simp only [hp, hc, if_true, hrest]
      · have hc' : ps.contains (some v) = false := by simpa using hc
        cases hd : dget (addKey U c v key) (s.kidsOf c) with
        | none =>
          refine Or.inr (Or.inr ⟨?_, rfl, rfl⟩)
          simp only [hp, hc', Bool.false_eq_true, Option.getD_some, hk, hd, if_true, if_false]
        | some w =>
          by_cases hw : w = v
          · subst hw
            refine Or.inr (Or.inl ⟨?_, rfl, rfl⟩)
            simp only [hp, hc', Bool.false_eq_true, Option.getD_some, hk, hd, if_true, if_false]
          · refine Or.inl ⟨.valueError, ?_⟩
            simp only [hp, hc', Bool.false_eq_true, Option.getD_some, hk, hd, hw, if_true, if_false, hrest]

/-- `step` is the state component of `add`.  Proofs rewrite with this equation: left to unification, the comparison of
`step U fuel s o` with `(add …).1` evaluates the whole script of `add`, which is slow. -/
theorem step_eq (U : Nat → Attrs) (fuel : Nat) (s : State) (o : Op) : step U fuel s o = (add U fuel s o.c o.v o.key).1 := rfl

theorem add_fresh {U : Nat → Attrs} {fuel : Nat} {s : State} {c : Cont} {v : Nat} {key : Option Str}
    (hok : (add U fuel s c v key).2 = .ok ()) (hd : dget (addKey U c v key) (s.kidsOf c) = none) :
    (add U fuel s c v key).1 = (pre s c v).setKids c (s.kidsOf c ++ [(addKey U c v key, v)]) := by
  rcases add_cases U fuel s c v key with ⟨e, h⟩ | ⟨-, -, h⟩ | ⟨h, -⟩
  · rw [h] at hok; cases hok
  · rw [hd] at h; cases h
  · rw [h]

theorem Validated.fields {U s v} (h : Validated U s v) : FieldsOk (U v) :=
  ⟨h.id_nodash, h.id_ne, h.type_ok, h.arches_ne, h.name_ne⟩

theorem InvW.empty (U : Nat → Attrs) : InvW U State.empty := by
  refine ⟨?_, ?_, ?_⟩
  · intro p k v h; simp [State.empty] at h
  · intro c k v h; simp [kidsOf_empty] at h
  · intro c; simp [kidsOf_empty]

theorem InvW.of_same_kids {U s s'} (h : InvW U s) (hk : s'.kids = s.kids) (ht : s'.top = s.top) : InvW U s' := by
  have hko : ∀ c, s'.kidsOf c = s.kidsOf c := by
    intro c; cases c <;> simp [State.kidsOf, hk, ht]
  refine ⟨?_, ?_, ?_⟩
  · intro p k v hm; rw [hk] at hm; exact h.edge p k v hm
  · intro c k v hm; rw [hko] at hm; exact h.fields c k v hm
  · intro c; rw [hko]; exact h.keys c

theorem InvW.insert {U : Nat → Attrs} {s : State} (h : InvW U s) (c : Cont) (v : Nat) (key : Option Str)
    (hv : validate U (pre s c v) v = .ok ()) (hd : dget (addKey U c v key) (s.kidsOf c) = none) :
    InvW U ((pre s c v).setKids c (s.kidsOf c ++ [(addKey U c v key, v)])) := by
  have V := validated_of_ok U _ v hv
  refine ⟨?_, ?_, ?_⟩
  · intro p k w hm
    rcases (mem_kidsOf_insert (d := some p)).mp hm with hm | ⟨rfl, rfl, rfl⟩
    · exact h.edge p k w hm
    · have hp := pre_parent_self s (some p) w
      exact ⟨by simp [addKey], V.uid_child p hp, V.arches_sub p hp⟩
  · intro d k w hm
    rcases mem_kidsOf_insert.mp hm with hm | ⟨_, rfl, rfl⟩
    · exact h.fields d k w hm
    · exact V.fields
  · exact nodup_kidsOf_insert (·.1) h.keys (dget_eq_none_iff.mp hd)

theorem InvW.add {U : Nat → Attrs} {s : State} (h : InvW U s) (fuel : Nat) (c : Cont) (v : Nat) (key : Option Str) :
    InvW U (add U fuel s c v key).1 := by
  rcases add_cases U fuel s c v key with ⟨e, h'⟩ | ⟨h', -⟩ | ⟨h', hv, hd⟩
  · rw [h']; exact h
  · rw [h']; exact h.of_same_kids (by simp) (by simp)
  · rw [h']; exact h.insert c v key hv hd

theorem InvW.step {U : Nat → Attrs} {s : State} (h : InvW U s) (fuel : Nat) (o : Op) : InvW U (step U fuel s o) :=
  step_eq U fuel s o ▸ h.add fuel o.c o.v o.key

theorem InvW.run (U : Nat → Attrs) (fuel : Nat) (ops : List Op) : InvW U (run U fuel ops) :=
  List.foldlRecOn (motive := InvW U) ops (Forest.step U fuel) (InvW.empty U) fun _ h o _ => h.step fuel o

theorem Inv.empty (U : Nat → Attrs) : Inv U State.empty := by
  refine ⟨InvW.empty U, ?_, ?_, ?_, ?_⟩
  · intro c k v h; simp [kidsOf_empty] at h
  · intro c; simp [kidsOf_empty]
  · intro k v h; simp [State.empty] at h
  · intro k v h; simp [State.empty] at h

theorem Inv.of_pre {U : Nat → Attrs} {s : State} (h : Inv U s) (c : Cont) (v : Nat)
    (hel : ∀ d k', (k', v) ∈ s.kidsOf d → d = c) : Inv U (pre s c v) := by
  refine ⟨h.weak.of_same_kids (by simp) (by simp), ?_, ?_, ?_, ?_⟩
  · intro d k w hm
    rw [pre_kidsOf] at hm
    by_cases hw : w = v
    · subst hw; rw [pre_parent_self]; exact (hel d k hm).symm
    · rw [pre_parent_other s c v w hw]; exact h.parent d k w hm
  · intro d; rw [pre_kidsOf]; exact h.once d
  · intro k w hm; rw [pre_top] at hm; exact h.topAligned k w hm
  · intro k w hm; rw [pre_top] at hm; exact h.topKey k w hm

theorem Inv.insert {U : Nat → Attrs} {s : State} (h : Inv U s) (c : Cont) (v : Nat) (key : Option Str)
    (hun : ¬ Placed s v) (hkey : c = none → ∀ k, key = some k → k = [] ∨ k = (U v).id ∨ k = (U v).uid)
    (hv : validate U (pre s c v) v = .ok ()) (hd : dget (addKey U c v key) (s.kidsOf c) = none) :
    Inv U ((pre s c v).setKids c (s.kidsOf c ++ [(addKey U c v key, v)])) := by
  have V := validated_of_ok U _ v hv
  have hpre := h.of_pre c v (fun d k' hm => absurd ⟨d, k', hm⟩ hun)
  have hpv : (pre s c v).parent v = c := pre_parent_self s c v
  refine ⟨h.weak.insert c v key hv hd, ?_, ?_, ?_, ?_⟩
  · intro d k w hm
    rw [setKids_parent]
    rcases mem_kidsOf_insert.mp hm with hm | ⟨rfl, rfl, rfl⟩
    · exact hpre.parent d k w (by rw [pre_kidsOf]; exact hm)
    · exact hpv
  · refine nodup_kidsOf_insert (·.2) h.once fun ha => ?_
    obtain ⟨kv, hkv, rfl⟩ := List.mem_map.mp ha
    exact hun ⟨c, kv.1, hkv⟩
  · intro k w hm
    rcases (mem_kidsOf_insert (d := none)).mp hm with hm | ⟨rfl, rfl, rfl⟩
    · exact h.topAligned k w hm
    · exact V.uid_top hpv
  · intro k w hm
    rcases (mem_kidsOf_insert (d := none)).mp hm with hm | ⟨rfl, rfl, rfl⟩
    · exact h.topKey k w hm
    · cases key with
      | none => exact Or.inl rfl
      | some k =>
        simp only [addKey]
        by_cases he : k.isEmpty = true
        · simp [he]
        · simp only [he]
          rcases hkey rfl k rfl with h0 | h0 | h0
          · subst h0; simp at he
          · exact Or.inl h0
          · exact Or.inr h0

/-- core step: `elsewhere` is only needed when the validators accept the object under its new parent -/
theorem Inv.add_core {U : Nat → Attrs} {s : State} (h : Inv U s) (fuel : Nat) (c : Cont) (v : Nat) (key : Option Str)
    (hel : validate U (pre s c v) v = .ok () → ∀ d k', (k', v) ∈ s.kidsOf d → d = c ∧ k' = addKey U c v key)
    (hkey : c = none → ∀ k, key = some k → k = [] ∨ k = (U v).id ∨ k = (U v).uid) :
    Inv U (add U fuel s c v key).1 := by
  rcases add_cases U fuel s c v key with ⟨e, h'⟩ | ⟨h', hv, -⟩ | ⟨h', hv, hd⟩
  · rw [h']; exact h
  · rw [h']; exact h.of_pre c v (fun d k' hm => (hel hv d k' hm).1)
  · rw [h']
    refine h.insert c v key ?_ hkey hv hd
    rintro ⟨d, k', hm⟩
    obtain ⟨rfl, rfl⟩ := hel hv d k' hm
    have := dget_of_mem (h.weak.keys d) hm
    rw [hd] at this; cases this

theorem Inv.add {U : Nat → Attrs} {s : State} (h : Inv U s) (fuel : Nat) (c : Cont) (v : Nat) (key : Option Str)
    (hf : AddOk U s c v key) : Inv U (add U fuel s c v key).1 :=
  h.add_core fuel c v key (fun _ => hf.elsewhere) hf.keyOk

theorem Inv.step {U : Nat → Attrs} {s : State} (h : Inv U s) (fuel : Nat) (o : Op) (hf : AddOk U s o.c o.v o.key) :
    Inv U (step U fuel s o) :=
  step_eq U fuel s o ▸ h.add fuel o.c o.v o.key hf

/-- a UID `p.uid-id` is never aligned as a top-level UID with the same id, unless `p.uid` consists of dashes -/
theorem not_top_and_child {pu i u : Str} (hi : '-' ∉ i) (h1 : u = pu ++ '-' :: i) (h2 : Str.removeChar '-' u = i) :
    Str.removeChar '-' pu = [] := by
  rw [h1, removeChar_append, removeChar_self_cons, removeChar_id hi] at h2
  have := congrArg List.length h2
  simpa using this

/-- with `UidsApart`, an object the validators accept under `c` cannot already be filed under another container -/
theorem elsewhere_of_valid {U : Nat → Attrs} {s : State} (h : Inv U s) (hU : UidsApart U)
    (htop : ∀ kv ∈ s.top, kv.1 = (U kv.2).id) (c : Cont) (v : Nat)
    (hv : validate U (pre s c v) v = .ok ()) :
    ∀ d k', (k', v) ∈ s.kidsOf d → d = c ∧ k' = addKey U c v none := by
  have V := validated_of_ok U _ v hv
  have hpv : (pre s c v).parent v = c := pre_parent_self s c v
  intro d k' hm
  cases d with
  | some q =>
    have e := h.weak.edge q k' v hm
    cases c with
    | some p =>
      have h2 := V.uid_child p hpv
      rw [e.uid] at h2
      have := hU.inj q p (List.append_cancel_right h2)
      subst this
      exact ⟨rfl, by rw [e.key]; simp [addKey]⟩
    | none =>
      exact absurd (not_top_and_child V.id_nodash e.uid (V.uid_top hpv)) (hU.solid q)
  | none =>
    cases c with
    | some p =>
      exact absurd (not_top_and_child V.id_nodash (V.uid_child p hpv) (h.topAligned k' v hm)) (hU.solid p)
    | none => exact ⟨rfl, by have := htop (k', v) hm; simp only at this; rw [this]; simp [addKey]⟩

/-- Every top-level variant stays filed under its id (the form `elsewhere_of_valid` and `CI.forestOf_wellKeyed` need) as long as
the top-level container is called with the default key, `hk`: an explicit `variant_id` is stored unchecked (F29). -/
theorem topIds_add (U : Nat → Attrs) (fuel : Nat) (s : State) (c : Cont) (v : Nat) (key : Option Str)
    (hk : c = none → key = none) (h : ∀ kv ∈ s.top, kv.1 = (U kv.2).id) :
    ∀ kv ∈ (add U fuel s c v key).1.top, kv.1 = (U kv.2).id := by
  rcases add_cases U fuel s c v key with ⟨e, he⟩ | ⟨he, _⟩ | ⟨he, _⟩
  · rw [he]
    exact h
  · rw [he]
    simpa using h
  · rw [he]
    intro kv hkv
    rcases (mem_kidsOf_insert (d := none)).mp hkv with hkv | ⟨hc, hkey, hv⟩
    · exact h kv hkv
    · rw [hkey, hv, hk hc.symm]
      simp [addKey]

end PM.Forest
