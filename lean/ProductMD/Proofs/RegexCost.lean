import ProductMD.Proofs.RegexAdequacy
/-!
The cost theorem behind C19: for every `safe` expression, the number of results (`wB`) and the number of
matcher nodes visited with no memoisation (`cB`) are bounded by explicit polynomials of the input length,
uniformly in the fuel.
-/
namespace PM

/-- no character lies in both classes; decided on the range lists, so it answers `false` whenever one class is negated -/
def Cls.disjoint (d k : Cls) : Bool :=
  !d.neg && !k.neg &&
    d.ranges.all (fun r => k.ranges.all (fun q => decide (r.2 < q.1) || decide (q.2 < r.1)))

theorem Cls.disjoint_spec {d k : Cls} (h : d.disjoint k = true) (c : Char)
    (hd : d.mem c = true) (hk : k.mem c = true) : False := by
  simp only [Cls.disjoint, Bool.and_eq_true, Bool.not_eq_true', List.all_eq_true, Bool.or_eq_true,
    decide_eq_true_eq] at h
  obtain ⟨⟨hdn, hkn⟩, hall⟩ := h
  simp [Cls.mem, hdn, hkn] at hd hk
  obtain ⟨r1, r2, hr, hr1, hr2⟩ := hd
  obtain ⟨q1, q2, hq, hq1, hq2⟩ := hk
  rcases hall (r1, r2) hr (q1, q2) hq with h | h <;> simp at h <;> omega

/-- star bodies covered: a single class, or a *delimited loop* `d k k*` with `d ∩ k = ∅` -/
def starBodyOk : Re → Bool
  | .cls _ => true
  | .cat (.cls d) (.cat (.cls k) (.star (.cls k'))) => k == k' && d.disjoint k
  | _ => false

/-- the expressions the bound covers; the shape of a star body is tested with the group marks removed (`m_strip`) -/
def Re.safe : Re → Bool
  | .eps | .bol | .eol | .cls _ => true
  | .bad => false
  | .cat a b => a.safe && b.safe
  | .alt a b => a.safe && b.safe
  | .grp _ a => a.safe
  | .star a => starBodyOk a.strip && a.safe

/-- bound on the number of results on inputs of length `n` -/
def Re.wB : Re → Nat → Nat
  | .cat a b, n => a.wB n * b.wB n
  | .alt a b, n => a.wB n + b.wB n
  | .star _, n => n + 1
  | .grp _ a, n => a.wB n
  | _, _ => 1

/-- bound on the number of matcher nodes visited on inputs of length `n` -/
def Re.cB : Re → Nat → Nat
  | .cat a b, n => 1 + a.cB n + a.wB n * b.cB n
  | .alt a b, n => 1 + a.cB n + b.cB n
  | .star a, n => (n + 1) * (1 + a.cB n)
  | .grp _ a, n => a.cB n
  | _, _ => 1

theorem sum_map_le_sum_mul {α} (l : List α) (g w : α → Nat) (K : Nat) (h : ∀ t ∈ l, g t ≤ w t * K) :
    (l.map g).sum ≤ (l.map w).sum * K := by
  induction l with
  | nil => simp
  | cons x xs ih =>
    have h1 := h x (by simp)
    have h2 := ih (fun t ht => h t (by simp [ht]))
    simp only [List.map_cons, List.sum_cons, Nat.add_mul]
    omega

theorem sum_map_le_mul {α} (l : List α) (g : α → Nat) (B : Nat) (h : ∀ t ∈ l, g t ≤ B) :
    (l.map g).sum ≤ l.length * B := by
  simpa [List.map_const', List.sum_replicate_nat] using sum_map_le_sum_mul l g (fun _ => 1) B (by simpa using h)

theorem starAux_cls_nil (k : Cls) (F f : Nat) : starAux (m F (.cls k)) f [] = [[]] := by
  cases f <;> simp [starAux_succ]

theorem starAux_cls_cons (k : Cls) (F f : Nat) (c : Char) (cs : Str) :
    starAux (m F (.cls k)) (f+1) (c :: cs) =
      if k.mem c then starAux (m F (.cls k)) f cs ++ [c :: cs] else [c :: cs] := by
  rw [starAux_succ, m_cls_cons]
  by_cases h : k.mem c <;> simp [h]

/-- `g` weights the results of `k*`.  All results but the one behind the whole run start in `k`, where the weight is 1
(`hg1`), so the weights add up to at most `|u| + 1`. -/
theorem sum_star_cls_le (k : Cls) (F : Nat) (g : Str → Nat) (hg : ∀ t, g t ≤ t.length + 1)
    (hg1 : ∀ c cs, k.mem c = true → g (c :: cs) = 1) :
    ∀ (f' : Nat) (u : Str), ((starAux (m F (.cls k)) f' u).map g).sum ≤ u.length + 1 := by
  intro f'
  induction f' with
  | zero => intro u; simp; exact hg u
  | succ f' ih =>
    intro u
    cases u with
    | nil => simp [starAux_cls_nil]; exact hg []
    | cons y ys =>
      rw [starAux_cls_cons]
      by_cases h : k.mem y
      · simp only [h, if_true, List.map_append, List.sum_append, List.map_cons, List.map_nil,
          List.sum_cons, List.sum_nil, List.length_cons]
        have := ih ys
        have := hg1 y ys h
        omega
      · have := hg (y :: ys)
        simpa [h] using this

theorem width_star_cls (k : Cls) (F f : Nat) (s : Str) : (starAux (m F (.cls k)) f s).length ≤ s.length + 1 := by
  simpa [List.map_const', List.sum_replicate_nat] using
    sum_star_cls_le k F (fun _ => 1) (fun t => Nat.le_add_left 1 _) (fun _ _ _ => rfl) f s

section delim
variable (d k : Cls) (hdis : d.disjoint k = true)

/-- `d k k*` -/
def delimBody : Re := .cat (.cls d) (.cat (.cls k) (.star (.cls k)))

theorem delimBody_nil (f) : m f (delimBody d k) [] = [] := by
  simp [delimBody, m_cat]

theorem delimBody_not (f c cs) (h : d.mem c = false) : m f (delimBody d k) (c :: cs) = [] := by
  simp [delimBody, m_cat, m_cls_cons, h]

theorem delimBody_hit (f c cs) (h : d.mem c = true) :
    m f (delimBody d k) (c :: cs) = m f (.cat (.cls k) (.star (.cls k))) cs := by
  simp [delimBody, m_cat, m_cls_cons, h]

theorem star_delim_stuck (F f : Nat) (s : Str) (h : ∀ c cs, s = c :: cs → d.mem c = false) :
    starAux (m F (delimBody d k)) f s = [s] := by
  cases f with
  | zero => simp
  | succ f =>
    rw [starAux_succ]
    cases s with
    | nil => simp [delimBody_nil]
    | cons c cs => simp [delimBody_not d k F c cs (h c cs rfl)]

include hdis in
/-- `(d k k*)*` has at most `|s| + 1` results.  Each result `t` of one round `d k k*` is weighted by the number of results of the
star on `t`; that number is 1 when `t` starts in `k` (the next round needs `d`, and `d ∩ k = ∅`: `star_delim_stuck`), so the
rounds add up as for a single class (`sum_star_cls_le`). -/
theorem width_star_delim (F : Nat) : ∀ (f : Nat) (s : Str),
    (starAux (m F (delimBody d k)) f s).length ≤ s.length + 1 := by
  intro f
  induction f with
  | zero => intro s; simp
  | succ f ih =>
    intro s
    cases s with
    | nil => simp [star_delim_stuck d k F (f+1) [] (by intro c cs h; cases h)]
    | cons c cs =>
      by_cases hc : d.mem c
      · rw [starAux_succ, delimBody_hit d k F c cs hc, m_cat]
        cases cs with
        | nil => simp
        | cons x xs =>
          rw [m_cls_cons]
          by_cases hx : k.mem x
          · simp only [hx, if_true, List.flatMap_cons, List.flatMap_nil, List.append_nil, m_star]
            have hall : ∀ t ∈ starAux (m F (.cls k)) F xs, t.length < (c :: x :: xs).length := by
              intro t ht
              have := m_length_le (.star (.cls k)) F xs t ht
              simp only [List.length_cons]; omega
            rw [List.filter_eq_self.mpr fun t ht => by simpa using hall t ht, List.length_append, List.length_flatMap]
            have hstuck : ∀ c' cs', k.mem c' = true → (starAux (m F (delimBody d k)) f (c' :: cs')).length = 1 := by
              intro c' cs' hk
              have hnd : d.mem c' = false := by
                cases hdm : d.mem c' with
                | false => rfl
                | true => exact (Cls.disjoint_spec hdis c' hdm hk).elim
              rw [star_delim_stuck d k F f (c' :: cs') (by intro a as h; cases h; exact hnd)]
              rfl
            have := sum_star_cls_le k F (fun t => (starAux (m F (delimBody d k)) f t).length) ih hstuck F xs
            simp only [List.length_cons, List.length_nil] at *
            omega
          · simp [hx]
      · have hc' : d.mem c = false := by simpa using hc
        rw [star_delim_stuck d k F (f+1) (c :: cs) (by intro a as h; cases h; exact hc')]
        simp
end delim

theorem width_star_ok (a : Re) (hok : starBodyOk a.strip = true) (F f : Nat) (s : Str) :
    (starAux (m F a) f s).length ≤ s.length + 1 := by
  have hs : m F a = m F a.strip := by funext t; exact (m_strip a F t).symm
  rw [hs]
  generalize a.strip = b at hok
  unfold starBodyOk at hok
  split at hok
  · exact width_star_cls _ F f s
  · rename_i d k k'
    simp only [Bool.and_eq_true, beq_iff_eq] at hok
    obtain ⟨rfl, hd⟩ := hok
    exact width_star_delim d k hd F f s
  · cases hok

theorem star_cost_le (body : Str → List Str) (bc : Str → Nat) (C n : Nat) (hC : ∀ u, u.length ≤ n → bc u ≤ C) :
    ∀ (f : Nat) (s : Str), s.length ≤ n → starCost body bc f s ≤ (starAux body f s).length * (1 + C) := by
  intro f
  induction f with
  | zero => intro s _; simp
  | succ f ih =>
    intro s hs
    rw [starCost_succ, starAux_succ, List.length_append, List.length_flatMap]
    generalize hl : (body s).filter (fun s' => s'.length < s.length) = l
    have hlt : ∀ t ∈ l, t.length < s.length := by
      intro t ht; rw [← hl] at ht; simpa using (List.mem_filter.mp ht).2
    have h1 := hC s hs
    have h2 : (l.map (starCost body bc f)).sum ≤ (l.map (fun t => (starAux body f t).length)).sum * (1 + C) :=
      sum_map_le_sum_mul l _ _ _ fun t ht => ih t (by have := hlt t ht; omega)
    simp only [List.length_cons, List.length_nil, Nat.add_mul, Nat.one_mul, Nat.zero_add]
    omega

/-- The length bound `n` is a variable apart from `s`, so that a continuation, which runs on a shorter string, is covered by
the induction hypothesis as it stands. -/
theorem safe_bounds : ∀ (r : Re), r.safe = true → ∀ (f n : Nat) (s : Str), s.length ≤ n →
    (m f r s).length ≤ r.wB n ∧ cost f r s ≤ r.cB n := by
  intro r
  induction r with
  | eps => intro _ f n s _; simp [Re.wB, Re.cB]
  | bol => intro _ f n s _; simp [Re.wB, Re.cB]
  | eol => intro _ f n s _; rw [m_eol]; split <;> simp [Re.wB, Re.cB]
  | bad => intro h; simp [Re.safe] at h
  | cls k =>
    intro _ f n s _
    cases s with
    | nil => simp [Re.wB, Re.cB]
    | cons c cs => rw [m_cls_cons]; split <;> simp [Re.wB, Re.cB]
  | cat a b iha ihb =>
    intro h f n s hs
    simp only [Re.safe, Bool.and_eq_true] at h
    obtain ⟨ha1, ha2⟩ := iha h.1 f n s hs
    have hb : ∀ t ∈ m f a s, (m f b t).length ≤ b.wB n ∧ cost f b t ≤ b.cB n :=
      fun t ht => ihb h.2 f n t (Nat.le_trans (m_length_le a f s t ht) hs)
    constructor
    · rw [m_cat, List.length_flatMap]
      exact Nat.le_trans (sum_map_le_mul _ _ _ fun t ht => (hb t ht).1) (Nat.mul_le_mul ha1 (Nat.le_refl _))
    · rw [cost_cat]
      have h1 := sum_map_le_mul (m f a s) (cost f b) _ fun t ht => (hb t ht).2
      have h2 := Nat.mul_le_mul ha1 (Nat.le_refl (b.cB n))
      simp only [Re.cB]
      omega
  | alt a b iha ihb =>
    intro h f n s hs
    simp only [Re.safe, Bool.and_eq_true] at h
    have ha := iha h.1 f n s hs
    have hb := ihb h.2 f n s hs
    rw [m_alt, cost_alt, List.length_append]
    simp only [Re.wB, Re.cB]
    omega
  | grp k a iha =>
    intro h f n s hs
    simp only [Re.safe] at h
    simpa [Re.wB, Re.cB] using iha h f n s hs
  | star a iha =>
    intro h f n s hs
    simp only [Re.safe, Bool.and_eq_true] at h
    rw [m_star, cost_star]
    have hw : (starAux (m f a) f s).length ≤ n + 1 := Nat.le_trans (width_star_ok a h.1 f f s) (by omega)
    refine ⟨hw, ?_⟩
    have hc := star_cost_le (m f a) (cost f a) (a.cB n) n (fun u hu => (iha h.2 f n u hu).2) f s hs
    simp only [Re.cB]
    exact Nat.le_trans hc (Nat.mul_le_mul hw (Nat.le_refl _))

/-- coefficient and degree of a polynomial bound on the number of results: `wB r n ≤ wc r * (n+1) ^ wd r` -/
def Re.wc : Re → Nat
  | .cat a b => a.wc * b.wc
  | .alt a b => a.wc + b.wc
  | .grp _ a => a.wc
  | _ => 1
def Re.wd : Re → Nat
  | .cat a b => a.wd + b.wd
  | .alt a b => max a.wd b.wd
  | .star _ => 1
  | .grp _ a => a.wd
  | _ => 0
/-- leading coefficient of the cost bound -/
def Re.coef : Re → Nat
  | .cat a b => 1 + a.coef + a.wc * b.coef
  | .alt a b => 1 + a.coef + b.coef
  | .star a => 1 + a.coef
  | .grp _ a => a.coef
  | _ => 1
/-- degree of the cost bound -/
def Re.deg : Re → Nat
  | .cat a b => max a.deg (a.wd + b.deg)
  | .alt a b => max a.deg b.deg
  | .star a => a.deg + 1
  | .grp _ a => a.deg
  | _ => 0

private theorem pow_mono (P : Nat) (hP : 1 ≤ P) {a b : Nat} (h : a ≤ b) (c : Nat) : c * P ^ a ≤ c * P ^ b :=
  Nat.mul_le_mul (Nat.le_refl _) (Nat.pow_le_pow_right hP h)

theorem Re.wB_le (r : Re) (n : Nat) : r.wB n ≤ r.wc * (n + 1) ^ r.wd := by
  have hP : 1 ≤ n + 1 := by omega
  induction r with
  | eps | bol | eol | bad | cls => simp [Re.wB, Re.wc, Re.wd]
  | grp _ a iha => simpa [Re.wB, Re.wc, Re.wd] using iha
  | star a _ => simp [Re.wB, Re.wc, Re.wd]
  | cat a b iha ihb =>
    simp only [Re.wB, Re.wc, Re.wd]
    calc a.wB n * b.wB n ≤ (a.wc * (n+1) ^ a.wd) * (b.wc * (n+1) ^ b.wd) := Nat.mul_le_mul iha ihb
      _ = a.wc * b.wc * (n + 1) ^ (a.wd + b.wd) := by
        rw [Nat.pow_add]; simp [Nat.mul_assoc, Nat.mul_left_comm]
  | alt a b iha ihb =>
    simp only [Re.wB, Re.wc, Re.wd]
    have h1 := pow_mono (n+1) hP (Nat.le_max_left a.wd b.wd) a.wc
    have h2 := pow_mono (n+1) hP (Nat.le_max_right a.wd b.wd) b.wc
    rw [Nat.add_mul]
    omega

theorem Re.cB_le (r : Re) (n : Nat) : r.cB n ≤ r.coef * (n + 1) ^ r.deg := by
  have hP : 1 ≤ n + 1 := by omega
  induction r with
  | eps | bol | eol | bad | cls => simp [Re.cB, Re.coef, Re.deg]
  | grp _ a iha => simpa [Re.cB, Re.coef, Re.deg] using iha
  | star a iha =>
    simp only [Re.cB, Re.coef, Re.deg]
    have h1 : 1 ≤ (n + 1) ^ a.deg := Nat.one_le_pow _ _ hP
    have h2 : 1 + a.cB n ≤ (1 + a.coef) * (n + 1) ^ a.deg := by rw [Nat.add_mul]; omega
    calc (n + 1) * (1 + a.cB n) ≤ (n + 1) * ((1 + a.coef) * (n + 1) ^ a.deg) := Nat.mul_le_mul (Nat.le_refl _) h2
      _ = (1 + a.coef) * (n + 1) ^ (a.deg + 1) := by
        rw [Nat.pow_succ]; simp [Nat.mul_comm, Nat.mul_left_comm]
  | alt a b iha ihb =>
    simp only [Re.cB, Re.coef, Re.deg]
    have h0 : 1 ≤ (n + 1) ^ (max a.deg b.deg) := Nat.one_le_pow _ _ hP
    have h1 := pow_mono (n+1) hP (Nat.le_max_left a.deg b.deg) a.coef
    have h2 := pow_mono (n+1) hP (Nat.le_max_right a.deg b.deg) b.coef
    simp only [Nat.add_mul, Nat.one_mul]
    omega
  | cat a b iha ihb =>
    simp only [Re.cB, Re.coef, Re.deg]
    generalize hD : max a.deg (a.wd + b.deg) = D
    have hD1 : a.deg ≤ D := by omega
    have hD2 : a.wd + b.deg ≤ D := by omega
    have h0 : 1 ≤ (n + 1) ^ D := Nat.one_le_pow _ _ hP
    have h1 := pow_mono (n+1) hP hD1 a.coef
    have h3 : a.wB n * b.cB n ≤ a.wc * b.coef * (n + 1) ^ D :=
      calc a.wB n * b.cB n ≤ (a.wc * (n+1) ^ a.wd) * (b.coef * (n+1) ^ b.deg) := Nat.mul_le_mul (a.wB_le n) ihb
        _ = a.wc * b.coef * (n + 1) ^ (a.wd + b.deg) := by
          rw [Nat.pow_add]; simp [Nat.mul_assoc, Nat.mul_comm, Nat.mul_left_comm]
        _ ≤ a.wc * b.coef * (n + 1) ^ D := pow_mono (n+1) hP hD2 _
    simp only [Nat.add_mul, Nat.one_mul]
    omega

end PM
