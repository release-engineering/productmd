import ProductMD.Model.Str
/-! `List.lookup` on association lists with string keys (a Python dict as a list of entries): membership vs lookup.
The models' own first-binding lookups are separate definitions, each proved equal to `List.lookup` where it is first needed
(`CI.lookup_eq` in Proofs/CIBasic, `Mf.lookup_eq` in Proofs/PyCanon, `Forest.dget_eq_lookup` in Proofs/ForestInv), and reach these
lemmas through that equation; `Checksum.Table.get?` is one more such lookup and is not tied to them (`Table.get?_set` in
Proofs/Checksum is proved from the definition). -/
namespace PM

theorem Ini.lookup_cons_eq {α} (a k : Str) (b : α) (es : List (Str × α)) :
    ((k, b) :: es).lookup a = if k = a then some b else es.lookup a := by
  by_cases h : k = a
  · subst h; simp [List.lookup]
  · have : (a == k) = false := by
      simp only [beq_eq_false_iff_ne, ne_eq]; exact fun h' => h h'.symm
    simp [List.lookup, this, h]

theorem nodup_of_map {α β} (f : α → β) (l : List α) (h : (l.map f).Nodup) : l.Nodup :=
  List.Pairwise.of_map f (fun _ _ hne e => hne (congrArg f e)) h

theorem find_of_mem_nodup {α} (key : α → Str) : ∀ (l : List α) (a : α) (k : Str), (l.map key).Nodup → a ∈ l → key a = k →
    l.find? (fun x => key x == k) = some a
  | [], a, _, _, h, _ => by cases h
  | x :: xs, a, k, hn, hm, hk => by
    simp only [List.map_cons, List.nodup_cons] at hn
    cases hm with
    | head => simp [List.find?, hk]
    | tail _ hm =>
      have : ¬ key x = k := by
        intro e
        exact hn.1 (List.mem_map.mpr ⟨a, hm, by rw [hk, e]⟩)
      have hb : (key x == k) = false := by simp [this]
      simp only [List.find?, hb]
      exact find_of_mem_nodup key xs a k hn.2 hm hk

universe u
namespace Assoc
open Ini

variable {α : Type u}

theorem lookup_of_mem_nodup {l : List (Str × α)} (hn : (l.map (·.1)).Nodup) {k : Str} {v : α} (hm : (k, v) ∈ l) :
    l.lookup k = some v := by
  induction l with
  | nil => cases hm
  | cons x xs ih =>
    obtain ⟨a, b⟩ := x
    simp only [List.map_cons, List.nodup_cons] at hn
    rw [lookup_cons_eq]
    cases hm with
    | head => simp
    | tail _ h =>
      have : ¬ a = k := by
        intro e; subst e
        exact hn.1 (List.mem_map.mpr ⟨(a, v), h, rfl⟩)
      simp [this, ih hn.2 h]

theorem mem_of_lookup {l : List (Str × α)} {k : Str} {v : α} (h : l.lookup k = some v) : (k, v) ∈ l := by
  induction l with
  | nil => simp [List.lookup] at h
  | cons x xs ih =>
    obtain ⟨a, b⟩ := x
    rw [lookup_cons_eq] at h
    by_cases hx : a = k
    · simp only [hx, if_true, Option.some.injEq] at h
      subst hx; subst h
      exact List.mem_cons_self
    · simp only [hx, if_false] at h
      exact List.mem_cons_of_mem _ (ih h)

theorem lookup_none_iff {l : List (Str × α)} {k : Str} : l.lookup k = none ↔ k ∉ l.map (·.1) := by
  induction l with
  | nil => simp [List.lookup]
  | cons x xs ih =>
    obtain ⟨a, b⟩ := x
    rw [lookup_cons_eq]
    by_cases hx : a = k
    · simp [hx]
    · have : ¬ k = a := fun e => hx e.symm
      simp [hx, ih, this]

theorem lookup_isSome_iff {l : List (Str × α)} {k : Str} : (l.lookup k).isSome ↔ k ∈ l.map (·.1) := by
  cases h : l.lookup k with
  | none => simp [lookup_none_iff.mp h]
  | some v =>
    have := mem_of_lookup h
    simp only [Option.isSome_some, true_iff]
    exact List.mem_map.mpr ⟨(k, v), this, rfl⟩

theorem exists_of_mem_keys {l : List (Str × α)} {k : Str} (h : k ∈ l.map (·.1)) : ∃ v, l.lookup k = some v := by
  have := lookup_isSome_iff.mpr h
  exact Option.isSome_iff_exists.mp this

theorem lookup_perm {l l' : List (Str × α)} (hp : l.Perm l') (hn : (l.map (·.1)).Nodup) (k : Str) :
    l.lookup k = l'.lookup k := by
  have hn' : (l'.map (·.1)).Nodup := (hp.map (·.1)).nodup_iff.mp hn
  cases h : l.lookup k with
  | none =>
    symm
    rw [lookup_none_iff] at h ⊢
    exact fun hx => h ((hp.map (·.1)).mem_iff.mpr hx)
  | some b => exact (lookup_of_mem_nodup hn' (hp.mem_iff.mp (mem_of_lookup h))).symm

theorem lookup_filter_key (p : Str → Bool) : ∀ (l : List (Str × α)) (k : Str), p k = true →
    (l.filter fun kv => p kv.1).lookup k = l.lookup k
  | [], _, _ => rfl
  | (a, b) :: xs, k, hk => by
    simp only [List.filter_cons]
    cases hp : p a
    · have : ¬ a = k := fun e => by rw [e, hk] at hp; cases hp
      simp only [Bool.false_eq_true, if_false]
      rw [lookup_cons_eq, lookup_filter_key p xs k hk]; simp [this]
    · simp only [if_true]
      rw [lookup_cons_eq, lookup_cons_eq, lookup_filter_key p xs k hk]

theorem lookup_filter_none (p : Str → Bool) : ∀ (l : List (Str × α)) (k : Str), p k = false →
    (l.filter fun kv => p kv.1).lookup k = none
  | [], _, _ => rfl
  | (a, b) :: xs, k, hk => by
    have ih := lookup_filter_none p xs k hk
    simp only [List.filter_cons]
    cases hp : p a
    · simpa using ih
    · have : ¬ a = k := fun e => by rw [e, hk] at hp; cases hp
      simp only [if_true]
      rw [lookup_cons_eq, ih, if_neg this]

section
variable {α : Type}

theorem lookup_map {β} (f : α → β) (l : List (Str × α)) (k : Str) :
    (l.map fun kv => (kv.1, f kv.2)).lookup k = (l.lookup k).map f := by
  induction l with
  | nil => rfl
  | cons x xs ih =>
    obtain ⟨a, b⟩ := x
    simp only [List.map_cons]
    rw [lookup_cons_eq, lookup_cons_eq]
    by_cases hx : a = k <;> simp [hx, ih]

end

theorem keys_map {β : Type} (g : Str × α → β) (l : List (Str × α)) : (l.map fun p => (p.1, g p)).map (·.1) = l.map (·.1) := by
  rw [List.map_map]
  rfl

/-- the search by key that `PyVal.get?`, `Obj.get`, `PyOps.subscript` are written with is `List.lookup` -/
theorem find?_fst (k : Str) : ∀ l : List (Str × α), l.find? (·.1 == k) = (l.lookup k).map (k, ·)
  | [] => rfl
  | (a, b) :: rest => by
    rw [List.find?_cons, lookup_cons_eq, find?_fst k rest]
    by_cases h : a = k
    · subst h; simp
    · have hb : (a == k) = false := beq_false_of_ne h
      simp [h, hb]

/-- the entries of a table that are set -/
def optsOf (tb : List (Str × Option α)) : List (Str × α) := tb.filterMap fun kv => kv.2.map (kv.1, ·)

theorem optsOf_append (a b : List (Str × Option α)) : optsOf (a ++ b) = optsOf a ++ optsOf b := List.filterMap_append

theorem optsOf_keys_sublist (tb : List (Str × Option α)) : ((optsOf tb).map (·.1)).Sublist (tb.map (·.1)) := by
  induction tb with
  | nil => exact List.Sublist.slnil
  | cons kv tb ih =>
    obtain ⟨k, x⟩ := kv
    cases x with
    | none => exact List.Sublist.cons _ ih
    | some v => exact List.Sublist.cons_cons _ ih

theorem lookup_optsOf_of_mem {tb : List (Str × Option α)} (hn : (tb.map (·.1)).Nodup) {k : Str} {x : Option α}
    (hm : (k, x) ∈ tb) : (optsOf tb).lookup k = x := by
  cases x with
  | some v =>
    exact lookup_of_mem_nodup ((optsOf_keys_sublist tb).nodup hn) (List.mem_filterMap.mpr ⟨(k, some v), hm, rfl⟩)
  | none =>
    refine lookup_none_iff.mpr fun h => ?_
    obtain ⟨e, he, hk⟩ := List.mem_map.mp h
    obtain ⟨kv, hkv, hv⟩ := List.mem_filterMap.mp he
    obtain ⟨k', x'⟩ := kv
    cases x' with
    | none => cases hv
    | some v =>
      cases hv
      have hk' : k' = k := hk
      have := lookup_of_mem_nodup hn hkv
      rw [hk', lookup_of_mem_nodup hn hm] at this
      cases this

end Assoc
end PM
