import ProductMD.Proofs.IniRoundTrip
import ProductMD.Model.IniText
import ProductMD.Proofs.SortBy
import ProductMD.Proofs.Assoc
import ProductMD.Proofs.PermR
/-!
`IniText` (what `SortedConfigParser.write` makes of an `Ini` document) tied to the proved reader/writer model (`Model/IniParse.lean`,
`Proofs/IniRoundTrip.lean`): comment-named options (`; WARNING.0 = …` in `[general]`) are written as comment lines, so
`parse (render d) = ok (dropComments d)` whenever `d` is free of line feeds and `dropComments d` is representable (`parse_render_filter`
with the options that are not comment-named as the ones to keep).  And
`IniText.render d = IniParse.render (IniText.canon d)` for a document without a `[DEFAULT]` block (`render_eq_canon`), hence the
bytes depend on the document only up to the order of its sections and of the options inside a section (`render_congr`; `IniText.IniEq`,
`Spec/TIWords.lean`, is that relation in the words of `C08_ini_canonical`, and `IniEq.ce` at the end leads from it to `CE`).
-/
namespace PM
namespace IniParse

variable {sp : Char → Bool}

theorem lstrip_snoc (a : Str) (c : Char) (h : sp c = false) : ∃ r, lstrip sp (a ++ [c]) = r ++ [c] := by
  induction a with
  | nil => exact ⟨[], by simp [lstrip, h]⟩
  | cons x xs ih =>
    simp only [List.cons_append, lstrip]
    split
    · exact ih
    · exact ⟨x :: xs, rfl⟩

theorem strip_head (c : Char) (cs : Str) (h : sp c = false) : ∃ r, strip sp (c :: cs) = c :: r := by
  unfold strip
  have : lstrip sp (c :: cs) = c :: cs := by simp [lstrip, h]
  rw [this]
  unfold rstrip
  obtain ⟨r, hr⟩ := lstrip_snoc (sp := sp) cs.reverse c h
  refine ⟨r.reverse, ?_⟩
  rw [List.reverse_cons, hr]; simp

theorem commentName_iff (k : Str) : IniText.isCommentName k = true ↔ ∃ c t, k = c :: t ∧ (c = '#' ∨ c = ';') := by
  unfold IniText.isCommentName Str.startsWith
  cases k with
  | nil => simp [List.isPrefixOf]
  | cons c t =>
    simp only [List.isPrefixOf, Bool.or_eq_true, Bool.and_eq_true, beq_iff_eq, List.cons.injEq]
    constructor
    · rintro (⟨h, _⟩ | ⟨h, _⟩)
      · exact ⟨c, t, ⟨rfl, rfl⟩, Or.inl h.symm⟩
      · exact ⟨c, t, ⟨rfl, rfl⟩, Or.inr h.symm⟩
    · rintro ⟨c', t', ⟨rfl, rfl⟩, h | h⟩
      · left; exact ⟨h.symm, by simp⟩
      · right; exact ⟨h.symm, by simp⟩

theorem optLine_comment (hh : sp '#' = false) (hs : sp ';' = false) (kv : Str × Str) (h : IniText.isCommentName kv.1 = true) :
    commentLine sp (optLine kv) = true := by
  obtain ⟨c, t, hk, hc⟩ := (commentName_iff kv.1).mp h
  have hsc : sp c = false := by rcases hc with rfl | rfl <;> assumption
  unfold commentLine optLine
  rw [hk, List.cons_append]
  obtain ⟨r, hr⟩ := strip_head (sp := sp) c (t ++ ' ' :: '=' :: ' ' :: kv.2) hsc
  rw [hr]
  rcases hc with rfl | rfl <;> rfl

theorem parse_render_dropComments (hsp : SpOK sp) (hh : sp '#' = false) (hs : sp ';' = false) (d : Doc)
    (hnl : NoNewlines d) (hrep : Representable sp (IniText.dropComments d)) :
    parse sp (render d) = .ok (IniText.dropComments d) :=
  parse_render_filter hsp (fun kv => !IniText.isCommentName kv.1) d hnl
    (fun _ _ kv _ h => optLine_comment hh hs kv (by simpa using h)) hrep

end IniParse

namespace TI
open Ini

theorem renderOpt_eq (kv : Str × Str) : IniText.renderOpt kv = IniParse.renderOption kv := by
  unfold IniText.renderOpt IniParse.renderOption IniText.escNl
  have h1 : " = ".toList = [' ', '=', ' '] := by decide
  have h2 : (fun c : Char => if c = '\n' then ['\n', '\t'] else [c]) = (fun c => if c == '\n' then ['\n', '\t'] else [c]) := by
    funext c; by_cases h : c = '\n' <;> simp [h]
  rw [h1, h2]; simp

theorem renderSec_eq (s : Str × IniSec) : IniText.renderSec s = IniParse.renderSection (s.1, sortKV s.2) := by
  unfold IniText.renderSec IniParse.renderSection
  have : IniText.renderOpt = IniParse.renderOption := funext renderOpt_eq
  rw [this]

theorem filter_noDefault {d : Ini} (h : d.lookup DEFAULT = none) : d.filter (·.1 != DEFAULT) = d := by
  apply List.filter_eq_self.mpr
  intro s hs
  simp only [bne_iff_ne, ne_eq]
  intro e
  have := Assoc.lookup_isSome_iff.mpr (List.mem_map.mpr ⟨s, hs, e⟩)
  rw [h] at this; cases this

theorem render_eq_canon (d : Ini) (h : d.lookup DEFAULT = none) : IniText.render d = IniParse.render (IniText.canon d) := by
  unfold IniText.render IniParse.render IniText.canon
  rw [h, filter_noDefault h, List.flatMap_map]
  have : IniText.renderSec = fun s => IniParse.renderSection (s.1, sortKV s.2) := funext renderSec_eq
  rw [this]; rfl

/-- a section as the file shows it: options in sorted order -/
def canonSec (s : Str × IniSec) : Str × IniSec := (s.1, sortKV s.2)

/-- `CE A B`: the same sections with the same options, up to the order in which sections and options were created (the file shows
neither: `render_congr`) -/
def CE (A B : List (Str × IniSec)) : Prop := (A.map canonSec).Perm (B.map canonSec)

theorem CE.rfl' {A : List (Str × IniSec)} : CE A A := List.Perm.refl _
theorem CE.of_eq {A B : List (Str × IniSec)} (h : A = B) : CE A B := by subst h; exact CE.rfl'
theorem CE.of_perm {A B : List (Str × IniSec)} (h : A.Perm B) : CE A B := h.map _
theorem CE.append {A B A' B' : List (Str × IniSec)} (h1 : CE A A') (h2 : CE B B') : CE (A ++ B) (A' ++ B') := by
  unfold CE at *; simp only [List.map_append]; exact h1.append h2

theorem canon_eq_sortKV (d : Ini) : IniText.canon d = sortKV (d.map canonSec) := by
  unfold IniText.canon
  exact (sortKV_map_same canonSec (fun _ => rfl) d).symm

theorem CE.names {A B : List (Str × IniSec)} (h : CE A B) : (A.map (·.1)).Perm (B.map (·.1)) := by
  have := h.map (·.1)
  simpa only [List.map_map, Function.comp_def, canonSec] using this

theorem noDefault_of_names {d d' : Ini} (h : (d'.map (·.1)).Perm (d.map (·.1))) (hd : NoDefault d) : NoDefault d' :=
  Assoc.lookup_none_iff.mpr fun hm => Assoc.lookup_none_iff.mp hd (h.mem_iff.mp hm)

theorem render_congr {d d' : Ini} (h : CE d d') (hn : (d.map (·.1)).Nodup) (hd : NoDefault d) :
    IniText.render d = IniText.render d' := by
  rw [render_eq_canon d hd, render_eq_canon d' (noDefault_of_names h.names.symm hd), canon_eq_sortKV, canon_eq_sortKV]
  congr 1
  refine sortBy_perm_eq _ h ?_
  simpa only [List.map_map, Function.comp_def, canonSec] using hn

end TI

namespace Ini

variable {α : Type}

/-- sorted by `key`, non-strictly: the conclusion of `Ini.sortBy_sorted`, for the statement of `C08_layout_ini` -/
def KSorted (key : α → Str) (l : List α) : Prop := l.Pairwise (fun a b => key a ≤ key b)

end Ini

namespace IniText
open Ini

theorem IniEq.refl (d : Ini) : IniEq d d := PermR.refl (fun _ => ⟨rfl, List.Perm.refl _⟩) d

theorem IniEq.ce {d d' : Ini} (h : IniEq d d') (hk : ∀ s ∈ d, (s.2.map (·.1)).Nodup) : TI.CE d d' :=
  PermR.map_perm TI.canonSec (fun a b r => by simp only [TI.canonSec, r.1.1, sortKV_perm_eq r.1.2 r.2]) (h.strengthen hk)

end IniText
end PM
