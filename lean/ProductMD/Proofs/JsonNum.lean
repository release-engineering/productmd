import ProductMD.Model.JsonParse
import ProductMD.Proofs.Decimal
/-!
Number layer of the JSON reader: the scanners of `Model/JsonParse.lean` (`spanDigits`, `scanInt`, `scanFrac`, `scanExp`,
`scanNumber`) against the grammar `-?(0|[1-9][0-9]*)(\.[0-9]+)?([eE][-+]?[0-9]+)?` (`IntPart`, `FracPart`, `ExpPart`).
What a scanner returns is a word of its part of the grammar and splits the input (`*_spec`, `scanNumber_parts`); conversely a
word of the grammar followed by a stopping character is scanned whole (`*_tok`, `scanNumber_tok_stop`).  The two give the language of
`floatTok` (the side condition of the JSON round trip on float tokens), exactly (`floatTok_iff`): the three words `NaN`,
`Infinity`, `-Infinity`, and every word of the grammar with a fraction or an exponent.  (`float.__repr__` of a finite float is
always of this form; `harness/json_diff.py` checks that, and the language, against the driver on generated tokens.)  And
integers printed by `intStr` and float tokens are read back (`number_intStr`, `number_floatTok`), the value of `Str.natStr n`
under the reader's digit evaluator being `n`.
-/
namespace PM.JsonParse
open PM Str

/-- what may follow a number without being taken for a part of it (`,` `\n` `]` `}` blank … or the end) -/
def numStop : Str → Bool
  | [] => true
  | c :: _ => !(isAsciiDigit c || c == '.' || c == 'e' || c == 'E' || c == '+' || c == '-')

def Digits (ds : Str) : Prop := ∀ x ∈ ds, isAsciiDigit x = true

instance (ds : Str) : Decidable (Digits ds) := by unfold Digits; infer_instance

/-- `0` or a non-empty digit string that does not start with `0` -/
def IntPart (ip : Str) : Prop := ip = ['0'] ∨ ∃ c t, ip = c :: t ∧ c ≠ '0' ∧ isAsciiDigit c = true ∧ Digits t
/-- nothing, or `.` and at least one digit -/
def FracPart (fp : Str) : Prop := fp = [] ∨ ∃ d ds, fp = '.' :: d :: ds ∧ isAsciiDigit d = true ∧ Digits ds
/-- nothing, or `e`/`E`, an optional sign, at least one digit -/
def ExpPart (ep : Str) : Prop :=
  ep = [] ∨ ∃ e sg d ds, ep = e :: (sg ++ d :: ds) ∧ (e = 'e' ∨ e = 'E') ∧ (sg = [] ∨ sg = ['+'] ∨ sg = ['-'])
    ∧ isAsciiDigit d = true ∧ Digits ds

theorem digit_ne {c : Char} (h : isAsciiDigit c = true) (x : Char) (hx : isAsciiDigit x = false) : x ≠ c := by
  intro e; subst e; rw [h] at hx; cases hx

theorem IntPart.head {ip : Str} (h : IntPart ip) : ∃ c t, ip = c :: t ∧ isAsciiDigit c = true := by
  rcases h with rfl | ⟨c, t, rfl, _, hc, _⟩
  · exact ⟨'0', [], rfl, by decide⟩
  · exact ⟨c, t, rfl, hc⟩

theorem spanDigits_spec : ∀ s : Str, Digits (spanDigits s).1 ∧ (spanDigits s).1 ++ (spanDigits s).2 = s := by
  intro s
  induction s with
  | nil => exact ⟨fun _ h => (nomatch h), rfl⟩
  | cons c cs ih =>
    simp only [spanDigits]
    split
    · rename_i hc
      exact ⟨List.forall_mem_cons.mpr ⟨hc, ih.1⟩, congrArg (c :: ·) ih.2⟩
    · exact ⟨fun _ h => (nomatch h), rfl⟩

theorem scanInt_spec {s ip r : Str} (h : scanInt s = some (ip, r)) : IntPart ip ∧ ip ++ r = s := by
  cases s with
  | nil => cases h
  | cons c cs =>
    simp only [scanInt] at h
    split at h
    · rename_i h0
      cases h
      exact ⟨.inl rfl, by rw [h0]; rfl⟩
    · rename_i h0
      split at h
      · rename_i hc
        cases h
        exact ⟨.inr ⟨c, _, rfl, h0, hc, (spanDigits_spec cs).1⟩, congrArg (c :: ·) (spanDigits_spec cs).2⟩
      · cases h

theorem scanInt_head {s ip r : Str} (h : scanInt s = some (ip, r)) : ∃ c t, s = c :: t ∧ isAsciiDigit c = true := by
  obtain ⟨hi, rfl⟩ := scanInt_spec h
  obtain ⟨c, t, rfl, hc⟩ := hi.head
  exact ⟨c, t ++ r, rfl, hc⟩

theorem scanFrac_spec (s : Str) : FracPart (scanFrac s).1 ∧ (scanFrac s).1 ++ (scanFrac s).2 = s := by
  match s with
  | [] => exact ⟨.inl rfl, rfl⟩
  | [c] => exact ⟨.inl rfl, rfl⟩
  | p :: c :: cs =>
    simp only [scanFrac]
    split
    · rename_i h
      exact ⟨.inr ⟨c, _, by rw [h.1], h.2, (spanDigits_spec cs).1⟩, congrArg (p :: c :: ·) (spanDigits_spec cs).2⟩
    · exact ⟨.inl rfl, rfl⟩

theorem expPart_run {e : Char} {sg ds : Str} (he : e = 'e' ∨ e = 'E') (hsg : sg = [] ∨ sg = ['+'] ∨ sg = ['-'])
    (hd : Digits ds) (hne : ¬ ds.isEmpty = true) : ExpPart (e :: (sg ++ ds)) := by
  cases ds with
  | nil => exact absurd rfl hne
  | cons d ds => exact .inr ⟨e, sg, d, ds, rfl, he, hsg, (List.forall_mem_cons.mp hd).1, (List.forall_mem_cons.mp hd).2⟩

theorem scanExp_spec (s : Str) : ExpPart (scanExp s).1 ∧ (scanExp s).1 ++ (scanExp s).2 = s := by
  cases s with
  | nil => exact ⟨.inl rfl, rfl⟩
  | cons e cs =>
    simp only [scanExp]
    split
    · rename_i he
      split
      · exact ⟨.inl rfl, rfl⟩
      · rename_i c r
        split
        · rename_i hs
          have hc : [c] = ['+'] ∨ [c] = ['-'] := by simpa [isSign] using hs
          split
          · exact ⟨.inl rfl, rfl⟩
          · rename_i hne
            exact ⟨expPart_run he (.inr hc) (spanDigits_spec r).1 hne, congrArg (e :: c :: ·) (spanDigits_spec r).2⟩
        · split
          · exact ⟨.inl rfl, rfl⟩
          · rename_i hne
            exact ⟨expPart_run he (.inl rfl) (spanDigits_spec (c :: r)).1 hne, congrArg (e :: ·) (spanDigits_spec (c :: r)).2⟩
    · exact ⟨.inl rfl, rfl⟩

theorem scanNumber_inv {s : Str} {n : Num} (h : scanNumber s = some n) :
    ∃ s1 s2, s = (if n.neg then ['-'] else []) ++ s1 ∧ scanInt s1 = some (n.ip, s2) ∧ n.fp = (scanFrac s2).1
      ∧ n.ep = (scanExp (scanFrac s2).2).1 ∧ n.rest = (scanExp (scanFrac s2).2).2 := by
  cases s with
  | nil => simp [scanNumber, scanInt] at h
  | cons c cs =>
    simp only [scanNumber, List.head?_cons, List.tail_cons] at h
    by_cases hneg : (some c == some '-') = true
    · have hc : c = '-' := by simpa using hneg
      simp only [hneg, if_true] at h
      cases hi : scanInt cs with
      | none => rw [hi] at h; cases h
      | some p => rw [hi] at h; cases h; exact ⟨cs, p.2, by rw [hc]; rfl, hi, rfl, rfl, rfl⟩
    · simp only [hneg, Bool.false_eq_true, if_false] at h
      cases hi : scanInt (c :: cs) with
      | none => rw [hi] at h; cases h
      | some p => rw [hi] at h; cases h; exact ⟨c :: cs, p.2, rfl, hi, rfl, rfl, rfl⟩

theorem scanNumber_head {s : Str} {n : Num} (h : scanNumber s = some n) :
    (∃ c t, s = c :: t ∧ isAsciiDigit c = true) ∨ (∃ d t, s = '-' :: d :: t ∧ isAsciiDigit d = true) := by
  obtain ⟨s1, s2, rfl, hi, _⟩ := scanNumber_inv h
  obtain ⟨d, t, rfl, hd⟩ := scanInt_head hi
  cases n.neg
  · exact .inl ⟨d, t, rfl, hd⟩
  · exact .inr ⟨d, t, rfl, hd⟩

theorem scanNumber_parts {s : Str} {n : Num} (h : scanNumber s = some n) :
    IntPart n.ip ∧ FracPart n.fp ∧ ExpPart n.ep ∧ s = (if n.neg then ['-'] else []) ++ n.ip ++ n.fp ++ n.ep ++ n.rest := by
  obtain ⟨s1, s2, rfl, hi, hf, he, hr⟩ := scanNumber_inv h
  obtain ⟨hip, rfl⟩ := scanInt_spec hi
  rw [hf, he, hr]
  refine ⟨hip, (scanFrac_spec s2).1, (scanExp_spec _).1, ?_⟩
  simp only [List.append_assoc, (scanExp_spec _).2, (scanFrac_spec s2).2]

theorem scanNumber_tok_append_rest {s : Str} {n : Num} (hs : scanNumber s = some n) : n.tok ++ n.rest = s :=
  (scanNumber_parts hs).2.2.2.symm

def NoDigitHead (r : Str) : Prop := ∀ c ∈ r.head?, isAsciiDigit c = false

/-- what may follow a fraction: neither a digit nor `.` -/
def FracStop (r : Str) : Prop := ∀ c ∈ r.head?, isAsciiDigit c = false ∧ c ≠ '.'

theorem FracStop.noDigit {r : Str} (h : FracStop r) : NoDigitHead r := fun c hc => (h c hc).1

theorem numStop_cons {c : Char} {t : Str} (h : numStop (c :: t) = true) :
    isAsciiDigit c = false ∧ c ≠ '.' ∧ c ≠ 'e' ∧ c ≠ 'E' := by
  simp [numStop] at h
  simp [h]

theorem fracStop_of_numStop {r : Str} (h : numStop r = true) : FracStop r := by
  intro c hc
  cases r with
  | nil => cases hc
  | cons d t =>
    cases hc
    exact ⟨(numStop_cons h).1, (numStop_cons h).2.1⟩

theorem spanDigits_tok (ds rest : Str) (h : Digits ds) (hr : NoDigitHead rest) : spanDigits (ds ++ rest) = (ds, rest) := by
  induction ds with
  | nil =>
    cases rest with
    | nil => rfl
    | cons c t => simp [spanDigits, hr c rfl]
  | cons c cs ih =>
    have hc := List.forall_mem_cons.mp h
    simp [spanDigits, hc.1, ih hc.2]

theorem scanInt_tok (ip rest : Str) (hi : IntPart ip) (hr : NoDigitHead rest) : scanInt (ip ++ rest) = some (ip, rest) := by
  rcases hi with rfl | ⟨c, t, rfl, hc0, hcd, ht⟩
  · rfl
  · simp [scanInt, hc0, hcd, spanDigits_tok t rest ht hr]

theorem fracStop_exp (ep rest : Str) (he : ExpPart ep) (hr : numStop rest = true) : FracStop (ep ++ rest) := by
  rcases he with rfl | ⟨e, sg, d, ds, rfl, he, _⟩
  · exact fracStop_of_numStop hr
  · intro c hc
    cases hc
    rcases he with rfl | rfl <;> exact ⟨by decide, by decide⟩

theorem noDigitHead_frac (fp r : Str) (hf : FracPart fp) (hr : FracStop r) : NoDigitHead (fp ++ r) := by
  rcases hf with rfl | ⟨d, ds, rfl, _, _⟩
  · exact hr.noDigit
  · intro c hc
    cases hc
    decide

theorem scanFrac_tok (fp r : Str) (hf : FracPart fp) (hr : FracStop r) : scanFrac (fp ++ r) = (fp, r) := by
  rcases hf with rfl | ⟨d, ds, rfl, hd, hds⟩
  · match r, hr with
    | [], _ => rfl
    | [c], _ => rfl
    | p :: c :: cs, hr => simp [scanFrac, (hr p rfl).2]
  · simp [scanFrac, hd, spanDigits_tok ds r hds hr.noDigit]

theorem scanExp_tok (ep rest : Str) (he : ExpPart ep) (hr : numStop rest = true) : scanExp (ep ++ rest) = (ep, rest) := by
  rcases he with rfl | ⟨e, sg, d, ds, rfl, hee, hsg, hd, hds⟩
  · cases rest with
    | nil => rfl
    | cons c t => simp [scanExp, (numStop_cons hr).2.2]
  · have hsp : spanDigits (d :: (ds ++ rest)) = (d :: ds, rest) :=
      spanDigits_tok (d :: ds) rest (List.forall_mem_cons.mpr ⟨hd, hds⟩) (fracStop_of_numStop hr).noDigit
    rcases hsg with rfl | rfl | rfl
    · have hs : isSign d = false := by
        simp [isSign, (digit_ne hd '+' (by decide)).symm, (digit_ne hd '-' (by decide)).symm]
      simp [scanExp, hee, hs, hsp]
    · simp [scanExp, hee, isSign, hsp]
    · simp [scanExp, hee, isSign, hsp]

theorem scanNumber_of_scanInt (neg : Bool) (s1 ip s2 : Str) (h : scanInt s1 = some (ip, s2)) :
    scanNumber ((if neg then ['-'] else []) ++ s1) =
      some ⟨neg, ip, (scanFrac s2).1, (scanExp (scanFrac s2).2).1, (scanExp (scanFrac s2).2).2⟩ := by
  obtain ⟨c, t, rfl, hc⟩ := scanInt_head h
  cases neg with
  | true => simp [scanNumber, h]
  | false =>
    have : (some c == some '-') = false := by simp [(digit_ne hc '-' (by decide)).symm]
    simp [scanNumber, this, h]

theorem scanNumber_tok_stop (neg : Bool) (ip fp ep rest : Str) (hi : IntPart ip) (hf : FracPart fp) (he : ExpPart ep)
    (hr : numStop rest = true) :
    scanNumber ((if neg then ['-'] else []) ++ ip ++ fp ++ ep ++ rest) = some ⟨neg, ip, fp, ep, rest⟩ := by
  have hs := fracStop_exp ep rest he hr
  have h := scanNumber_of_scanInt neg _ ip _ (scanInt_tok ip (fp ++ (ep ++ rest)) hi (noDigitHead_frac fp _ hf hs))
  rw [scanFrac_tok fp _ hf hs, scanExp_tok ep rest he hr] at h
  simpa only [List.append_assoc] using h

theorem Num.isFloat_iff (n : Num) : n.isFloat = true ↔ n.fp ≠ [] ∨ n.ep ≠ [] := by
  simp [Num.isFloat]

theorem floatTok_scan (r : Str) : floatTok r = true ↔
    (r = "NaN".toList ∨ r = "Infinity".toList ∨ r = "-Infinity".toList)
      ∨ ∃ n, scanNumber r = some n ∧ n.rest = [] ∧ n.isFloat = true := by
  simp only [floatTok, Bool.or_eq_true, beq_iff_eq, or_assoc]
  cases scanNumber r with
  | none => simp
  | some n => simp

theorem floatTok_iff (r : Str) :
    floatTok r = true ↔
      (r = "NaN".toList ∨ r = "Infinity".toList ∨ r = "-Infinity".toList)
      ∨ ∃ (neg : Bool) (ip fp ep : Str), IntPart ip ∧ FracPart fp ∧ ExpPart ep ∧ (fp ≠ [] ∨ ep ≠ [])
          ∧ r = (if neg then ['-'] else []) ++ ip ++ fp ++ ep := by
  rw [floatTok_scan]
  refine or_congr_right ⟨?_, ?_⟩
  · rintro ⟨n, hs, hr, hfl⟩
    obtain ⟨hi, hf, he, e⟩ := scanNumber_parts hs
    rw [hr, List.append_nil] at e
    exact ⟨n.neg, n.ip, n.fp, n.ep, hi, hf, he, n.isFloat_iff.mp hfl, e⟩
  · rintro ⟨neg, ip, fp, ep, hi, hf, he, hne, rfl⟩
    have hs := scanNumber_tok_stop neg ip fp ep [] hi hf he rfl
    rw [List.append_nil] at hs
    exact ⟨_, hs, rfl, (Num.isFloat_iff _).mpr hne⟩

example : floatTok "-12.50e+07".toList = true :=
  (floatTok_iff _).mpr (.inr ⟨true, "12".toList, ".50".toList, "e+07".toList,
    .inr ⟨'1', ['2'], rfl, by decide, by decide, by decide⟩, .inr ⟨'5', ['0'], rfl, by decide, by decide⟩,
    .inr ⟨'e', ['+'], '0', ['7'], rfl, .inl rfl, .inr (.inl rfl), by decide, by decide⟩, .inl (by decide), rfl⟩)

/-- the numeric case of `floatTok_scan`; the three words are literals of `value`, not numbers -/
theorem number_floatTok (lim : Nat) (r rest : Str) (n : Num) (hs : scanNumber r = some n) (hr : n.rest = [])
    (hf : n.isFloat = true) (hstop : numStop rest = true) :
    number lim (r ++ rest) = .ok (.float r, rest) := by
  obtain ⟨hi, hfp, he, e⟩ := scanNumber_parts hs
  rw [hr, List.append_nil] at e
  have h := scanNumber_tok_stop n.neg n.ip n.fp n.ep rest hi hfp he hstop
  rw [← e] at h
  have hf' : (!(n.fp.isEmpty && n.ep.isEmpty)) = true := hf
  simp only [number, h, Num.isFloat, hf', if_true, Num.tok, ← e]

/-- the two digit evaluators of the model, `digitsVal` (`int()` on a `\d+` capture) and `digitsToNat` (the JSON reader), agree
on ASCII digits -/
theorem digitsVal_eq_foldl : ∀ (ds : Str) (a : Nat), (∀ c ∈ ds, Dec.IsDig c) →
    digitsVal ds a = some (ds.foldl (fun a c => a * 10 + (c.toNat - 48)) a) := by
  intro ds
  induction ds with
  | nil => intro a _; rfl
  | cons c cs ih =>
    intro a h
    simp only [digitsVal, (h c List.mem_cons_self).val, List.foldl_cons]
    exact ih _ fun x hx => h x (List.mem_cons_of_mem _ hx)

theorem digitsToNat_natStr (n : Nat) : digitsToNat (natStr n) = n := by
  have h := digitsVal_eq_foldl (natStr n) 0 (Dec.natStr_dig n)
  rw [Dec.natStr_val n] at h
  exact (Option.some.inj h).symm

theorem intPart_natStr (m : Nat) : IntPart (natStr m) := by
  by_cases h0 : m = 0
  · subst h0; exact .inl rfl
  · obtain ⟨c, t, e, hc0⟩ := Dec.natStr_lead m h0
    have hd := Dec.natStr_dig m
    rw [e] at hd
    exact .inr ⟨c, t, e, hc0, (hd c List.mem_cons_self).ascii, fun x hx => (hd x (List.mem_cons_of_mem _ hx)).ascii⟩

theorem number_intStr (lim : Nat) (n : Int) (rest : Str) (hfit : intFits lim n = true) (hstop : numStop rest = true) :
    number lim (intStr n ++ rest) = .ok (.int n, rest) := by
  have key : ∀ (neg : Bool) (m : Nat), intLimited lim (natStr m).length = false →
      number lim ((if neg then ['-'] else []) ++ natStr m ++ rest)
        = .ok (.int (if neg then -(m : Int) else (m : Int)), rest) := by
    intro neg m hl
    have h := scanNumber_tok_stop neg (natStr m) [] [] rest (intPart_natStr m) (.inl rfl) (.inl rfl) hstop
    simp only [List.append_nil] at h
    simp only [number, h, Num.isFloat, List.isEmpty_nil, Bool.and_self, Bool.not_true, Bool.false_eq_true, if_false, hl,
      digitsToNat_natStr m]
  cases n with
  | ofNat m => exact key false m (by simpa [intFits] using hfit)
  | negSucc k => exact key true (k + 1) (by simpa [intFits, Int.natAbs_negSucc] using hfit)

end PM.JsonParse
