import ProductMD.Proofs.Builders
import ProductMD.Proofs.RuleCongr
import ProductMD.Proofs.JEq
import ProductMD.Model.ManifestIO
/-!
Behind C03: the builders keep the mapping JSON-representable; the typed compose section `ComposeT`, its normal form and the
document `docOf` that `serialize` builds from it (Spec/MfWords; they appear in the statements of C03); the obligations on the generated
version gates; what `deserialize` reads from the re-parsed text; and that the section a write/read cycle makes of a valid one
(`ComposeT.norm`: without a label `final` is lost) is valid again, by the rule-list facts of `Proofs/RuleCongr`.
-/
namespace PM.Mf
open PM

theorem jsonRep_optStr (o : Option Str) : jsonRep (optStr o) = true := by cases o <;> rfl

theorem jsonRep_rpmRecord (sk : Option Str) (p c : Str) : jsonRep (rpmRecord sk p c) = true := by
  cases sk <;> rfl

theorem jsonRep_moduleMetadata (uid : Str) (u : UidParts) (t : Str) : jsonRep (moduleMetadata uid u t) = true := rfl

theorem rpmsLeaf_rep (k : Str) {r : PyVal} (hr : jsonRep r = true) : Keeps (jsonRep · = true) (rpmsLeaf k r) :=
  rpmsLeaf_eq k r ▸ sub_rep _ k rfl fun _ _ => hr

theorem modulesLeaf_rep (p : ModulesPlan) (hm : jsonRep p.metadata = true) (hl : jsonRepList p.rpms = true) :
    Keeps (jsonRep · = true) (modulesLeaf p) :=
  modulesLeaf_eq p ▸ seqL_keeps (rpmsLeaf_rep _ hm)
    (seqL_keeps (sub_rep _ _ rfl (rpmsLeaf_rep p.category (r := .str p.path) rfl)) (sub_rep _ _ rfl (appendL_rep hl)))

theorem extraLeaf_rep (arch : Str) {r : PyVal} (hr : jsonRep r = true) : Keeps (jsonRep · = true) (extraLeaf arch r) :=
  extraLeaf_eq arch r ▸ sub_rep _ arch rfl (appendL_rep (l := [r]) (by simp only [jsonRepList, hr, Bool.and_self]))

theorem rpms_add_jsonRep (s : PyVal) (a : RpmsArgs) (h : jsonRep s = true) : jsonRep (Rpms.add s a).1 = true := by
  rw [Rpms.add_eq]
  cases hc : rpmsCheck a with
  | error e => exact h
  | ok p =>
    exact setPathS_rep (rpmsLeaf_rep _ (by rw [(rpmsCheck_ok hc).record]; exact jsonRep_rpmRecord _ _ _)) _ s h

theorem modules_add_jsonRep (s : PyVal) (a : ModulesArgs) (ha : a.rpms.jsonRep = true) (h : jsonRep s = true) :
    jsonRep (Modules.add s a).1 = true := by
  rw [Modules.add_eq]
  cases hc : modulesCheck a with
  | error e => exact h
  | ok p =>
    have acc := modulesCheck_ok hc
    obtain ⟨_, _, _, _, _, _, hm⟩ := acc.uid
    have hl : jsonRepList p.rpms = true := by
      rcases acc.rpms with hr | hr
      · rw [hr] at ha; exact ha
      · rw [hr] at ha; exact ha
    exact setPathS_rep (modulesLeaf_rep p (hm ▸ jsonRep_moduleMetadata _ _ _) hl) _ s h

theorem extra_add_jsonRep (s : PyVal) (a : ExtraArgs) (ha : jsonRep a.size = true ∧ jsonRep a.checksums = true)
    (h : jsonRep s = true) : jsonRep (ExtraFiles.add s a).1 = true := by
  rw [ExtraFiles.add_eq]
  cases hc : extraCheck a with
  | error e => exact h
  | ok r =>
    have hr : jsonRep r = true := by
      rw [extraCheck_record hc]
      simp only [extraRecord, jsonRep, jsonRepKvs, hasKey, ha.1, ha.2]
      decide
    exact setPathS_rep (extraLeaf_rep _ hr) _ s h

/-! obligations on the generated data: the current `VERSION` renders to a valid header version, lies beyond the
legacy gates, and the three top-level classes have no validator that could refuse -/
theorem header_current_ok : validateClass "common.Header" [(lit "version", .str currentVersion)] = .ok () := by
  decide +kernel
theorem versionTuple_current : versionTuple (.str currentVersion) = .ok (.nums Gen.VERSION) := by
  decide +kernel
theorem validateClass_className (k : Kind) : validateClass k.className [] = .ok () := by cases k <;> decide +kernel
theorem gate_header_some : Gen.gate_common_Header_deserialize_0.eval? Gen.VERSION = some true := by decide
theorem gate_rpms_some : Gen.gate_rpms_Rpms_deserialize_0.eval? Gen.VERSION = some false := by decide
theorem gate_compose_some : Gen.gate_composeinfo_Compose_deserialize_0.eval? Gen.VERSION = some false := by decide
theorem gate_header : gateHolds Gen.gate_common_Header_deserialize_0 Gen.VERSION = true := by
  simp [gateHolds, gate_header_some]
theorem gate_rpms : gateHolds Gen.gate_rpms_Rpms_deserialize_0 Gen.VERSION = false := by
  simp [gateHolds, gate_rpms_some]
theorem gate_compose : gateHolds Gen.gate_composeinfo_Compose_deserialize_0 Gen.VERSION = false := by
  simp [gateHolds, gate_compose_some]

theorem composeSerialize_toObj (c : ComposeT) (hv : composeValidate c.toObj = .ok ()) :
    composeSerialize c.toObj = .ok (composeDoc c) := by
  unfold composeSerialize
  rw [hv]
  rfl

theorem dumpDoc_eq (k : Kind) (v0 : PyVal) (c : ComposeT) (p : PyVal) (hv : composeValidate c.toObj = .ok ()) :
    (dumpDoc k { version := v0, compose := c.toObj, payload := p }).2 = .ok (docOf k c p) := by
  unfold dumpDoc
  rw [validateClass_className]
  simp only [serialize]
  have hh : headerSerialize k = .ok (headerDoc k) := by
    unfold headerSerialize
    rw [header_current_ok]
    rfl
  rw [hh, composeSerialize_toObj c hv]
  cases k
  · rfl
  · simp only [validateClass_className]; rfl
  · simp only [validateClass_className]; rfl

theorem composeDoc_norm (c : ComposeT) : composeDoc c.norm = composeDoc c := by
  unfold ComposeT.norm
  cases h : c.labelSet
  · simp only [Bool.false_eq_true, ↓reduceIte]
    unfold composeDoc
    rw [h]
    rfl
  · simp

theorem jsonRep_composeDoc (c : ComposeT) : jsonRep (composeDoc c) = true := by
  unfold composeDoc
  cases c.labelSet
  · rfl
  · cases h : c.label <;> simp only [↓reduceIte] <;> rfl

theorem jsonRep_headerDoc (k : Kind) : jsonRep (headerDoc k) = true := by cases k <;> rfl

theorem jsonRep_payloadDoc (k : Kind) (c : ComposeT) (p : PyVal) (hp : jsonRep p = true) :
    jsonRep (payloadDoc k c p) = true := by
  cases k <;> simp only [payloadDoc, jsonRep, jsonRepKvs, hasKey, Kind.payloadKey, hp, jsonRep_composeDoc] <;> decide

theorem jsonRep_docOf (k : Kind) (c : ComposeT) (p : PyVal) (hp : jsonRep p = true) : jsonRep (docOf k c p) = true := by
  simp only [docOf, jsonRep, jsonRepKvs, hasKey, jsonRep_headerDoc, jsonRep_payloadDoc k c p hp]
  decide

theorem canon_str (s : Str) : PyVal.canon (.str s) = .str s := rfl
theorem canon_int (n : Int) : PyVal.canon (.int n) = .int n := rfl
theorem canon_bool (b : Bool) : PyVal.canon (.bool b) = .bool b := rfl
theorem canon_none : PyVal.canon .none = .none := rfl
theorem canon_optStr (o : Option Str) : PyVal.canon (optStr o) = optStr o := by cases o <;> rfl

theorem truthy_bool (b : Bool) : (PyVal.bool b).truthy = b := rfl
theorem truthy_none : PyVal.none.truthy = false := rfl

theorem headerDeserialize_reparse (k : Kind) (c : ComposeT) (p : PyVal) (hp : jsonRep p = true) :
    headerDeserialize k (reparse (docOf k c p))
      = .ok (.str currentVersion, .nums Gen.VERSION) := by
  unfold headerDeserialize reparse
  rw [getItem_canon _ _ (jsonRep_docOf k c p hp)]
  have h1 : getItem (docOf k c p) (lit "header") = .ok (headerDoc k) := rfl
  rw [h1]
  simp only [Except.map]
  rw [getItem_canon _ _ (jsonRep_headerDoc k)]
  have h2 : getItem (headerDoc k) (lit "version") = .ok (.str currentVersion) := rfl
  rw [h2]
  simp only [Except.map, canon_str]
  rw [versionTuple_current]
  simp only [gate_header, ↓reduceIte]
  rw [getItem_canon _ _ (jsonRep_headerDoc k)]
  have h3 : getItem (headerDoc k) (lit "type") = .ok (.str k.headerType) := rfl
  rw [h3]
  simp only [Except.map, canon_str]
  rw [PyVal.pyEq_refl]
  rfl

/-- what the reader finds in the compose section `serialize` wrote: the fields of the NORMALISED section (the last line is its
`label … or None`) -/
theorem composeDoc_reads (c : ComposeT) :
    getItem (composeDoc c) (lit "id") = .ok (.str c.id) ∧ getItem (composeDoc c) (lit "type") = .ok (.str c.type) ∧
    getItem (composeDoc c) (lit "date") = .ok (.str c.date) ∧ getItem (composeDoc c) (lit "respin") = .ok (.int c.respin) ∧
    dictGetD (composeDoc c) (lit "label") .none = .ok (optStr c.norm.label) ∧
    dictGetD (composeDoc c) (lit "final") (.bool false) = .ok (.bool c.norm.final) ∧
    (if (optStr c.norm.label).truthy then optStr c.norm.label else .none) = optStr c.norm.label := by
  unfold composeDoc ComposeT.norm
  cases hl : c.labelSet
  · exact ⟨rfl, rfl, rfl, rfl, rfl, rfl, rfl⟩
  · exact ⟨rfl, rfl, rfl, rfl, rfl, rfl, if_pos hl⟩

theorem composeDeserialize_reparse (k : Kind) (c : ComposeT) (p : PyVal) (hp : jsonRep p = true)
    (hn : composeValidate c.norm.toObj = .ok ()) :
    composeDeserialize (.nums Gen.VERSION) (PyVal.canon (payloadDoc k c p)) = .ok c.norm.toObj := by
  unfold composeDeserialize
  simp only [gate_compose, Bool.false_eq_true, ↓reduceIte]
  rw [getItem_canon _ _ (jsonRep_payloadDoc k c p hp)]
  have h1 : getItem (payloadDoc k c p) (lit "compose") = .ok (composeDoc c) := by cases k <;> rfl
  rw [h1]
  simp only [Except.map]
  have hj := jsonRep_composeDoc c
  obtain ⟨e1, e2, e3, e4, e5, e6, e7⟩ := composeDoc_reads c
  rw [getItem_canon _ _ hj, getItem_canon _ _ hj, getItem_canon _ _ hj, getItem_canon _ _ hj,
    dictGetD_canon _ _ _ canon_none hj, dictGetD_canon _ _ _ (canon_bool false) hj, e1, e2, e3, e4, e5, e6]
  simp only [Except.map, canon_str, canon_int, canon_bool, canon_optStr, e7, truthy_bool]
  have hobj : [(lit "id", PyVal.str c.id), (lit "type", PyVal.str c.type), (lit "date", PyVal.str c.date),
      (lit "respin", PyVal.int c.respin), (lit "label", optStr c.norm.label), (lit "final", PyVal.bool c.norm.final)]
      = c.norm.toObj := by
    unfold ComposeT.norm; cases c.labelSet <;> rfl
  rw [hobj, hn]

theorem deserialize_reparse (k : Kind) (c : ComposeT) (p : PyVal) (hp : jsonRep p = true)
    (hn : composeValidate c.norm.toObj = .ok ()) :
    deserialize k (reparse (docOf k c p))
      = .ok { version := .str currentVersion, compose := c.norm.toObj, payload := PyVal.canon p } := by
  unfold deserialize
  rw [headerDeserialize_reparse k c p hp]
  have h1 : getItem (docOf k c p) (lit "payload") = .ok (payloadDoc k c p) := rfl
  have h2 : getItem (payloadDoc k c p) k.payloadKey = .ok p := by cases k <;> rfl
  have h3 := getItem_canon _ (lit "payload") (jsonRep_docOf k c p hp)
  have h4 := getItem_canon _ k.payloadKey (jsonRep_payloadDoc k c p hp)
  have h5 := composeDeserialize_reparse k c p hp hn
  have h6 := validateClass_className k
  rw [h1] at h3
  rw [h2] at h4
  simp only [Except.map] at h3 h4
  cases k <;>
    simp only [gate_rpms, Bool.false_eq_true, ↓reduceIte, reparse, h3, h5, h4, h6]

/-- the second document differs from the first only by `canon` inside the payload: same text -/
theorem dumps_docOf_canon (k : Kind) (c : ComposeT) (p : PyVal) (hp : jsonRep p = true) :
    JsonText.dumps (docOf k c.norm (PyVal.canon p)) = JsonText.dumps (docOf k c p) := by
  unfold JsonText.dumps
  congr 1
  cases k <;>
    simp only [docOf, payloadDoc, composeDoc_norm, PyVal.canon, PyVal.canonKvs, canon_idem p hp]

theorem composeValidate_norm (c : ComposeT) (hv : composeValidate c.toObj = .ok ()) :
    composeValidate c.norm.toObj = .ok () := by
  obtain ⟨id, ty, date, respin, label, final⟩ := c
  -- no label; the empty label, which is falsy but which the label rule refuses; a label that `if self.label:` accepts
  rcases label with _ | _ | _
  · exact (validateCompose_setFinal _ _ _ _ _ (.bool final) (.bool false) rfl).symm.trans hv
  · exact absurd hv (validateCompose_empty_label rfl)
  · exact hv

theorem serialize_dumps_congr (k : Kind) (m m' : Manifest) (hc : m.compose = m'.compose) (hp : JEq m.payload m'.payload) :
    (serialize k m).2.map JsonText.dumps = (serialize k m').2.map JsonText.dumps := by
  simp only [serialize, ← hc]
  -- the three ways to fail do not look at the payload: the class validation, the header, the compose section (which is the same)
  split
  · rfl
  split
  · rfl
  split
  · rfl
  · rename_i c _
    refine congrArg Except.ok (JEq.dumps_eq (.dict (.cons _ (.refl _) (.cons _ ?_ .nil)) (by simp only [List.map_cons, List.map_nil]; decide)))
    -- the payload dict holds the mapping and the compose section, in an order that depends on the kind only
    cases k
    · exact .dict (.cons _ hp (.cons _ (.refl _) .nil)) (by simp only [List.map_cons, List.map_nil]; decide)
    · exact .dict (.cons _ (.refl _) (.cons _ hp .nil)) (by simp only [List.map_cons, List.map_nil]; decide)
    · exact .dict (.cons _ (.refl _) (.cons _ hp .nil)) (by simp only [List.map_cons, List.map_nil]; decide)

end PM.Mf
