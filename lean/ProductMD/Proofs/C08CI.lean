import ProductMD.Proofs.CITop
/-!
C08 for composeinfo: the flat, uid-keyed table `Variants.serialize` builds is a function of the variant forest *modulo the
order of every child dict, of every arch set and of every path table*.

`VEq v v'`: the same variant content - same key/id/uid/name/type/release, the same SET of arches, path tables that answer
every lookup alike, and children that are a rearrangement of each other, each the same content (`LEq`).
-/
namespace PM.CI
open PM

mutual
theorem VEq.refl : ∀ v : Variant, VEq v v
  | .mk key id uid name type _ _ rel k => .mk key id uid name type rel (fun _ => Iff.rfl) (fun _ _ => rfl) (LEq.refl k)
theorem LEq.refl : ∀ l : List Variant, LEq l l
  | [] => .nil
  | v :: l => .cons (VEq.refl v) (LEq.refl l)
end

theorem LEq.of_perm {l l' : List Variant} (h : l.Perm l') : LEq l l' := by
  induction h with
  | nil => exact .nil
  | cons x _ ih => exact .cons (VEq.refl x) ih
  | swap x y l => exact .swap y x l
  | trans _ _ ih1 ih2 => exact .trans ih1 ih2

theorem VEq.summ {v v' : Variant} (h : VEq v v') : summ v = summ v' := by cases h; rfl

theorem LEq.summ : ∀ {l l' : List Variant}, LEq l l' → (l.map summ).Perm (l'.map summ)
  | _, _, .nil => List.Perm.refl _
  | _, _, .cons h t => by simp only [List.map_cons, h.summ]; exact List.Perm.cons _ (LEq.summ t)
  | _, _, .swap _ _ _ => List.Perm.swap _ _ _
  | _, _, .trans h1 h2 => (LEq.summ h1).trans (LEq.summ h2)

theorem LEq.keys {l l' : List Variant} (h : LEq l l') : (l.map Variant.key).Perm (l'.map Variant.key) := by
  have := h.summ.map (·.1)
  simpa [List.map_map, Function.comp_def, CI.summ] using this

theorem LEq.ids {l l' : List Variant} (h : LEq l l') : (l.map Variant.id).Perm (l'.map Variant.id) := by
  have := h.summ.map (·.2.1)
  simpa [List.map_map, Function.comp_def, CI.summ] using this

mutual
/-- the keys of every child dict are distinct (it is a Python dict), hereditarily -/
def DictKeys : Variant → Prop
  | .mk _ _ _ _ _ _ _ _ kids => (kids.map Variant.key).Nodup ∧ DictKeysL kids
def DictKeysL : List Variant → Prop
  | [] => True
  | v :: vs => DictKeys v ∧ DictKeysL vs
end

mutual
theorem VEq.dictKeys : ∀ {v v' : Variant}, VEq v v' → DictKeys v → DictKeys v'
  | _, _, .mk _ _ _ _ _ _ _ _ hk, hd => by
    simp only [DictKeys] at hd ⊢
    exact ⟨hk.keys.nodup_iff.mp hd.1, LEq.dictKeysL hk hd.2⟩
theorem LEq.dictKeysL : ∀ {l l' : List Variant}, LEq l l' → DictKeysL l → DictKeysL l'
  | _, _, .nil, h => h
  | _, _, .cons hv t, h => by
    simp only [DictKeysL] at h ⊢
    exact ⟨VEq.dictKeys hv h.1, LEq.dictKeysL t h.2⟩
  | _, _, .swap _ _ _, h => by
    simp only [DictKeysL] at h ⊢
    exact ⟨h.2.1, h.1, h.2.2⟩
  | _, _, .trans h1 h2, h => LEq.dictKeysL h2 (LEq.dictKeysL h1 h)
end

/-- the stored entry is the same: sorted arches, stored paths, sorted child ids -/
theorem VEq.entry {v v' : Variant} (h : VEq v v') : entryOf v = entryOf v' := by
  cases h with
  | @mk key id uid name type a a' p p' rel k k' ha hp hk =>
    have h1 := sortDedup_congr ha
    have h2 : ∀ A, storedPaths A p = storedPaths A p' := fun A => by
      unfold storedPaths
      simp only [hp _ _]
    have h3 := sortDedup_congr (fun x => hk.ids.mem_iff (a := x))
    simp only [entryOf, h1, h2, h3]

mutual
theorem VEq.flat_iff : ∀ {v v' : Variant}, VEq v v' → ∀ x, x ∈ flat v ↔ x ∈ flat v'
  | _, _, .mk key id uid name type rel ha hp hk, x => by
    simp only [flat, List.mem_append, List.mem_singleton, VEq.entry (.mk key id uid name type rel ha hp hk)]
    rw [LEq.flats_iff hk x]
theorem LEq.flats_iff : ∀ {l l' : List Variant}, LEq l l' → ∀ x, x ∈ flats l ↔ x ∈ flats l'
  | _, _, .nil, _ => Iff.rfl
  | _, _, .cons hv t, x => by
    simp only [flats, List.mem_append]
    rw [VEq.flat_iff hv x, LEq.flats_iff t x]
  | _, _, .swap _ _ _, x => by
    simp only [flats, List.mem_append]
    constructor <;> (rintro (h | h | h) <;> simp [h])
  | _, _, .trans h1 h2, x => (LEq.flats_iff h1 x).trans (LEq.flats_iff h2 x)
end

theorem VEq.flat_iff' {v v' : Variant} (h : VEq v v') : ∀ x, x ∈ flat v ↔ x ∈ flat v' := h.flat_iff

theorem findKey_summ (k : Str) : ∀ vs : List Variant, (findKey k vs).map summ = lookup k (vs.map fun c => (c.key, summ c))
  | [] => rfl
  | v :: vs => by
    simp only [findKey, List.map_cons, lookup]
    split
    · rfl
    · exact findKey_summ k vs

theorem kidsView_leq (pn : Bool) {vs vs' : List Variant} (h : LEq vs vs') (hn : (vs.map Variant.key).Nodup) :
    kidsView pn vs = kidsView pn vs' :=
  kidsView_congr pn fun k => by
    have hp : (vs.map fun c => (c.key, summ c)).Perm (vs'.map fun c => (c.key, summ c)) := by
      simpa [List.map_map, Function.comp_def, CI.summ] using h.summ.map (fun s => (s.1, s))
    rw [findKey_summ, findKey_summ]
    exact lookup_perm hp (by simpa [List.map_map, Function.comp_def] using hn)

theorem VEq.obj {v v' : Variant} (h : VEq v v') (hd : DictKeys v) (ctx : Ctx) : variantObj ctx v = variantObj ctx v' := by
  cases h with
  | mk key id uid name type rel ha hp hk =>
    simp only [DictKeys] at hd
    simp only [variantObj, sortDedup_congr ha, kidsView_leq false hk hd.1]

mutual
theorem VEq.good : ∀ {v v' : Variant}, VEq v v' → DictKeys v → ∀ ctx, Good ctx v → Good ctx v'
  | _, _, .mk key id uid name type rel ha hp hk, hd, ctx, hg => by
    have hobj := VEq.obj (.mk key id uid name type rel ha hp hk) hd ctx
    simp only [DictKeys] at hd
    rw [Good]
    refine ⟨hg.release, hg.paths, hobj ▸ hg.valid, ?_⟩
    rw [← sortDedup_congr ha]
    exact LEq.goodL hk hd.2 _ hg.kids
theorem LEq.goodL : ∀ {l l' : List Variant}, LEq l l' → DictKeysL l → ∀ ctx, GoodL ctx l → GoodL ctx l'
  | _, _, .nil, _, _, h => h
  | _, _, .cons hv t, hd, ctx, h => by
    simp only [DictKeysL] at hd
    simp only [GoodL] at h ⊢
    exact ⟨VEq.good hv hd.1 ctx h.1, LEq.goodL t hd.2 ctx h.2⟩
  | _, _, .swap _ _ _, _, _, h => by
    simp only [GoodL] at h ⊢
    exact ⟨h.2.1, h.1, h.2.2⟩
  | _, _, .trans h1 h2, hd, ctx, h => LEq.goodL h2 (LEq.dictKeysL h1 hd) ctx (LEq.goodL h1 hd ctx h)
end

theorem goodL_byKeys {ctx : Ctx} {vs : List Variant} (hn : (vs.map Variant.key).Nodup) : GoodL ctx (byKeys vs) ↔ GoodL ctx vs := by
  simp only [GoodL_iff, mem_byKeys hn]

theorem flats_byKeys {vs : List Variant} (hn : (vs.map Variant.key).Nodup) (x : Str × Entry) : x ∈ flats (byKeys vs) ↔ x ∈ flats vs := by
  rw [mem_flats, mem_flats]
  exact ⟨fun ⟨v, hv, hx⟩ => ⟨v, (mem_byKeys hn).mp hv, hx⟩, fun ⟨v, hv, hx⟩ => ⟨v, (mem_byKeys hn).mpr hv, hx⟩⟩

theorem variantsSer_leq {vs vs' : List Variant} (h : LEq vs vs') (hn : (vs.map Variant.key).Nodup) (hd : DictKeysL vs)
    (d : Flat) (hs : variantsSer vs = .ok d) : variantsSer vs' = .ok d := by
  have hn' : (vs'.map Variant.key).Nodup := h.keys.nodup_iff.mp hn
  have hc : containerObj vs = containerObj vs' := by simp only [containerObj, kidsView_leq true h hn]
  obtain ⟨hv, g, sd, hmem⟩ := variantsSer_iff.mp hs
  refine variantsSer_iff.mpr ⟨hc ▸ hv, (goodL_byKeys hn').mpr (h.goodL hd none ((goodL_byKeys hn).mp g)), sd, fun x => ?_⟩
  rw [hmem, flats_byKeys hn', ← h.flats_iff x, ← flats_byKeys hn]

end PM.CI
