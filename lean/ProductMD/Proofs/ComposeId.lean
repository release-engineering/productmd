import ProductMD.Proofs.Decimal
import ProductMD.Spec.IdPatterns
import ProductMD.Spec.StrWords
import ProductMD.Model.ComposeId
/-!
The tail `[.letters][.digits]` of a compose id as `create_compose_id` writes it (`sufStr`, `respStr`), and the character
classes of the `get_date_type_respin` pattern (`Spec.dtr`) on it: letters, digits and the dot exclude one another.
The parts `create_compose_id` writes in front of the date hold no line feed when the attributes hold none (`NoNl`).
-/
namespace PM.IdProof
open PM PM.Spec PM.Dec

/-- `.letters` or nothing -/
def sufStr : Str → Str
  | [] => []
  | l => '.' :: l

theorem sufStr_ne_nil {L : Str} (h : L ≠ []) : sufStr L = '.' :: L := by
  cases L with
  | nil => exact absurd rfl h
  | cons _ _ => rfl

/-- `.respin` or nothing -/
def respStr : Option Nat → Str
  | none => []
  | some n => '.' :: Str.natStr n

theorem _root_.PM.Dec.IsDig.not_lower {c} (h : IsDig c) : lowerCls.mem c = false := by
  have hd : ∀ d, d < 10 → lowerCls.mem (Str.digitChar d) = false := by decide
  obtain ⟨d, hd', rfl⟩ := h
  exact hd d hd'

theorem dot_not_lower : lowerCls.mem '.' = false := by decide
theorem dot_not_digit : digitCls.mem '.' = false := by decide

theorem lower_digit_disjoint {x : Char} (h : lowerCls.mem x = true) : digitCls.mem x = false := by
  -- every range of the `\d` table lies below `a` or above `z`
  have hoff : ∀ r ∈ Gen.digitRanges, r.2 < 97 ∨ 122 < r.1 := by decide
  cases hd : digitCls.mem x with
  | false => rfl
  | true =>
    simp only [digitCls, Cls.mem, bne_iff_ne, ne_eq, Bool.not_eq_false, List.any_eq_true, Bool.and_eq_true,
      decide_eq_true_eq] at hd
    obtain ⟨r, hr, h1, h2⟩ := hd
    simp [lowerCls, Cls.mem] at h
    have := hoff r hr
    omega

theorem sufStr_not_digit {L : Str} (hL : ∀ x ∈ L, lowerCls.mem x = true) : ∀ x ∈ sufStr L, digitCls.mem x = false := by
  intro x hx
  cases L with
  | nil => cases hx
  | cons l0 ls =>
    rcases List.mem_cons.mp hx with rfl | hx
    · exact dot_not_digit
    · exact lower_digit_disjoint (hL x hx)

end PM.IdProof

namespace PM
open PM.Str

theorem lowerAscii_nl {t : Str} (h : '\n' ∉ t) : '\n' ∉ lowerAscii t := by
  have hup : ∀ n, n < 91 → 65 ≤ n → Char.ofNat (n + 32) ≠ '\n' := by decide
  intro hm
  simp only [lowerAscii, List.mem_map] at hm
  obtain ⟨c, hc, he⟩ := hm
  by_cases hu : 'A' ≤ c ∧ c ≤ 'Z'
  · rw [if_pos hu] at he
    have h1 : 65 ≤ c.toNat := by
      have := hu.1; rw [Char.le_def, UInt32.le_iff_toNat_le] at this; exact this
    have h2 : c.toNat ≤ 90 := by
      have := hu.2; rw [Char.le_def, UInt32.le_iff_toNat_le] at this; exact this
    exact hup c.toNat (by omega) h1 he
  · rw [if_neg hu] at he; subst he; exact h hc

theorem pctS_nl {o : Option Str} (h : NoNl o) : '\n' ∉ pctS o := by
  cases o with
  | none => decide
  | some s => exact h s rfl

theorem typeSuffix_nl {p : Product} (h : NoNl p.type) : '\n' ∉ p.typeSuffix := by
  unfold Product.typeSuffix
  cases ht : p.type with
  | none => simp
  | some t =>
    simp only
    split
    · simp
    · exact List.not_mem_cons_of_ne_of_not_mem (by decide) (lowerAscii_nl (h t ht))

theorem rhel5Part_nl (a : ComposeIdArgs) : '\n' ∉ rhel5Part a := by
  unfold rhel5Part
  simp only
  split
  · split
    · rename_i v _
      split
      · rename_i hv
        simp only [Bool.or_eq_true, beq_iff_eq] at hv
        rcases hv with rfl | rfl <;> decide
      · simp
    · simp
  · simp

end PM
