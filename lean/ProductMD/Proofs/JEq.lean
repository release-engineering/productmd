import ProductMD.Proofs.PyCanon
import ProductMD.Spec.SameWords
/-!
`JEq a b` (`Spec/SameWords.lean`): two Python/JSON values are *the same content*: equal up to the order of the entries of every dict, at every
nesting level (dict keys are distinct, as in every Python dict).  Lists keep their order: they are content.
`JEq.refl` relates any value to itself, and `JEq.dict` asks `Nodup` of the LEFT key list only: the right one is a permutation
of it (`JEqD.nodup_right`, which is what `JEq.symm` uses).

`JEq a b → JsonText.dumps a = JsonText.dumps b`: the bytes `json.dump(sort_keys=True)` writes are a function of the content.
Quantifying over `JEq` quantifies over every insertion order, hence over every dict iteration order the interpreter can
produce.

`JEq.canon_eq` is the way out of the relation: what does not change under `canon` cannot tell related values apart
(`JEq.congr_of_canon`).
-/
namespace PM
open PyVal

theorem JEqD.refl : ∀ l : List (Str × PyVal), JEqD l l
  | [] => .nil
  | (k, v) :: l => .cons k (.refl v) (JEqD.refl l)

theorem JEqL.refl : ∀ l : List PyVal, JEqL l l
  | [] => .nil
  | v :: l => .cons (.refl v) (JEqL.refl l)

theorem JEqL.map {f : PyVal → PyVal} : ∀ {xs : List PyVal}, (∀ x ∈ xs, JEq x (f x)) → JEqL xs (xs.map f)
  | [], _ => .nil
  | x :: _, h => .cons (h x List.mem_cons_self) (JEqL.map fun y hy => h y (List.mem_cons_of_mem _ hy))

theorem JEqD.map {f : PyVal → PyVal} : ∀ {l : List (Str × PyVal)}, (∀ kv ∈ l, JEq kv.2 (f kv.2)) →
    JEqD l (l.map fun kv => (kv.1, f kv.2))
  | [], _ => .nil
  | (k, _) :: _, h => .cons k (h _ List.mem_cons_self) (JEqD.map fun y hy => h y (List.mem_cons_of_mem _ hy))

theorem JEqD.of_perm {l l' : List (Str × PyVal)} (h : l.Perm l') : JEqD l l' := by
  induction h with
  | nil => exact .nil
  | cons x _ ih => exact .cons x.1 (.refl x.2) ih
  | swap x y l => exact .swap y x l
  | trans _ _ ih1 ih2 => exact .trans ih1 ih2

theorem JEq.dict_of_perm {l l' : List (Str × PyVal)} (h : l.Perm l') (hn : (l.map (·.1)).Nodup) : JEq (.dict l) (.dict l') :=
  .dict (.of_perm h) hn

mutual
theorem JEq.canon_eq : ∀ {a b : PyVal}, JEq a b → canon a = canon b
  | _, _, .refl _ => rfl
  | _, _, .list h => by
    simp only [canon]
    congr 1
    exact JEqL.canon_eq h
  | _, _, .dict h hn => by
    simp only [canon]
    congr 1
    exact sortKvs_perm_eq (JEqD.canon_perm h) (by rw [canonKvs_keys]; exact hn)
theorem JEqL.canon_eq : ∀ {a b : List PyVal}, JEqL a b → canonList a = canonList b
  | _, _, .nil => rfl
  | _, _, .cons h t => by
    simp only [canonList]
    rw [JEq.canon_eq h, JEqL.canon_eq t]
theorem JEqD.canon_perm : ∀ {a b : List (Str × PyVal)}, JEqD a b → (canonKvs a).Perm (canonKvs b)
  | _, _, .nil => List.Perm.refl _
  | _, _, .cons k h t => by
    simp only [canonKvs]
    rw [JEq.canon_eq h]
    exact List.Perm.cons _ (JEqD.canon_perm t)
  | _, _, .swap a b l => by
    obtain ⟨ka, va⟩ := a
    obtain ⟨kb, vb⟩ := b
    simp only [canonKvs]
    exact List.Perm.swap _ _ _
  | _, _, .trans h1 h2 => (JEqD.canon_perm h1).trans (JEqD.canon_perm h2)
end

theorem JEq.dumps_eq {a b : PyVal} (h : JEq a b) : JsonText.dumps a = JsonText.dumps b :=
  dumps_congr h.canon_eq

theorem JEq.congr_of_canon {β : Sort _} (f : PyVal → β) (hf : ∀ v, f (canon v) = f v) {a b : PyVal} (h : JEq a b) : f a = f b := by
  rw [← hf a, h.canon_eq, hf b]

theorem JEqD.keys_perm {a b : List (Str × PyVal)} (h : JEqD a b) : (a.map (·.1)).Perm (b.map (·.1)) := by
  rw [← canonKvs_keys a, ← canonKvs_keys b]
  exact (JEqD.canon_perm h).map _

theorem JEqD.nodup_right {a b : List (Str × PyVal)} (h : JEqD a b) (hn : (a.map (·.1)).Nodup) : (b.map (·.1)).Nodup :=
  h.keys_perm.nodup_iff.mp hn

mutual
theorem JEq.symm : ∀ {a b : PyVal}, JEq a b → JEq b a
  | _, _, .refl v => .refl v
  | _, _, .list h => .list (JEqL.symm h)
  | _, _, .dict h hn => .dict (JEqD.symm h) (h.nodup_right hn)
theorem JEqL.symm : ∀ {a b : List PyVal}, JEqL a b → JEqL b a
  | _, _, .nil => .nil
  | _, _, .cons h t => .cons (JEq.symm h) (JEqL.symm t)
theorem JEqD.symm : ∀ {a b : List (Str × PyVal)}, JEqD a b → JEqD b a
  | _, _, .nil => .nil
  | _, _, .cons k h t => .cons k (JEq.symm h) (JEqD.symm t)
  | _, _, .swap a b l => .swap b a l
  | _, _, .trans h1 h2 => .trans (JEqD.symm h2) (JEqD.symm h1)
end

mutual
theorem JEq.trans : ∀ {a b c : PyVal}, JEq a b → JEq b c → JEq a c
  | _, _, _, .refl _, h => h
  | _, _, _, .list h1, .refl _ => .list h1
  | _, _, _, .dict h1 n1, .refl _ => .dict h1 n1
  | _, _, _, .list h1, .list h2 => .list (JEqL.trans h1 h2)
  | _, _, _, .dict h1 n1, .dict h2 _ => .dict (.trans h1 h2) n1
theorem JEqL.trans : ∀ {a b c : List PyVal}, JEqL a b → JEqL b c → JEqL a c
  | _, _, _, .nil, .nil => .nil
  | _, _, _, .cons h1 t1, .cons h2 t2 => .cons (JEq.trans h1 h2) (JEqL.trans t1 t2)
end

theorem JEqL.append_right : ∀ {l l' : List PyVal}, JEqL l l' → ∀ r : List PyVal, JEqL (l ++ r) (l' ++ r)
  | _, _, .nil, r => JEqL.refl r
  | _, _, .cons hx t, r => .cons hx (JEqL.append_right t r)

theorem JEq.dict_inv {l : List (Str × PyVal)} {b : PyVal} (h : JEq (.dict l) b) :
    ∃ l', b = .dict l' ∧ JEqD l l' := by
  cases h with
  | refl => exact ⟨l, rfl, JEqD.refl l⟩
  | dict hd _ => exact ⟨_, rfl, hd⟩

theorem JEq.list_inv {xs : List PyVal} {b : PyVal} (h : JEq (.list xs) b) : ∃ ys, b = .list ys ∧ JEqL xs ys := by
  cases h with
  | refl => exact ⟨xs, rfl, JEqL.refl xs⟩
  | list hl => exact ⟨_, rfl, hl⟩

theorem JEq.notDict {a b : PyVal} (h : JEq a b) (ha : ∀ l, a ≠ .dict l) : ∀ l, b ≠ .dict l := by
  cases h with
  | refl => exact ha
  | list _ => intro l e; cases e
  | dict _ _ => exact absurd rfl (ha _)

theorem JEq.notList {a b : PyVal} (h : JEq a b) (ha : ∀ l, a ≠ .list l) : ∀ l, b ≠ .list l := by
  cases h with
  | refl => exact ha
  | list _ => exact absurd rfl (ha _)
  | dict _ _ => intro l e; cases e

theorem JEq.isinstance_eq {a b : PyVal} (h : JEq a b) (t : PyType) : a.isinstance t = b.isinstance t :=
  h.congr_of_canon (·.isinstance t) (isinstance_canon · t)

theorem JEq.isBool_eq {a b : PyVal} (h : JEq a b) : a.isBool = b.isBool := h.congr_of_canon _ isBool_canon

theorem JEq.truthy_eq {a b : PyVal} (h : JEq a b) : a.truthy = b.truthy := h.congr_of_canon _ truthy_canon

theorem JEq.str_left {s : Str} {b : PyVal} (h : JEq (.str s) b) : b = .str s := by cases h; rfl
theorem JEq.str_right {s : Str} {a : PyVal} (h : JEq a (.str s)) : a = .str s := by cases h; rfl

theorem JEq.pyEq_left {a b : PyVal} (h : JEq a b) (c : PyVal) : pyEq a c = pyEq b c := by
  simp only [pyEq, h.canon_eq]

theorem JEq.pyEq_right {a b : PyVal} (h : JEq a b) (c : PyVal) : pyEq c a = pyEq c b := by
  simp only [pyEq, h.canon_eq]

/-- `JEq` on optional values (results of `lookup`) -/
def OptJEq : Option PyVal → Option PyVal → Prop
  | .none, .none => True
  | .some a, .some b => JEq a b
  | _, _ => False

theorem OptJEq.refl : ∀ o, OptJEq o o
  | .none => trivial
  | .some v => JEq.refl v

theorem OptJEq.trans : ∀ {a b c}, OptJEq a b → OptJEq b c → OptJEq a c
  | .none, .none, .none, _, _ => trivial
  | .some _, .some _, .some _, h1, h2 => JEq.trans h1 h2
  | .none, .some _, _, h, _ => h.elim
  | .some _, .none, _, h, _ => h.elim
  | .none, .none, .some _, _, h => h.elim
  | .some _, .some _, .none, _, h => h.elim

theorem OptJEq.isSome_eq : ∀ {a b : Option PyVal}, OptJEq a b → a.isSome = b.isSome
  | .none, .none, _ => rfl
  | .some _, .some _, _ => rfl
  | .none, .some _, h => h.elim
  | .some _, .none, h => h.elim

theorem OptJEq.getD : ∀ {a b : Option PyVal}, OptJEq a b → ∀ d : PyVal, JEq (a.getD d) (b.getD d)
  | .none, .none, _, d => .refl d
  | .some _, .some _, h, _ => h
  | .none, .some _, h, _ => h.elim
  | .some _, .none, h, _ => h.elim

namespace Mf

theorem lookup_jeqD : ∀ {l l' : Kvs}, JEqD l l' → (l.map (·.1)).Nodup → ∀ k, OptJEq (lookup l k) (lookup l' k)
  | _, _, .nil, _, _ => trivial
  | _, _, .cons k0 hvw t, hn, k => by
    simp only [List.map_cons, List.nodup_cons] at hn
    simp only [lookup]
    split
    · exact hvw
    · exact lookup_jeqD t hn.2 k
  | _, _, .swap a b l, hn, k => by
    rw [lookup_perm (List.Perm.swap b a l) hn k]
    exact OptJEq.refl _
  | _, _, .trans h1 h2, hn, k => (lookup_jeqD h1 hn k).trans (lookup_jeqD h2 (h1.nodup_right hn) k)

theorem lookup_isSome_iff (l : Kvs) (k : Str) : (lookup l k).isSome = true ↔ k ∈ l.map (·.1) := by
  rw [lookup_eq]
  exact Assoc.lookup_isSome_iff

end Mf

theorem JEqD.of_mem : ∀ {l l' : List (Str × PyVal)}, (l.map (·.1)).Nodup → (l'.map (·.1)).Nodup →
    (∀ k, k ∈ l.map (·.1) ↔ k ∈ l'.map (·.1)) → (∀ k v v', (k, v) ∈ l → (k, v') ∈ l' → JEq v v') → JEqD l l'
  | [], l', _, _, hk, _ => by
    cases l' with
    | nil => exact .nil
    | cons x xs => exact absurd ((hk x.1).mpr (by simp)) (by simp)
  | (k, v) :: rest, l', hn, hn', hk, hv => by
    -- find the head's key in `l'`, bring that entry to the front (`List.perm_middle`), recurse on `rest` and `s ++ t`
    have hkm : k ∈ l'.map (·.1) := (hk k).mp (by simp)
    obtain ⟨⟨k', v'⟩, hm, hkk⟩ := List.mem_map.mp hkm
    simp only at hkk
    subst hkk
    obtain ⟨s, t, rfl⟩ := List.mem_iff_append.mp hm
    have hperm : (s ++ (k', v') :: t).Perm ((k', v') :: (s ++ t)) := List.perm_middle
    have hn'' : (((k', v') :: (s ++ t)).map (·.1)).Nodup := (hperm.map (·.1)).nodup_iff.mp hn'
    simp only [List.map_cons, List.nodup_cons] at hn hn''
    refine .trans (.cons k' (hv k' v v' (by simp) hm) (JEqD.of_mem (l := rest) (l' := s ++ t) hn.2 hn''.2 ?_ ?_))
      (JEqD.of_perm hperm.symm)
    · intro x
      have h1 := hk x
      simp only [List.map_cons, List.mem_cons, List.map_append, List.mem_append] at h1
      simp only [List.map_append, List.mem_append]
      constructor
      · intro hx
        have hne : x ≠ k' := fun e => hn.1 (e ▸ hx)
        rcases h1.mp (.inr hx) with h | h | h
        · exact .inl h
        · exact absurd h hne
        · exact .inr h
      · intro hx
        have hx' : x ∈ (s ++ t).map (·.1) := by simpa [List.map_append] using hx
        have hne : x ≠ k' := fun e => hn''.1 (e ▸ hx')
        rcases h1.mpr (hx.elim .inl (fun h => .inr (.inr h))) with h | h
        · exact absurd h hne
        · exact h
    · intro x a b ha hb
      refine hv x a b (List.mem_cons_of_mem _ ha) ?_
      rcases List.mem_append.mp hb with h | h
      · exact List.mem_append.mpr (.inl h)
      · exact List.mem_append.mpr (.inr (List.mem_cons_of_mem _ h))

/-- `JEqD.of_mem` for two dicts obtained by mapping over keyed lists (the shape of `Img.OutCells.toPy`) -/
theorem jeq_dict_map {α β : Type} {g : Str × α → PyVal} {g' : Str × β → PyVal} {l : List (Str × α)} {l' : List (Str × β)}
    (hn : (l.map (·.1)).Nodup) (hn' : (l'.map (·.1)).Nodup) (hk : ∀ k, k ∈ l.map (·.1) ↔ k ∈ l'.map (·.1))
    (hv : ∀ p ∈ l, ∀ p' ∈ l', p.1 = p'.1 → JEq (g p) (g' p')) :
    JEq (.dict (l.map fun p => (p.1, g p))) (.dict (l'.map fun p => (p.1, g' p))) := by
  have hm : ((l.map fun p => (p.1, g p)).map (·.1)).Nodup := by
    rw [Assoc.keys_map]
    exact hn
  have hm' : ((l'.map fun p => (p.1, g' p)).map (·.1)).Nodup := by
    rw [Assoc.keys_map]
    exact hn'
  refine .dict (JEqD.of_mem hm hm' ?_ ?_) hm
  · intro k
    rw [Assoc.keys_map, Assoc.keys_map]
    exact hk k
  · intro k v v' hx hx'
    obtain ⟨p, hm, he⟩ := List.mem_map.mp hx
    obtain ⟨p', hm', he'⟩ := List.mem_map.mp hx'
    obtain ⟨h1, rfl⟩ := Prod.mk.inj he
    obtain ⟨h2, rfl⟩ := Prod.mk.inj he'
    exact hv p hm p' hm' (h1.trans h2.symm)

/-- the converse of `Mf.lookup_jeqD`: a dict with distinct keys IS its lookup function -/
theorem JEqD.ext {l l' : Mf.Kvs} (hn : (l.map (·.1)).Nodup) (hn' : (l'.map (·.1)).Nodup)
    (h : ∀ k, OptJEq (Mf.lookup l k) (Mf.lookup l' k)) : JEqD l l' := by
  refine JEqD.of_mem hn hn' (fun k => ?_) (fun k v v' hv hv' => ?_)
  · rw [← Mf.lookup_isSome_iff, ← Mf.lookup_isSome_iff, (h k).isSome_eq]
  · have := h k
    rwa [Mf.lookup_of_mem l k v hn hv, Mf.lookup_of_mem l' k v' hn' hv'] at this

theorem JEq.get? {v v' : PyVal} (h : JEq v v') (k : Str) : OptJEq (v.get? k) (v'.get? k) := by
  cases h with
  | refl => exact OptJEq.refl _
  | list _ => trivial
  | dict hd hn =>
    rw [Mf.get?_dict, Mf.get?_dict]
    exact Mf.lookup_jeqD hd hn k

namespace Img
open PM.Mf

theorem uniqKeys_of_nodup (l : List (Str × PyVal)) (h : (l.map (·.1)).Nodup) : uniqKeys l = true := (uniqKeys_iff l).mpr h

theorem jeq_canon : ∀ (v : PyVal), jsonRep v = true → JEq v (PyVal.canon v) := by
  intro v h
  induction v using PyVal.induct with
  | list xs ih =>
    rw [canon_list]
    exact .list (.map fun x hx => ih x hx (jsonRep_list_iff.mp h x hx))
  | dict kvs ih =>
    obtain ⟨hn, hv⟩ := jsonRep_dict_iff.mp h
    rw [canon_dict]
    exact .dict (.trans (.map fun p hp => ih p hp (hv p hp)) (.of_perm (sortKvs_perm _).symm)) hn
  | _ => exact .refl _

theorem jeqL_canon : ∀ (xs : List PyVal), jsonRepList xs = true → JEqL xs (PyVal.canonList xs) := by
  intro xs h
  rw [canonList_eq_map]
  exact .map fun x hx => jeq_canon x (jsonRep_list_iff.mp h x hx)

theorem jeqD_canon : ∀ (kvs : List (Str × PyVal)), jsonRepKvs kvs = true → JEqD kvs (PyVal.canonKvs kvs) := by
  intro kvs h
  rw [canonKvs_eq_map]
  exact .map fun p hp => jeq_canon p.2 (((jsonRepKvs_iff _).mp h).2 p hp)

end Img

end PM
