import ProductMD.Proofs.IniLemmas
import ProductMD.Proofs.ExceptLemmas
import ProductMD.Proofs.RulesAgree
import ProductMD.Proofs.RulesEq
import ProductMD.Model.Chars
import ProductMD.Model.TreeInfo
/-!
The treeinfo writer, both directions: `serialize t mv = .ok d` holds exactly when every `validate()` passes, both disc numbers are
set if `[media]` is written (`Media.serialize` calls `int()` on them), the three look-ups of `[general]` succeed and no section name
occurs twice or is `DEFAULT`, and `d` is then `(docList t g).reverse`: the sections of `docList` in the order in which they are
created (`serialize_iff`).

A section writer is a function `Ini → Except Err Ini` that appends sections: `Adds f P S` says that `f` succeeds exactly when `P`
holds and the names of `S` are new, and then appends `S`.  The writers of the section classes are instances (`ser*_adds`), composed
by `Adds.seq`.

At the end, what the treeinfo proofs need of the generated validators: the closed facts (`closed_facts`, `customs_bound`) and the
two hand-bound rules of `Images` as Boolean tests (`imagePaths_eq`, `imagePlatforms_eq`).
-/
namespace PM
namespace TI
open Ini

/-- `Wrote d d' L N`: going from `d` to `d'` created exactly the sections listed in `L` (name ↦ final options, newest first; all
absent from `d`, names pairwise distinct), in creation order `N`, and touched nothing else. -/
structure Wrote (d d' : Ini) (L : List (Str × IniSec)) (N : List Str) : Prop where
  look : ∀ s, d'.lookup s = (L.lookup s).or (d.lookup s)
  fresh : ∀ k ∈ L.map (·.1), d.lookup k = none
  nodup : (L.map (·.1)).Nodup
  names : d'.map (·.1) = d.map (·.1) ++ N
  perm : N.Perm (L.map (·.1))

theorem Wrote.present {d d' L N} (w : Wrote d d' L N) {k : Str} {o : IniSec} (hm : (k, o) ∈ L) : d'.lookup k = some o := by
  rw [w.look, Assoc.lookup_of_mem_nodup w.nodup hm]; rfl

theorem sets_mid {d K : Ini} {s : Str} (h : d.lookup s = none) : ∀ (kvs : List (Str × Str)) (o : IniSec),
    sets (d ++ (s, o) :: K) s kvs = .ok (d ++ (s, setsKV o kvs) :: K)
  | [], _ => rfl
  | kv :: rest, o => by rw [sets, set_mid h]; exact sets_mid h rest _

theorem sets_append (s : Str) : ∀ (a b : List (Str × Str)) (d : Ini), sets d s (a ++ b) = sets d s a >>= fun d' => sets d' s b
  | [], _, _ => rfl
  | kv :: a, b, d => by
    simp only [List.cons_append, sets]
    cases Ini.set d s kv.1 kv.2 with
    | error e => rfl
    | ok d1 => exact sets_append s a b d1

/-- the names `N` can be given to new sections of `d`, one after the other -/
def Fresh (d : Ini) (N : List Str) : Prop := N.Nodup ∧ ∀ s ∈ N, d.lookup s = none ∧ s ≠ DEFAULT

theorem Fresh.nil (d : Ini) : Fresh d [] := ⟨List.nodup_nil, fun _ h => nomatch h⟩

theorem Fresh.singleton {d : Ini} {s : Str} : Fresh d [s] ↔ d.lookup s = none ∧ s ≠ DEFAULT := by
  simp [Fresh]

theorem Fresh.empty {N : List Str} : Fresh [] N ↔ N.Nodup ∧ DEFAULT ∉ N :=
  and_congr_right fun _ => ⟨fun h hm => (h _ hm).2 rfl, fun h _ hs => ⟨rfl, fun e => h (e ▸ hs)⟩⟩

theorem Fresh.of_perm {d : Ini} {N N' : List Str} (h : N'.Perm N) (hf : Fresh d N) : Fresh d N' :=
  ⟨h.nodup_iff.mpr hf.1, fun s hs => hf.2 s (h.mem_iff.mp hs)⟩

theorem Fresh.append {d S : Ini} {M : List Str} :
    Fresh d (S.map (·.1) ++ M) ↔ Fresh d (S.map (·.1)) ∧ Fresh (d ++ S) M := by
  simp only [Fresh, List.nodup_append, List.mem_append, List.lookup_append, Option.or_eq_none_iff, Assoc.lookup_none_iff]
  constructor
  · rintro ⟨⟨hS, hM, hSM⟩, hd⟩
    refine ⟨⟨hS, fun s hs => hd s (.inl hs)⟩, hM, fun s hs => ?_⟩
    have hs' := hd s (.inr hs)
    -- a name of `M` is new in `d ++ S`: new in `d`, and (`hSM`) not a name of `S`
    exact ⟨⟨hs'.1, fun hm => hSM s hm s hs rfl⟩, hs'.2⟩
  · rintro ⟨⟨hS, hdS⟩, hM, hdM⟩
    refine ⟨⟨hS, hM, fun a ha b hb e => (hdM b hb).1.2 (e ▸ ha)⟩, fun s hs => ?_⟩
    rcases hs with hs | hs
    · exact hdS s hs
    · exact ⟨(hdM s hs).1.1, (hdM s hs).2⟩

def Adds (f : Ini → Except Err Ini) (P : Prop) (S : Ini) : Prop :=
  ∀ d d', f d = .ok d' ↔ (P ∧ Fresh d (S.map (·.1))) ∧ d' = d ++ S

theorem Adds.skip : Adds (fun d => .ok d) True [] := fun d d' => by
  simp [Fresh.nil, eq_comm]

theorem Adds.seq {f g : Ini → Except Err Ini} {P Q : Prop} {S T : Ini} (hf : Adds f P S) (hg : Adds g Q T) :
    Adds (fun d => f d >>= g) (P ∧ Q) (S ++ T) := fun d d' => by
  rw [bind_ok_of (hf d), hg, List.map_append, Fresh.append, List.append_assoc]
  exact ⟨fun ⟨⟨p, f1⟩, ⟨q, f2⟩, e⟩ => ⟨⟨⟨p, q⟩, f1, f2⟩, e⟩, fun ⟨⟨⟨p, q⟩, f1, f2⟩, e⟩ => ⟨⟨p, f1⟩, ⟨q, f2⟩, e⟩⟩

theorem Adds.guard {f : Ini → Except Err Ini} {P : Prop} {S : Ini} (v : Except Err Unit) (hf : Adds f P S) :
    Adds (fun d => do v; f d) (v = .ok () ∧ P) S := fun d d' => by
  cases v with
  | error e => exact ⟨fun h => (nomatch h), fun h => (nomatch h.1.1.1)⟩
  | ok u => exact (hf d d').trans (by simp)

theorem Adds.cond {f : Ini → Except Err Ini} {P : Prop} {S : Ini} (c : Bool) (hf : Adds f P S) :
    Adds (fun d => if c then f d else .ok d) (c = true → P) (if c then S else []) := by
  cases c
  · simpa using Adds.skip
  · simpa using hf

/-- The shape all section writers share: `add_section(s)`, `set(s, …)`, whatever `g` appends after that (the sections of the
children), and further `set(s, …)` on the section itself. -/
theorem Adds.sec {g : Ini → Except Err Ini} {Q : Prop} {T : Ini} (s : Str) (kvs kvs' : List (Str × Str)) (hg : Adds g Q T) :
    Adds (fun d => do let d1 ← addSection d s; let d2 ← sets d1 s kvs; let d3 ← g d2; sets d3 s kvs') Q
      ((s, setsKV (setsKV [] kvs) kvs') :: T) := fun d d' => by
  rw [bind_ok_of (fun _ => addSection_iff)]
  have key : ∀ (h : d.lookup s = none ∧ s ≠ DEFAULT),
      ((do let d2 ← sets (d ++ [(s, [])]) s kvs; let d3 ← g d2; sets d3 s kvs') = .ok d' ↔
        (Q ∧ Fresh (d ++ [(s, setsKV [] kvs)]) (T.map (·.1))) ∧ d' = d ++ (s, setsKV (setsKV [] kvs) kvs') :: T) := fun h => by
    rw [sets_mid h.1, ok_bind, bind_ok_of (hg _), List.append_assoc, List.singleton_append, sets_mid h.1]
    exact and_congr_right fun _ => ⟨fun e => (Except.ok.inj e).symm, fun e => congrArg _ e.symm⟩
  have hfr := Fresh.append (d := d) (S := [(s, setsKV [] kvs)]) (M := T.map (·.1))
  simp only [List.map_cons, List.map_nil, List.singleton_append] at hfr
  rw [List.map_cons, hfr, Fresh.singleton]
  constructor
  · rintro ⟨h, h'⟩
    obtain ⟨⟨q, fr⟩, e⟩ := (key h).mp h'
    exact ⟨⟨q, h, fr⟩, e⟩
  · rintro ⟨⟨q, h, fr⟩, e⟩
    exact ⟨h, (key h).mpr ⟨⟨q, fr⟩, e⟩⟩

theorem Adds.of_iff {f f' : Ini → Except Err Ini} {P P' : Prop} {S S' : Ini} (h : Adds f P S)
    (hf : ∀ d d', f' d = .ok d' ↔ f d = .ok d') (hP : P' ↔ P) (hS : S' = S) : Adds f' P' S' := fun d d' => by
  rw [hf, hP, hS]
  exact h d d'

theorem Adds.of_eq {f f' : Ini → Except Err Ini} {P P' : Prop} {S S' : Ini} (h : Adds f P S) (hf : ∀ d, f' d = f d)
    (hP : P' ↔ P) (hS : S' = S) : Adds f' P' S' :=
  h.of_iff (fun d d' => by rw [hf]) hP hS

theorem Adds.newSec (s : Str) (kvs : List (Str × Str)) :
    Adds (fun d => do let d1 ← addSection d s; sets d1 s kvs) True [(s, setsKV [] kvs)] :=
  (Adds.sec s kvs [] Adds.skip).of_eq (fun d => by
    cases addSection d s with
    | error e => rfl
    | ok d1 => show sets d1 s kvs = (sets d1 s kvs >>= fun d2 => .ok d2); cases sets d1 s kvs <;> rfl) Iff.rfl rfl

theorem Adds.fail (f : Ini → Except Err Ini) (S : Ini) (h : ∀ d d', f d ≠ .ok d') : Adds f False S :=
  fun d d' => ⟨fun e => absurd e (h d d'), fun e => e.1.1.elim⟩

/-- A section writer (`v1`) followed by one that makes a check of its own (`v2`) and then sets one more option in the section the
first has written: the check can be made first and the `set` joined to the others, which is the program of `Adds.sec`.  Only
success is compared: where two steps fail, the two programs raise different errors. -/
theorem sec_late_check (v1 v2 : Except Err Unit) (s : Str) (kvs : List (Str × Str)) (k v : Str) (g : Ini → Except Err Ini) (d d' : Ini) :
    ((do v1; let d1 ← addSection d s; sets d1 s kvs) >>= fun d2 => (do v2; let d3 ← Ini.set d2 s k v; g d3)) = .ok d' ↔
    (do v1; v2; (do let d1 ← addSection d s; let d2 ← sets d1 s (kvs ++ [(k, v)]); let d3 ← g d2; sets d3 s [])) = .ok d' := by
  cases v1 with
  | error e => exact ⟨fun h => (nomatch h), fun h => (nomatch h)⟩
  | ok u =>
    simp only [ok_bind]
    cases addSection d s with
    | error e => cases v2 <;> exact ⟨fun h => (nomatch h), fun h => (nomatch h)⟩
    | ok d1 =>
      simp only [ok_bind]
      rw [sets_append]
      cases sets d1 s kvs with
      | error e => cases v2 <;> exact ⟨fun h => (nomatch h), fun h => (nomatch h)⟩
      | ok d2 =>
        cases v2 with
        | error e => exact ⟨fun h => (nomatch h), fun h => (nomatch h)⟩
        | ok u =>
          simp only [ok_bind, sets]
          cases Ini.set d2 s k v with
          | error e => exact ⟨fun h => (nomatch h), fun h => (nomatch h)⟩
          | ok d3 => simp only [ok_bind]; cases g d3 <;> exact Iff.rfl

/-- the options of a variant's own section before `addons` is set (`varOpts`) -/
def baseOpts (pu : Option Str) (id uid name type : Str) (paths : List (Str × Str)) : IniSec :=
  setsKV (setsKV [] [(kId, id), (kUid, uid), (kName, name), (kType, type)])
    (pathOpts paths ++ parentOpt pu)

/-- the final options of a variant's own section -/
def varOpts (pu : Option Str) : Variant → IniSec
  | .mk _ id uid name type paths kids =>
    if kids.isEmpty then baseOpts pu id uid name type paths
    else setKV kAddons (Str.joinWith ',' (Str.sortDedup (kids.map Variant.uid))) (baseOpts pu id uid name type paths)

mutual
/-- sections of a subtree, later-written first, the variant's own section last -/
def flatV (pu : Option Str) : Variant → List (Str × IniSec)
  | .mk key id uid name type paths kids =>
    flatVs (some uid) kids ++ [(secName type uid, varOpts pu (.mk key id uid name type paths kids))]
def flatVs (pu : Option Str) : List Variant → List (Str × IniSec)
  | [] => []
  | v :: vs => flatVs pu vs ++ flatV pu v
end

mutual
def namesV : Variant → List Str
  | .mk _ _ uid _ type _ kids => secName type uid :: namesVs kids
def namesVs : List Variant → List Str
  | [] => []
  | v :: vs => namesV v ++ namesVs vs
end

mutual
/-- `Variant.validate()` holds for a variant (parent UID `pu`) and for every variant below it -/
def ValidV (pu : Option Str) : Variant → Prop
  | .mk _ id uid name type _ kids =>
    validateClass "treeinfo.Variant" (variantObj pu id uid name type kids) = .ok () ∧ ValidVs (some uid) kids
def ValidVs (pu : Option Str) : List Variant → Prop
  | [] => True
  | v :: vs => ValidV pu v ∧ ValidVs pu vs
end

theorem ValidVs_iff (pu : Option Str) : ∀ vs : List Variant, ValidVs pu vs ↔ ∀ v ∈ vs, ValidV pu v
  | [] => by simp [ValidVs]
  | v :: vs => by simp [ValidVs, ValidVs_iff pu vs]

-- for `decide` on `validateClass … = .ok ()` and on the outcome of a writer or reader
deriving instance DecidableEq for Except

def nVariantUid : Str := c!"treeinfo.Variant._validate_uid"
def nVariantKeys : Str := c!"composeinfo.VariantBase._validate_variants"
def nChecksumPaths : Str := c!"treeinfo.Checksums._validate_checksum_paths"
def nImagePaths : Str := c!"treeinfo.Images._validate_image_paths"
def nImagePlatforms : Str := c!"treeinfo.Images._validate_platforms"

/-- The closed facts about the generated validators that the treeinfo proofs use, evaluated in one declaration (DESIGN.md §3,
closed facts): rules that the classes run (`classRules`), and objects without content that validate. -/
structure ClosedFacts : Prop where
  variantUid : Rule.custom nVariantUid ∈ classRules "treeinfo.Variant"
  buildTs : Rule.type kBuildTs [.int, .float] ∈ classRules "treeinfo.Tree"
  checksumPaths : Rule.custom nChecksumPaths ∈ classRules "treeinfo.Checksums"
  imagePaths : Rule.custom nImagePaths ∈ classRules "treeinfo.Images"
  mainimage : Rule.guarded (.truthy "mainimage".toList) (.failIf (.startsWith "mainimage".toList ['/'])) ∈ classRules "treeinfo.Stage2"
  images : classRules "treeinfo.Images" = [.custom nImagePaths, .custom nImagePlatforms]
  versionTuple : versionTuple currentVersion = .ok Gen.VERSION
  header : validateClass "treeinfo.Header" (headerObj currentVersion) = .ok ()
  variantPaths : validateClass "treeinfo.VariantPaths" [] = .ok ()
  treeinfo : validateClass "treeinfo.TreeInfo" [] = .ok ()
  stage2_none : validateClass "treeinfo.Stage2" (stage2Obj none none) = .ok ()
  media_none : validateClass "treeinfo.Media" (mediaObj none none) = .ok ()

theorem closed_facts : ClosedFacts := by
  suffices h : _ ∧ _ ∧ _ ∧ _ ∧ _ ∧ _ ∧ _ ∧ _ ∧ _ ∧ _ ∧ _ ∧ _ from
    ⟨h.1, h.2.1, h.2.2.1, h.2.2.2.1, h.2.2.2.2.1, h.2.2.2.2.2.1, h.2.2.2.2.2.2.1, h.2.2.2.2.2.2.2.1, h.2.2.2.2.2.2.2.2.1,
     h.2.2.2.2.2.2.2.2.2.1, h.2.2.2.2.2.2.2.2.2.2.1, h.2.2.2.2.2.2.2.2.2.2.2⟩
  decide +kernel


/-- `Variant.serialize` as the program of `Adds.sec` (`VariantPaths.validate()` has nothing to check) -/
theorem serVariant_eq (pu : Option Str) (d : Ini) (key id uid name type : Str) (paths : List (Str × Str)) (kids : List Variant) :
    serVariant pu d (.mk key id uid name type paths kids) =
      (do validateClass "treeinfo.Variant" (variantObj pu id uid name type kids)
          let d1 ← addSection d (secName type uid)
          let d2 ← sets d1 (secName type uid) ([(kId, id), (kUid, uid), (kName, name), (kType, type)] ++ (pathOpts paths ++ parentOpt pu))
          let d3 ← serVariants (some uid) d2 kids
          sets d3 (secName type uid)
            (if kids.isEmpty then [] else [(kAddons, Str.joinWith ',' (Str.sortDedup (kids.map Variant.uid)))])) := by
  rw [serVariant, closed_facts.variantPaths]
  cases validateClass "treeinfo.Variant" (variantObj pu id uid name type kids) with
  | error e => rfl
  | ok u =>
    cases addSection d (secName type uid) with
    | error e => rfl
    | ok d1 =>
      simp only [ok_bind]
      rw [sets_append _ [(kId, id), (kUid, uid), (kName, name), (kType, type)]]
      cases sets d1 (secName type uid) [(kId, id), (kUid, uid), (kName, name), (kType, type)] with
      | error e => rfl
      | ok d2 =>
        simp only [ok_bind]
        cases sets d2 (secName type uid) (pathOpts paths ++ parentOpt pu) with
        | error e => rfl
        | ok d3 =>
          simp only [ok_bind]
          cases serVariants (some uid) d3 kids with
          | error e => rfl
          | ok d4 =>
            cases kids.isEmpty
            · simp only [ok_bind, Bool.false_eq_true, if_false, sets]
              cases Ini.set _ _ _ _ <;> rfl
            · rfl

theorem varOpts_eq (pu : Option Str) (key id uid name type : Str) (paths : List (Str × Str)) (kids : List Variant) :
    varOpts pu (.mk key id uid name type paths kids) =
      setsKV (setsKV [] ([(kId, id), (kUid, uid), (kName, name), (kType, type)] ++ (pathOpts paths ++ parentOpt pu)))
        (if kids.isEmpty then [] else [(kAddons, Str.joinWith ',' (Str.sortDedup (kids.map Variant.uid)))]) := by
  unfold varOpts baseOpts
  cases kids <;> simp [setsKV, List.foldl_append]

mutual
theorem serVariant_adds : ∀ (v : Variant) (pu : Option Str), Adds (fun d => serVariant pu d v) (ValidV pu v) (flatV pu v).reverse
  | .mk key id uid name type paths kids, pu =>
    (Adds.guard _ (Adds.sec _ _ _ (serVariants_adds kids (some uid)))).of_eq (fun d => serVariant_eq ..)
      (by simp only [ValidV]) (by rw [flatV, varOpts_eq]; simp)
theorem serVariants_adds : ∀ (vs : List Variant) (pu : Option Str), Adds (fun d => serVariants pu d vs) (ValidVs pu vs) (flatVs pu vs).reverse
  | [], _ => Adds.skip.of_eq (fun _ => rfl) (by simp only [ValidVs]) rfl
  | v :: vs, pu =>
    ((serVariant_adds v pu).seq (serVariants_adds vs pu)).of_eq
      (fun d => by rw [serVariants]; cases serVariant pu d v <;> rfl) (by simp only [ValidVs]) (by simp [flatVs])
end

def headerOpts : IniSec := setsKV [] [(kVersion, currentVersion), (kType, Gen.HEADER_TYPE_TreeInfo)]

theorem serHeader_adds (v : Str) : Adds (serHeader v) (validateClass "treeinfo.Header" (headerObj v) = .ok ()) [(sHeader, headerOpts)] :=
  (Adds.guard _ (Adds.newSec _ _)).of_eq (fun _ => rfl) (and_true _).symm.to_iff rfl

def releaseOpts (p : Product) (layered : Bool) : IniSec :=
  setsKV [] ([(kName, p.name), (kVersion, p.version), (kShort, p.short)]
    ++ if layered then [(kIsLayered, "true".toList)] else [])

theorem serRelease_adds (p : Product) (l : Bool) :
    Adds (serRelease p l) (validateClass "treeinfo.Release" (releaseObj p l) = .ok ()) [(sRelease, releaseOpts p l)] :=
  (Adds.guard _ (Adds.newSec _ _)).of_eq (fun _ => rfl) (and_true _).symm.to_iff rfl

/-- the options of `[base_product]` -/
def baseOpts' (p : Product) : IniSec := setsKV [] [(kName, p.name), (kVersion, p.version), (kShort, p.short)]

def baseL (t : TreeInfo) : List (Str × IniSec) :=
  if t.isLayered then (match t.baseProduct with | some p => [(sBase, baseOpts' p)] | none => []) else []

theorem serBaseIf_adds (t : TreeInfo) : Adds (serBaseIf t.isLayered t.baseProduct)
    (t.isLayered = true → ∃ p, t.baseProduct = some p ∧ validateClass "treeinfo.BaseProduct" (productObj p) = .ok ()) (baseL t) := by
  unfold baseL
  cases t.isLayered with
  | false => exact Adds.skip.of_eq (fun _ => rfl) (by simp) rfl
  | true =>
    cases t.baseProduct with
    | none => exact (Adds.fail _ _ (fun _ _ h => by simp [serBaseIf, serBase] at h)).of_eq (fun _ => rfl) (by simp) rfl
    | some p => exact (Adds.guard _ (Adds.newSec sBase _)).of_eq (fun _ => rfl) (by simp) rfl

def treeOpts (t : Tree) : IniSec := setsKV [] [(kArch, t.arch), (kPlatforms, platformsStr t), (kBuildTs, t.ts.str)]

def treeOptsFull (t : TreeInfo) : IniSec :=
  setKV kVariants (Str.joinWith ',' (Ini.sortS (t.variants.map Variant.uid))) (treeOpts t.tree)

/-- `Tree.serialize` and `Variants.serialize`: `[tree]`, to which the second adds `variants`, then the forest -/
theorem serTreeTops_adds (t : TreeInfo) : Adds (fun d => serTree t.tree d >>= serTops t.variants)
    (validateClass "treeinfo.Tree" (treeObj t.tree) = .ok () ∧ validateClass "treeinfo.Variants" (variantsObj t.variants) = .ok () ∧
      ValidVs none t.variants) ((sTree, treeOptsFull t) :: (flatVs none t.variants).reverse) :=
  (Adds.guard (validateClass "treeinfo.Tree" (treeObj t.tree)) (Adds.guard (validateClass "treeinfo.Variants" (variantsObj t.variants))
    (Adds.sec sTree ([(kArch, t.tree.arch), (kPlatforms, platformsStr t.tree), (kBuildTs, t.tree.ts.str)] ++
      [(kVariants, Str.joinWith ',' (Ini.sortS (t.variants.map Variant.uid)))]) [] (serVariants_adds t.variants none)))).of_iff
    (fun d d' => sec_late_check _ _ sTree _ kVariants _ (fun d3 => serVariants none d3 t.variants) d d')
    Iff.rfl (by simp only [treeOptsFull, treeOpts, setsKV, List.foldl_append, List.foldl_cons, List.foldl_nil])

def checksumOpts (cs : List (Str × Str × Str)) : IniSec := setsKV [] (cs.map fun c => (c.1, c.2.1 ++ ':' :: c.2.2))

def optSec (c : Bool) (s : Str) (o : IniSec) : List (Str × IniSec) := if c then [(s, o)] else []

theorem serChecksums_adds (cs : List (Str × Str × Str)) :
    Adds (serChecksums cs) (validateClass "treeinfo.Checksums" (checksumsObj cs) = .ok ()) (optSec (!cs.isEmpty) sChecksums (checksumOpts cs)) :=
  (Adds.guard _ (Adds.cond (!cs.isEmpty) (Adds.newSec sChecksums _))).of_eq
    (fun d => by unfold serChecksums; cases cs.isEmpty <;> rfl) (by simp) rfl

def imgFlat : List (Str × List (Str × Str)) → List (Str × IniSec)
  | [] => []
  | p :: ps => imgFlat ps ++ [(pImages ++ p.1, setsKV [] p.2)]

theorem serImagePlatforms_adds : ∀ ps : List (Str × List (Str × Str)), Adds (fun d => serImagePlatforms d ps) True (imgFlat ps).reverse
  | [] => Adds.skip
  | p :: ps => ((Adds.newSec (pImages ++ p.1) p.2).seq (serImagePlatforms_adds ps)).of_eq (fun d => by
      rw [serImagePlatforms]
      cases addSection d (pImages ++ p.1) with
      | error e => rfl
      | ok d1 => simp only [ok_bind]; cases sets d1 (pImages ++ p.1) p.2 <;> rfl) (and_self _).symm.to_iff (by simp [imgFlat])

theorem serImages_adds (images : List (Str × List (Str × Str))) (plats : List Str) : Adds (serImages images plats)
    (images.isEmpty = false → validateClass "treeinfo.Images" (imagesObj images plats) = .ok ()) (imgFlat images).reverse := by
  cases images with
  | nil => exact Adds.skip.of_eq (fun _ => rfl) (by simp) rfl
  | cons p ps => exact (Adds.guard _ (serImagePlatforms_adds (p :: ps))).of_eq (fun _ => rfl) (by simp) rfl

def stage2On (m i : Option Str) : Bool := optTruthy m || optTruthy i

def stage2Opts (m i : Option Str) : IniSec :=
  setsKV [] ((if optTruthy m then [(kMainimage, m.getD [])] else [])
      ++ (if optTruthy i then [(kInstimage, i.getD [])] else []))

theorem serStage2_adds (m i : Option Str) :
    Adds (serStage2 m i) (stage2On m i = true → validateClass "treeinfo.Stage2" (stage2Obj m i) = .ok ())
      (optSec (stage2On m i) sStage2 (stage2Opts m i)) := by
  have gate : (!optTruthy m && !optTruthy i) = !stage2On m i := (Bool.not_or _ _).symm
  exact (Adds.cond (stage2On m i) (Adds.guard _ (Adds.newSec sStage2 _))).of_eq
    (fun d => by unfold serStage2; rw [gate]; cases stage2On m i <;> rfl) (by simp) rfl

def mediaOn (a b : Option Int) : Bool := intTruthy a || intTruthy b

/-- the condition under which `Media.serialize` writes nothing -/
theorem media_gate (a b : Option Int) : (!intTruthy a && !intTruthy b) = !mediaOn a b := (Bool.not_or _ _).symm

def mediaOpts (a b : Option Int) : IniSec :=
  setsKV [] [(kDiscnum, Str.intStr (a.getD 0)), (kTotaldiscs, Str.intStr (b.getD 0))]

theorem serMedia_adds (a b : Option Int) : Adds (serMedia a b)
    (mediaOn a b = true → validateClass "treeinfo.Media" (mediaObj a b) = .ok () ∧ a.isSome ∧ b.isSome)
    (optSec (mediaOn a b) sMedia (mediaOpts a b)) := by
  have key : Adds (fun d => do
        validateClass "treeinfo.Media" (mediaObj a b)
        let d ← addSection d sMedia
        match a, b with
        | some x, some y => sets d sMedia [(kDiscnum, Str.intStr x), (kTotaldiscs, Str.intStr y)]
        | _, _ => .error .typeError)
      (validateClass "treeinfo.Media" (mediaObj a b) = .ok () ∧ a.isSome ∧ b.isSome) [(sMedia, mediaOpts a b)] := by
    have no : ∀ (d d' : Ini), (do
        validateClass "treeinfo.Media" (mediaObj a b)
        let _ ← addSection d sMedia
        (.error .typeError : Except Err Ini)) ≠ .ok d' := fun d d' => by
      cases validateClass "treeinfo.Media" (mediaObj a b) <;> cases addSection d sMedia <;> nofun
    cases a with
    | none => cases b <;> exact (Adds.fail _ _ no).of_eq (fun _ => rfl) (by simp) rfl
    | some x =>
      cases b with
      | none => exact (Adds.fail _ _ no).of_eq (fun _ => rfl) (by simp) rfl
      | some y => exact (Adds.guard _ (Adds.newSec sMedia _)).of_eq (fun _ => rfl) (by simp) rfl
  exact (Adds.cond (mediaOn a b) key).of_eq
    (fun d => by unfold serMedia; rw [media_gate]; cases mediaOn a b <;> rfl) Iff.rfl rfl

def generalBase (t : TreeInfo) : IniSec :=
  setsKV []
    [(kWarn0, vWarn0),
     (kWarn1, vWarn1),
     (kName, t.release.name ++ ' ' :: t.release.version),
     (kFamily, t.release.name),
     (kVersion, t.release.version),
     (kArch, t.tree.arch),
     (kPlatforms, platformsStr t.tree)]

def withOpt (k : Str) (v : Option Str) (g : IniSec) : IniSec := match v with | some p => setKV k p g | none => g

def generalOpts (t : TreeInfo) (n : Int) (key : Str) (v : Variant) : IniSec :=
  withOpt kRepository (generalPath t.tree.arch v.paths "repository".toList "source_repository".toList)
    (withOpt kPackagedir (generalPath t.tree.arch v.paths "packages".toList "source_packages".toList)
      (setKV tVariant key
        (setKV kVariants (Str.joinWith ',' (Ini.sortS (t.variants.map Variant.key)))
          (setKV kTimestamp (Str.intStr n) (generalBase t)))))

theorem setOpt_mid {d K : Ini} {s k : Str} {x : Option Str} {o : IniSec} (h : d.lookup s = none) :
    setOpt (d ++ (s, o) :: K) s k x = .ok (d ++ (s, withOpt k x o) :: K) := by
  cases x with
  | none => rfl
  | some p => exact set_mid h

theorem serGeneral_iff (t : TreeInfo) (mv : Option Str) (d d' : Ini) : serGeneral t mv d = .ok d' ↔
    ∃ n key v, t.tree.ts.toInt = .ok n ∧ chosenKey t.variants mv = .ok key ∧ getItem (key.length + 1) t.variants key = .ok v ∧
      d.lookup sGeneral = none ∧ d' = d ++ [(sGeneral, generalOpts t n key v)] := by
  unfold serGeneral
  rw [bind_ok_of (fun _ => addSection_iff)]
  constructor
  · rintro ⟨h, h'⟩
    rw [sets_mid (K := []) h.1, ok_bind] at h'
    obtain ⟨n, hn, h'⟩ := bind_ok h'
    rw [set_mid h.1, ok_bind, set_mid h.1, ok_bind] at h'
    obtain ⟨key, hkey, h'⟩ := bind_ok h'
    rw [set_mid h.1, ok_bind] at h'
    obtain ⟨v, hv, h'⟩ := bind_ok h'
    rw [setOpt_mid h.1, ok_bind, setOpt_mid h.1] at h'
    exact ⟨n, key, v, hn, hkey, hv, h.1, (Except.ok.inj h').symm⟩
  · rintro ⟨n, key, v, hn, hkey, hv, h, rfl⟩
    refine ⟨⟨h, by decide⟩, ?_⟩
    rw [sets_mid (K := []) h, ok_bind, hn, ok_bind, set_mid h, ok_bind, set_mid h, ok_bind, hkey, ok_bind, set_mid h, ok_bind, hv,
      ok_bind, setOpt_mid h, ok_bind, setOpt_mid h]
    rfl

/-- Every section of the written document with its final options, in the reverse of the order in which `serialize` creates them
(like `flatVs` and `imgFlat`); `[tree]` with `treeOptsFull` (`serTreeTops_adds`). -/
def docList (t : TreeInfo) (g : IniSec) : List (Str × IniSec) :=
  [(sGeneral, g)] ++ (optSec (mediaOn t.discnum t.totaldiscs) sMedia (mediaOpts t.discnum t.totaldiscs)
  ++ (optSec (stage2On t.mainimage t.instimage) sStage2 (stage2Opts t.mainimage t.instimage)
  ++ (imgFlat t.images
  ++ (optSec (!t.checksums.isEmpty) sChecksums (checksumOpts t.checksums)
  ++ (flatVs none t.variants
  ++ ([(sTree, treeOptsFull t)] ++ (baseL t ++ ([(sRelease, releaseOpts t.release t.isLayered)] ++ [(sHeader, headerOpts)]))))))))

/-- `d` was written for `t`: `n`, `key`, `chosen` are what the three look-ups of `[general]` returned, and `d` has the sections of
`docList`. -/
structure Written (t : TreeInfo) (mv : Option Str) (d : Ini) (n : Int) (key : Str) (chosen : Variant) : Prop where
  hn : t.tree.ts.toInt = .ok n
  hkey : chosenKey t.variants mv = .ok key
  hchosen : getItem (key.length + 1) t.variants key = .ok chosen
  look : ∀ s, d.lookup s = (docList t (generalOpts t n key chosen)).lookup s
  nodup : ((docList t (generalOpts t n key chosen)).map (·.1)).Nodup
  length : d.length = (docList t (generalOpts t n key chosen)).length
  names : (d.map (·.1)).Perm ((docList t (generalOpts t n key chosen)).map (·.1))
  layered : t.isLayered = true → t.baseProduct.isSome
  media : mediaOn t.discnum t.totaldiscs = true → t.discnum.isSome ∧ t.totaldiscs.isSome

/-- the `validate()` calls that succeeded when the tree was written -/
structure WriteValid (t : TreeInfo) : Prop where
  header : validateClass "treeinfo.Header" (headerObj t.headerVersion) = .ok ()
  release : validateClass "treeinfo.Release" (releaseObj t.release t.isLayered) = .ok ()
  base : t.isLayered = true → ∃ p, t.baseProduct = some p ∧ validateClass "treeinfo.BaseProduct" (productObj p) = .ok ()
  tree : validateClass "treeinfo.Tree" (treeObj t.tree) = .ok ()
  tops : validateClass "treeinfo.Variants" (variantsObj t.variants) = .ok ()
  forest : ValidVs none t.variants
  checksums : validateClass "treeinfo.Checksums" (checksumsObj t.checksums) = .ok ()
  images : t.images.isEmpty = false → validateClass "treeinfo.Images" (imagesObj t.images t.tree.platforms) = .ok ()
  stage2 : stage2On t.mainimage t.instimage = true → validateClass "treeinfo.Stage2" (stage2Obj t.mainimage t.instimage) = .ok ()
  media : mediaOn t.discnum t.totaldiscs = true → validateClass "treeinfo.Media" (mediaObj t.discnum t.totaldiscs) = .ok ()

theorem optSec_reverse (c : Bool) (s : Str) (o : IniSec) : (optSec c s o).reverse = optSec c s o := by cases c <;> rfl

theorem baseL_reverse (t : TreeInfo) : (baseL t).reverse = baseL t := by
  unfold baseL; cases t.isLayered <;> cases t.baseProduct <;> rfl

/-- the sections before `[general]`, in the order in which they are created -/
def docBody (t : TreeInfo) : Ini :=
  [(sHeader, headerOpts)] ++ ([(sRelease, releaseOpts t.release t.isLayered)] ++ (baseL t ++ ((sTree, treeOptsFull t) :: (flatVs none t.variants).reverse
    ++ (optSec (!t.checksums.isEmpty) sChecksums (checksumOpts t.checksums) ++ ((imgFlat t.images).reverse
    ++ (optSec (stage2On t.mainimage t.instimage) sStage2 (stage2Opts t.mainimage t.instimage)
    ++ optSec (mediaOn t.discnum t.totaldiscs) sMedia (mediaOpts t.discnum t.totaldiscs)))))))

theorem docList_reverse (t : TreeInfo) (g : IniSec) : (docList t g).reverse = docBody t ++ [(sGeneral, g)] := by
  simp [docList, docBody, optSec_reverse, baseL_reverse]

/-- everything `serialize` does before `[general]` -/
def serSections (t : TreeInfo) (d : Ini) : Except Err Ini := do
  let d ← serHeader t.headerVersion d
  let d ← serRelease t.release t.isLayered d
  let d ← serBaseIf t.isLayered t.baseProduct d
  let d ← serTree t.tree d
  let d ← serTops t.variants d
  let d ← serChecksums t.checksums d
  let d ← serImages t.images t.tree.platforms d
  let d ← serStage2 t.mainimage t.instimage d
  serMedia t.discnum t.totaldiscs d

theorem serSections_adds (t : TreeInfo) : Adds (serSections t) (WriteValid t ∧ (mediaOn t.discnum t.totaldiscs = true → t.discnum.isSome ∧ t.totaldiscs.isSome))
    (docBody t) := by
  -- the section writers in the order of `serSections`; their conditions, nested to the right, are the fields of `WriteValid`
  -- (`serTreeTops_adds` brings three of them, `serMedia_adds` asks for the two numbers as well)
  have chain :=
    (serHeader_adds t.headerVersion).seq <| (serRelease_adds t.release t.isLayered).seq <| (serBaseIf_adds t).seq <|
    (serTreeTops_adds t).seq <| (serChecksums_adds t.checksums).seq <| (serImages_adds t.images t.tree.platforms).seq <|
    (serStage2_adds t.mainimage t.instimage).seq (serMedia_adds t.discnum t.totaldiscs)
  refine chain.of_eq (fun d => by simp only [serSections, bind_assoc]) ⟨?_, ?_⟩ rfl
  · rintro ⟨w, m⟩
    exact ⟨w.header, w.release, w.base, ⟨w.tree, w.tops, w.forest⟩, w.checksums, w.images, w.stage2, fun h => ⟨w.media h, m h⟩⟩
  · rintro ⟨header, release, base, ⟨tree, tops, forest⟩, checksums, images, stage2, media⟩
    exact ⟨⟨header, release, base, tree, tops, forest, checksums, images, stage2, fun h => (media h).1⟩, fun h => (media h).2⟩

theorem serialize_iff (t : TreeInfo) (mv : Option Str) (d : Ini) : serialize t mv = .ok d ↔
    ∃ n key v, t.tree.ts.toInt = .ok n ∧ chosenKey t.variants mv = .ok key ∧ getItem (key.length + 1) t.variants key = .ok v ∧
      (WriteValid t ∧ (mediaOn t.discnum t.totaldiscs = true → t.discnum.isSome ∧ t.totaldiscs.isSome)) ∧
      Fresh [] ((docList t (generalOpts t n key v)).map (·.1)) ∧ d = (docList t (generalOpts t n key v)).reverse := by
  have e : serialize t mv = serSections t [] >>= serGeneral t mv := by
    unfold serialize serializeInto
    rw [closed_facts.treeinfo, ok_bind, ok_bind]
    simp only [serSections, bind_assoc]
  have rev : ∀ g, Fresh [] ((docList t g).map (·.1)) ↔ Fresh [] ((docList t g).reverse.map (·.1)) := fun g =>
    ⟨Fresh.of_perm ((List.reverse_perm _).map _), Fresh.of_perm ((List.reverse_perm _).map _).symm⟩
  rw [e, bind_ok_of (serSections_adds t []), List.nil_append]
  simp only [rev, serGeneral_iff, docList_reverse, List.map_append, Fresh.append, List.map_cons, List.map_nil, Fresh.singleton,
    List.nil_append]
  constructor
  · rintro ⟨⟨hv, hf⟩, n, key, v, hn, hkey, hv', hg, rfl⟩
    exact ⟨n, key, v, hn, hkey, hv', hv, ⟨hf, hg, by decide⟩, rfl⟩
  · rintro ⟨n, key, v, hn, hkey, hv', hv, ⟨hf, hg, _⟩, rfl⟩
    exact ⟨⟨hv, hf⟩, n, key, v, hn, hkey, hv', hg, rfl⟩

theorem serialize_ok {t : TreeInfo} {mv : Option Str} {d : Ini} (h : serialize t mv = .ok d) :
    (∃ n key chosen, Written t mv d n key chosen) ∧ WriteValid t := by
  obtain ⟨n, key, v, hn, hkey, hv, ⟨wv, hm⟩, hf, rfl⟩ := (serialize_iff t mv d).mp h
  have hnd : ((docList t (generalOpts t n key v)).map (·.1)).Nodup := (Fresh.empty.mp hf).1
  refine ⟨⟨n, key, v,
    { hn := hn, hkey := hkey, hchosen := hv, nodup := hnd, media := hm, look := ?_, length := ?_, names := ?_, layered := ?_ }⟩, wv⟩
  · intro s
    exact (Assoc.lookup_perm (List.reverse_perm _).symm hnd s).symm
  · exact List.length_reverse
  · exact (List.reverse_perm _).map _
  · intro hl
    obtain ⟨p, hp, _⟩ := wv.base hl
    rw [hp]
    rfl

theorem serialize_spec {t : TreeInfo} {mv : Option Str} {d : Ini} (h : serialize t mv = .ok d) :
    ∃ n key chosen, Written t mv d n key chosen := (serialize_ok h).1

theorem serialize_valid {t : TreeInfo} {mv : Option Str} {d : Ini} (h : serialize t mv = .ok d) : WriteValid t :=
  (serialize_ok h).2


theorem serVariant_valid : ∀ (v : Variant) (pu : Option Str) (d d' : Ini), serVariant pu d v = .ok d' → ValidV pu v :=
  fun v pu d d' h => ((serVariant_adds v pu d d').mp h).1.1

/-- the `validate()` calls the reader makes on the tree it has built (header, release and base product are read
back verbatim and need no separate hypothesis) -/
structure ReadValid (t : TreeInfo) : Prop where
  tree : validateClass "treeinfo.Tree" (treeObj t.tree) = .ok ()
  tops : validateClass "treeinfo.Variants" (variantsObj t.variants) = .ok ()
  forest : ValidVs none t.variants
  checksums : validateClass "treeinfo.Checksums" (checksumsObj t.checksums) = .ok ()
  images : validateClass "treeinfo.Images" (imagesObj t.images t.tree.platforms) = .ok ()
  stage2 : validateClass "treeinfo.Stage2" (stage2Obj t.mainimage t.instimage) = .ok ()
  media : validateClass "treeinfo.Media" (mediaObj t.discnum t.totaldiscs) = .ok ()

/-- what `customs` binds the five names to -/
structure CustomsBound : Prop where
  variantUid : customs nVariantUid = tiVariantUid
  variantKeys : customs nVariantKeys = validateVariantKeys
  checksumPaths : customs nChecksumPaths = tiChecksumPaths
  imagePaths : customs nImagePaths = tiImagePaths
  imagePlatforms : customs nImagePlatforms = tiImagePlatforms

theorem customs_bound : CustomsBound := by
  -- `customs n = f` is an equation between functions, which no evaluation decides; the position of the name `n` in `customTable` is
  -- decidable, and the entry at that position is `f` by `rfl` (`customs_eq_of_idxOf`, Proofs/RulesAgree)
  have h : (customTable.map (·.1)).idxOf nVariantUid = 8 ∧ (customTable.map (·.1)).idxOf nVariantKeys = 3 ∧
      (customTable.map (·.1)).idxOf nChecksumPaths = 5 ∧ (customTable.map (·.1)).idxOf nImagePaths = 6 ∧
      (customTable.map (·.1)).idxOf nImagePlatforms = 7 := by decide +kernel
  exact ⟨customs_eq_of_idxOf (by decide) h.1, customs_eq_of_idxOf (by decide) h.2.1, customs_eq_of_idxOf (by decide) h.2.2.1,
    customs_eq_of_idxOf (by decide) h.2.2.2.1, customs_eq_of_idxOf (by decide) h.2.2.2.2⟩

/-- what a loop of checks returns when `b` says that some element is refused -/
def verdict : Bool → Except Err Unit
  | true => .error .valueError
  | false => .ok ()

theorem foldl_verdict {α : Type} (step : Except Err Unit → α → Except Err Unit) (p : α → Bool)
    (hstep : ∀ x, step (.ok ()) x = verdict (p x)) (herr : ∀ e x, step (.error e) x = .error e) (l : List α) :
    ∀ acc : Except Err Unit, l.foldl step acc =
      match acc with
      | .error e => .error e
      | .ok () => verdict (l.any p) := by
  induction l with
  | nil => intro acc; cases acc <;> rfl
  | cons x rest ih =>
    intro acc
    rw [List.foldl_cons, ih]
    cases acc with
    | error e => rw [herr]
    | ok u =>
      cases u
      rw [hstep, List.any_cons]
      cases p x <;> rfl

/-- `pathStep` and `platStep` are the bodies of the inner and the outer fold of `tiImagePaths` (`Model/Customs.lean`, treeinfo
`Images._validate_image_paths`), named so that the folds can be computed (`pathFold`, `platFold`) -/
def pathStep (acc2 : Except Err Unit) (x : Str × PyVal) : Except Err Unit :=
  acc2.bind fun _ => match x.2 with
    | .str s => if Str.startsWith s ['/'] then .error .valueError else .ok ()
    | _ => .error .typeError

theorem pathFold (l : List (Str × Str)) :
    (l.map fun kv => (kv.1, PyVal.str kv.2)).foldl pathStep (.ok ()) = verdict (l.any (fun kv => Str.startsWith kv.2 ['/'])) := by
  rw [List.foldl_map]
  refine foldl_verdict _ _ (fun kv => ?_) (fun _ _ => rfl) l (.ok ())
  show (if Str.startsWith kv.2 ['/'] then Except.error Err.valueError else Except.ok ()) = _
  cases Str.startsWith kv.2 ['/'] <;> rfl

def platStep (acc : Except Err Unit) (x : Str × PyVal) : Except Err Unit :=
  acc.bind fun _ => match x.2 with
    | .dict kv => kv.foldl pathStep (.ok ())
    | _ => .error .attributeError

theorem platFold (images : List (Str × List (Str × Str))) :
    (images.map fun p => (p.1, PyVal.dict (p.2.map fun kv => (kv.1, PyVal.str kv.2)))).foldl platStep (.ok ()) =
      verdict (images.any (fun p => p.2.any fun kv => Str.startsWith kv.2 ['/'])) := by
  rw [List.foldl_map]
  exact foldl_verdict _ _ (fun p => pathFold p.2) (fun _ _ => rfl) images (.ok ())

theorem imagePaths_eq (images : List (Str × List (Str × Str))) (plats : List Str) :
    tiImagePaths (imagesObj images plats) = verdict (images.any (fun p => p.2.any fun kv => Str.startsWith kv.2 ['/'])) := by
  have e : (imagesObj images plats).get "images".toList
      = .dict (images.map fun p => (p.1, PyVal.dict (p.2.map fun kv => (kv.1, PyVal.str kv.2)))) := rfl
  unfold tiImagePaths
  rw [e]
  exact platFold images

theorem imagePlatforms_eq (images : List (Str × List (Str × Str))) (plats : List Str) :
    tiImagePlatforms (imagesObj images plats) =
      verdict (!images.all (fun p => plats.any fun q => p.1 == q)) := by
  have e1 : (imagesObj images plats).get "images".toList
      = .dict (images.map fun p => (p.1, PyVal.dict (p.2.map fun kv => (kv.1, PyVal.str kv.2)))) := rfl
  have e2 : (imagesObj images plats).get "tree.platforms".toList = .list (plats.map .str) := rfl
  unfold tiImagePlatforms
  rw [e1, e2]
  simp only [List.all_map, List.any_map, Function.comp_def, PyVal.pyEq_str]
  cases (images.all fun p => plats.any fun q => p.1 == q) <;> simp [verdict]

end TI
end PM
