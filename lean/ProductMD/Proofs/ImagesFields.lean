import ProductMD.Proofs.ImagesLoad
import ProductMD.Proofs.ImagesValid
import ProductMD.Proofs.RuleCongr
/-!
Field-level round trips: an image dictionary written by `Image.serialize` is read back as the same image by
`Image.deserialize` under the current format version; the compose section comes back normalised.
-/
namespace PM.Img
open PM PM.PyOps PM.Spec

theorem cur_vt : versionTuple (.str currentVersion) = .ok (.nums Gen.VERSION) := by decide +kernel
theorem cur_not_old_image : gateEval Gen.gate_images_Image_deserialize_0 (.nums Gen.VERSION) = .ok false := by decide +kernel
theorem cur_not_old_compose : gateEval Gen.gate_composeinfo_Compose_deserialize_0 (.nums Gen.VERSION) = .ok false := by decide +kernel
theorem cur_not_old_images : gateEval Gen.gate_images_Images_deserialize_0 (.nums Gen.VERSION) = .ok false := by decide +kernel
theorem cur_enforces : Enforces (.str currentVersion) := by unfold Enforces; decide +kernel
theorem cur_header_valid : headerValidate (.str currentVersion) = .ok () := by decide +kernel

theorem item_dict (kvs : List (Str × PyVal)) (k : Str) :
    item (.dict kvs) k = match (PyVal.dict kvs).get? k with | some v => .ok v | none => .error .keyError := by
  simp only [item, subscript, PyVal.get?]
  cases kvs.find? (·.1 == k) <;> rfl

theorem getD_dict (kvs : List (Str × PyVal)) (k : Str) (d : PyVal) :
    getD (.dict kvs) k d = .ok (((PyVal.dict kvs).get? k).getD d) := by
  simp only [getD, PyVal.get?]
  cases kvs.find? (·.1 == k) <;> rfl

theorem find_snoc_ne (kvs : List (Str × PyVal)) (x : Str × PyVal) (k : Str) (h : (x.1 == k) = false) :
    (kvs ++ [x]).find? (·.1 == k) = kvs.find? (·.1 == k) := by
  rw [List.find?_append]
  simp [List.find?, h]

theorem item_snoc_ne (kvs : List (Str × PyVal)) (x : Str × PyVal) (k : Str) (h : (x.1 == k) = false) :
    item (.dict (kvs ++ [x])) k = item (.dict kvs) k := by
  simp only [item, subscript, find_snoc_ne kvs x k h]

theorem getD_snoc_ne (kvs : List (Str × PyVal)) (x : Str × PyVal) (k : Str) (d : PyVal) (h : (x.1 == k) = false) :
    getD (.dict (kvs ++ [x])) k d = getD (.dict kvs) k d := by
  simp only [getD, find_snoc_ne kvs x k h]

theorem Image.deserialize_congr (ver : PyVal) {kvs kvs' : List (Str × PyVal)}
    (h : ∀ k, (PyVal.dict kvs).get? k = (PyVal.dict kvs').get? k) :
    Image.deserialize ver (.dict kvs) = Image.deserialize ver (.dict kvs') := by
  simp only [Image.deserialize, item_dict, getD_dict, h]

theorem image_roundtrip (i : Image) (hv : i.validate = .ok ()) :
    Image.deserialize (.str currentVersion) i.dict = .ok i := by
  obtain ⟨ht, ⟨n1, h1⟩, ⟨n2, h2⟩, ⟨n3, h3⟩, ⟨n4, h4⟩⟩ := valid_inv i hv
  obtain ⟨b, hb⟩ := ht.unified
  obtain ⟨bb, hbb⟩ := ht.bootable
  obtain ⟨l, hl⟩ := ht.additional_variants
  have hm := ht.merges
  cases i with
  | mk path mtime size volume_id type format arch disc_number disc_count checksums implant_md5 bootable subvariant unified additional_variants =>
    simp only at hb hbb hl h1 h2 h3 h4 hm
    subst hb hbb hl h1 h2 h3 h4
    have hl' : b = false → l = [] := by
      rintro rfl
      cases l with
      | nil => rfl
      | cons x xs => simp [PyVal.truthy] at hm
    -- every key is bound in the written dictionary; `unified` / `additional_variants` are absent, and read as their defaults,
    -- unless the image is unified.  All the reader has left to do is validate.  The two chains are the same term: the reads are
    -- evaluated (`rfl`) on a dictionary with 13 keys in the first case, 15 in the second.
    cases b
    · cases hl' rfl
      exact Returns.bind rfl <| Returns.bind rfl <| Returns.bind rfl <| Returns.bind rfl <| Returns.bind rfl <| Returns.bind rfl <|
        Returns.bind rfl <| Returns.bind rfl <| Returns.bind rfl <| Returns.bind rfl <| Returns.bind rfl <| Returns.bind rfl <|
        Returns.bind cur_vt <| Returns.bind cur_not_old_image <| Returns.ite_bind (a := subvariant) rfl <| Returns.bind rfl <|
        Returns.bind rfl <| Returns.validated_ok hv
    · exact Returns.bind rfl <| Returns.bind rfl <| Returns.bind rfl <| Returns.bind rfl <| Returns.bind rfl <| Returns.bind rfl <|
        Returns.bind rfl <| Returns.bind rfl <| Returns.bind rfl <| Returns.bind rfl <| Returns.bind rfl <| Returns.bind rfl <|
        Returns.bind cur_vt <| Returns.bind cur_not_old_image <| Returns.ite_bind (a := subvariant) rfl <| Returns.bind rfl <|
        Returns.bind rfl <| Returns.validated_ok hv

/-- the dictionary lacks `unified` / `additional_variants` unless the image is unified -/
theorem identity_obj_dict (i : Image) (h : i.validate = .ok ()) : identifyObj i = identifyDict i.dict := by
  rw [identifyObj_eq_spec]
  obtain ⟨b, hb⟩ := (typed_of_valid i h).unified
  have hm := (typed_of_valid i h).merges
  cases i with
  | mk path mtime size volume_id type format arch disc_number disc_count checksums implant_md5 bootable subvariant unified additional_variants =>
    simp only at hb hm
    subst hb
    cases b with
    | true => rfl
    | false =>
      change (additional_variants.truthy && !false) = false at hm
      simp only [Bool.not_false, Bool.and_true] at hm
      show [subvariant, type, format, arch, disc_number, pyOr (.bool false) (.bool false), pyOr additional_variants (.list [])] =
           [subvariant, type, format, arch, disc_number, pyOr .none (.bool false), pyOr .none (.list [])]
      simp only [pyOr, hm]
      rfl

theorem compose_validate_unfold (c : Compose) : c.validate = runRules customs c.toObj Gen.rules_composeinfo_Compose.flat :=
  Mf.validateCompose_eq c.toObj

theorem compose_shape (c : Compose) (h : c.validate = .ok ()) :
    (∃ s, c.id = .str s) ∧ (∃ s, c.type = .str s) ∧ (∃ s, c.date = .str s) ∧ (∃ n, c.respin = .int n)
    ∧ (c.label = .none ∨ ∃ ch s, c.label = .str (ch :: s)) ∧ (c.label.truthy = true → ∃ b, c.final = .bool b) := by
  have hv := h
  -- field names as character lists, as in `valid_inv`: the kernel has no string literal to decode
  have hmem : rulesSubset
      [.type ['i','d'] [.str], .value ['t','y','p','e'] Gen.COMPOSE_TYPES, .type ['d','a','t','e'] [.str], .type ['r','e','s','p','i','n'] [.int],
       .type ['l','a','b','e','l'] [.none, .str], .guarded (.truthy ['l','a','b','e','l']) (.type ['f','i','n','a','l'] [.bool])]
      Gen.rules_composeinfo_Compose.flat = true := by decide +kernel
  rw [compose_validate_unfold, runRules_ok_iff] at h
  have r := fun q hq => h q (rulesSubset_sound hmem q hq)
  simp only [List.forall_mem_cons] at r
  obtain ⟨h1, h2, h3, h4, h5, h6, -⟩ := r
  refine ⟨type_str h1, (Rule.check_value_iff.mp h2).imp fun _ => And.left, type_str h3, type_int_strict h4, ?_,
    fun ht => type_bool ((Rule.check_guarded_iff.mp h6).2 ht)⟩
  -- the label is None or a string by its type; the empty string is refused by `verify_label`
  rcases type_none_str h5 with hl | ⟨s, hl⟩
  · exact Or.inl hl
  · cases s with
    | cons ch s => exact Or.inr ⟨ch, s, hl⟩
    | nil => exact absurd hv (Mf.validateCompose_empty_label hl)

/-- `composeNorm` at most resets `final`: without a label `final` is not written -/
theorem composeNorm_of_valid (c : Compose) (h : c.validate = .ok ()) :
    composeNorm c = (if c.label.truthy then c else { c with final := .bool false }) ∧ (composeNorm c).validate = .ok () := by
  obtain ⟨-, -, -, -, hl, hf⟩ := compose_shape c h
  cases c with
  | mk id type date respin label final =>
    rcases hl with rfl | ⟨ch, s, rfl⟩
    · exact ⟨rfl, (Mf.validateCompose_setFinal _ _ _ _ _ final (.bool false) rfl).symm.trans h⟩
    · obtain ⟨b, rfl⟩ := hf rfl
      cases b <;> exact ⟨rfl, h⟩

theorem Compose.deserialize_congr (ver : PyVal) {p p' sec sec' : List (Str × PyVal)}
    (hp : (PyVal.dict p).get? (L "compose") = some (.dict sec)) (hp' : (PyVal.dict p').get? (L "compose") = some (.dict sec'))
    (h : ∀ k, (PyVal.dict sec).get? k = (PyVal.dict sec').get? k) :
    Compose.deserialize ver (.dict p) = Compose.deserialize ver (.dict p') := by
  simp only [Compose.deserialize, item_dict, hp, hp', bind, Except.bind, getD_dict, h]

theorem compose_roundtrip (c : Compose) (rest : PyVal) (d : PyVal) (h : c.serialize = .ok d) :
    Compose.deserialize (.str currentVersion) (.dict [(L "images", rest), (L "compose", d)]) = .ok (composeNorm c) := by
  unfold Compose.serialize at h
  obtain ⟨_, hv, h⟩ := bind_ok h
  cases Except.ok.inj h
  have hn := (composeNorm_of_valid c hv).2
  refine Returns.bind cur_vt <| Returns.bind cur_not_old_compose <| Returns.ite_neg Bool.false_ne_true <| Returns.bind rfl ?_
  cases c with
  | mk id type date respin label final =>
    unfold composeNorm at hn ⊢
    cases hl : label.truthy <;> simp only [hl, Bool.false_eq_true, ↓reduceIte] at hn ⊢
    · exact Returns.bind rfl <| Returns.bind rfl <| Returns.bind rfl <| Returns.bind rfl <| Returns.bind rfl <| Returns.bind rfl <|
        Returns.validated_ok hn
    · refine Returns.bind rfl <| Returns.bind rfl <| Returns.bind rfl <| Returns.bind rfl <| Returns.bind rfl <| Returns.bind rfl ?_
      dsimp only
      rw [show pyOr label .none = label by simp only [pyOr, hl, ↓reduceIte]]
      exact Returns.validated_ok hn

theorem compose_serialize_ok (c : Compose) (hc : c.validate = .ok ()) : ∃ cd, c.serialize = .ok cd :=
  ⟨_, Returns.validated_ok hc⟩

theorem composeNorm_idem (c : Compose) : composeNorm (composeNorm c) = composeNorm c := by
  have hn : PyVal.none.truthy = false := rfl
  have hb : ∀ b, (PyVal.bool b).truthy = b := fun _ => rfl
  unfold composeNorm
  cases hl : c.label.truthy
  · simp only [hn, Bool.false_eq_true, ↓reduceIte]
  · simp only [hl, hb, ↓reduceIte]

theorem compose_serialize_norm (c : Compose) (h : c.validate = .ok ()) : (composeNorm c).serialize = c.serialize := by
  obtain ⟨hn, hv⟩ := composeNorm_of_valid c h
  cases hl : c.label.truthy
  · rw [hn] at hv ⊢
    simp only [hl, Bool.false_eq_true, ↓reduceIte] at hv ⊢
    simp only [Compose.serialize, hv, h, hl, bind, Except.bind]
    rfl
  · rw [hn]; simp only [hl, ↓reduceIte]

end PM.Img
