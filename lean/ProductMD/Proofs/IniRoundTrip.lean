import ProductMD.Spec.TIWords
import ProductMD.Model.IniParse
import ProductMD.Proofs.C14Str
/-!
`parse (render d) = ok d` for every representable document: the reader model inverts the writer model (the models
themselves are validated differentially against CPython by `harness/ini_diff.py`).  The text is cut back into the lines it
was made of (`fileLines_render`); the reader's state is looked at through `finish`, as the document read so far, and
`Reads D ls D'` says what reading the lines `ls` does to that document: one lemma for each kind of line, one induction over
the options of a section, one over the sections (`parse_render_filter`, `parse_render`).
-/
namespace PM.IniParse

variable {sp : Char → Bool}

theorem lstrip_startsOk {s : Str} (h : StartsOk sp s) : lstrip sp s = s := by
  cases s with
  | nil => rfl
  | cons c t => simp [lstrip, h c t rfl]

theorem rstrip_endsOk {s : Str} (h : EndsOk sp s) : rstrip sp s = s := by
  unfold rstrip
  have : StartsOk sp s.reverse := by
    intro c t hct
    have : s = t.reverse ++ [c] := by
      have := congrArg List.reverse hct
      simpa using this
    exact h _ _ this
  rw [lstrip_startsOk this, List.reverse_reverse]

theorem rstrip_snoc_blank (s : Str) (c : Char) (h : sp c = true) : rstrip sp (s ++ [c]) = rstrip sp s := by
  simp [rstrip, lstrip, h]

theorem strip_ok {s : Str} (h1 : StartsOk sp s) (h2 : EndsOk sp s) : strip sp s = s := by
  unfold strip; rw [lstrip_startsOk h1, rstrip_endsOk h2]

theorem endsOk_nil : EndsOk sp [] := by
  intro i c h; simp at h

theorem startsOk_nil : StartsOk sp [] := by
  intro c t h; cases h

theorem startsOk_cons {c : Char} (h : sp c = false) (t : Str) : StartsOk sp (c :: t) := by
  intro c' t' e
  injection e with e1 _
  rw [← e1]; exact h

theorem endsOk_concat {c : Char} (h : sp c = false) (a : Str) : EndsOk sp (a ++ [c]) := by
  intro i c' e
  injection (List.append_inj' e rfl).2 with e1 _
  rw [← e1]; exact h

theorem endsOk_append_of_ne {a b : Str} (hb : b ≠ []) (h : EndsOk sp b) : EndsOk sp (a ++ b) := by
  rcases List.eq_nil_or_concat b with hnil | ⟨b', x, rfl⟩
  · exact absurd hnil hb
  · rw [List.concat_eq_append, ← List.append_assoc]
    exact endsOk_concat (h b' x (List.concat_eq_append ..)) _

theorem startsOk_append_of_ne {a b : Str} (ha : a ≠ []) (h : StartsOk sp a) : StartsOk sp (a ++ b) := by
  intro c t hct
  cases a with
  | nil => exact absurd rfl ha
  | cons x xs =>
    simp only [List.cons_append, List.cons.injEq] at hct
    obtain ⟨rfl, _⟩ := hct
    exact h _ _ rfl

theorem indentOf_startsOk {s : Str} (h : StartsOk sp s) : indentOf sp s = 0 := by
  cases s with
  | nil => rfl
  | cons c t => simp [indentOf, h c t rfl]

def optLine (kv : Str × Str) : Str := kv.1 ++ ' ' :: '=' :: ' ' :: kv.2
def secLines (s : Str × List (Str × Str)) : List Str := ('[' :: s.1 ++ [']']) :: s.2.map optLine ++ [[]]
def linesOf (d : Doc) : List Str := d.flatMap secLines

theorem flatMap_no_nl (v : Str) (h : '\n' ∉ v) :
    v.flatMap (fun c => if c == '\n' then ['\n', '\t'] else [c]) = v := by
  induction v with
  | nil => rfl
  | cons c cs ih =>
    have hc : (c == '\n') = false := by
      cases hb : c == '\n' with
      | false => rfl
      | true => exact absurd (by simp [beq_iff_eq.mp hb]) h
    have hcs : '\n' ∉ cs := by intro hcs; exact h (by simp [hcs])
    rw [List.flatMap_cons, ih hcs]
    simp only [hc, Bool.false_eq_true, if_false, List.cons_append, List.nil_append]

theorem renderOption_eq (kv : Str × Str) (h : '\n' ∉ kv.2) : renderOption kv = optLine kv ++ ['\n'] := by
  simp only [renderOption, optLine, flatMap_no_nl kv.2 h]
  simp

theorem optLine_no_nl (kv : Str × Str) (hk : '\n' ∉ kv.1) (hv : '\n' ∉ kv.2) : '\n' ∉ optLine kv := by
  simp only [optLine, List.mem_append, List.mem_cons]
  rintro (h | h | h | h | h)
  · exact hk h
  · cases h
  · cases h
  · cases h
  · exact hv h

theorem fileLines_lines (ls : List Str) (h : ∀ l ∈ ls, '\n' ∉ l) : fileLines (ls.flatMap (· ++ ['\n'])) = ls := by
  have : Str.splitOn '\n' (ls.flatMap (· ++ ['\n'])) = ls ++ [[]] := by
    induction ls with
    | nil => rfl
    | cons l ls ih =>
      rw [List.flatMap_cons, List.append_assoc, List.singleton_append, C14.splitOn_append_sep _ (h l List.mem_cons_self),
        ih fun x hx => h x (List.mem_cons_of_mem _ hx), List.cons_append]
  simp [fileLines, this]

theorem render_eq_lines (d : Doc) (h : ∀ s ∈ d, ∀ kv ∈ s.2, '\n' ∉ kv.2) :
    render d = (linesOf d).flatMap (· ++ ['\n']) := by
  induction d with
  | nil => rfl
  | cons s ss ih =>
    have hopts : ∀ opts : List (Str × Str), (∀ kv ∈ opts, '\n' ∉ kv.2) →
        opts.flatMap renderOption = (opts.map optLine).flatMap (· ++ ['\n']) := by
      intro opts ho
      induction opts with
      | nil => rfl
      | cons kv kvs ih =>
        rw [List.flatMap_cons, renderOption_eq kv (ho kv List.mem_cons_self), ih fun x hx => ho x (List.mem_cons_of_mem _ hx)]
        rfl
    rw [render, List.flatMap_cons, ← render, ih fun x hx => h x (List.mem_cons_of_mem _ hx), renderSection,
      hopts s.2 (h s List.mem_cons_self)]
    simp [linesOf, secLines]

theorem fileLines_render (d : Doc) (h : NoNewlines d) : fileLines (render d) = linesOf d := by
  rw [render_eq_lines d fun s hs kv hkv => ((h s hs).2 kv hkv).2]
  apply fileLines_lines
  intro l hl
  obtain ⟨s, hs, hl⟩ := List.mem_flatMap.mp hl
  simp only [secLines, List.mem_cons, List.mem_append, List.mem_map, List.mem_nil_iff, or_false] at hl
  rcases hl with (rfl | ⟨kv, hkv, rfl⟩) | rfl
  · simpa using (h s hs).1
  · exact optLine_no_nl kv ((h s hs).2 kv hkv).1 ((h s hs).2 kv hkv).2
  · exact List.not_mem_nil

theorem breakDelim_append (a : Str) (c : Char) (t : Str) (ha : ∀ x ∈ a, isDelim x = false)
    (hc : isDelim c = true) : breakDelim (a ++ c :: t) = some (a, t) := by
  induction a with
  | nil => simp [breakDelim, hc]
  | cons x xs ih =>
    have hx := ha x (by simp)
    simp [breakDelim, hx, ih (fun y hy => ha y (by simp [hy]))]

theorem lastBracket_snoc (a : Str) : lastBracket (a ++ [']']) = some a.length := by
  induction a with
  | nil => simp [lastBracket]
  | cons c cs ih => simp [lastBracket, ih]

theorem addOption_snoc (pre : List RawSec) (n : Str) (o : List (Str × List Str)) (k v : Str) :
    addOption (pre ++ [(n, o)]) k v = pre ++ [(n, o ++ [(k, [v])])] := by
  simp [addOption]

theorem lastKeys_snoc (pre : List RawSec) (n : Str) (o : List (Str × List Str)) :
    lastKeys (pre ++ [(n, o)]) = o.map (·.1) := by
  simp [lastKeys]

theorem appendToLast_snoc (pre : List RawSec) (n : Str) (o : List (Str × List Str)) (k : Str) (ls : List Str)
    (ln : Str) : appendToLast (pre ++ [(n, o ++ [(k, ls)])]) ln = pre ++ [(n, o ++ [(k, ls ++ [ln])])] := by
  simp [appendToLast]

/-- a line the reader treats as a full-line comment -/
def commentLine (sp : Char → Bool) (l : Str) : Bool :=
  match strip sp l with
  | c :: _ => c == '#' || c == ';'
  | [] => false

theorem step_comment (st : St) (l : Str) (h : commentLine sp l = true) : step sp st l = .ok st := by
  unfold commentLine at h
  unfold step
  cases hv : strip sp l with
  | nil => rw [hv] at h; simp at h
  | cons c t =>
    rw [hv] at h
    simp only at h
    simp [h]

theorem step_blank (st : St) : ∃ secs, step sp st [] = .ok { st with secs := secs } ∧
    (secs = st.secs ∨ secs = appendToLast st.secs []) := by
  cases hb : (!st.secs.isEmpty && st.hasOpt)
  · exact ⟨st.secs, by simp [step, strip, rstrip, lstrip, hb], .inl rfl⟩
  · exact ⟨appendToLast st.secs [], by simp [step, strip, rstrip, lstrip, hb], .inr rfl⟩

section
variable (hsp : SpOK sp)
include hsp

/-- No written line is indented, so neither the flag nor the indentation of the state matters. -/
theorem step_header (st : St) (n : Str) (hn : NameOk n) (hfresh : n ∉ st.secs.map (·.1)) :
    step sp st ('[' :: n ++ [']']) = .ok { secs := st.secs ++ [(n, [])], hasOpt := false, indent := 0 } := by
  have hany : st.secs.any (·.1 == n) = false := by
    rw [List.any_eq_false]
    intro x hx e
    exact hfresh (List.mem_map.mpr ⟨x, hx, beq_iff_eq.mp e⟩)
  have hstart : StartsOk sp ('[' :: n ++ [']']) := startsOk_cons hsp.lb _
  have hend : EndsOk sp ('[' :: n ++ [']']) := endsOk_concat hsp.rb _
  have hstrip : strip sp ('[' :: n ++ [']']) = '[' :: n ++ [']'] := strip_ok hstart hend
  have hind : indentOf sp ('[' :: n ++ [']']) = 0 := indentOf_startsOk hstart
  obtain ⟨j, hj⟩ : ∃ j, n.length = j + 1 := by
    cases n with
    | nil => exact absurd rfl hn.1
    | cons c cs => exact ⟨cs.length, by simp⟩
  have hhead : sectionHeader ('[' :: n ++ [']']) = some n := by
    simp only [List.cons_append, sectionHeader, lastBracket_snoc, hj]
    rw [← hj]; simp
  have hdef' : ¬ n = ['D', 'E', 'F', 'A', 'U', 'L', 'T'] := hn.2.2
  simp only [step, hstrip, hind, hhead]
  simp [hany, hdef']

theorem step_option (st : St) (pre : List RawSec) (n : Str) (o : List (Str × List Str)) (k v : Str)
    (hst : st.secs = pre ++ [(n, o)]) (hk : KeyOk sp k) (hv : ValOk sp v) (hfresh : k ∉ o.map (·.1)) :
    step sp st (optLine (k, v)) = .ok { secs := pre ++ [(n, o ++ [(k, [v])])], hasOpt := true, indent := 0 } := by
  obtain ⟨hkne, _, hkd, hks, hke, hkh⟩ := hk
  obtain ⟨_, hvs, hve⟩ := hv
  obtain ⟨c, t, rfl⟩ : ∃ c t, k = c :: t := by
    cases k with
    | nil => exact absurd rfl hkne
    | cons c t => exact ⟨c, t, rfl⟩
  have hc := hkh c t rfl
  have hcsp : sp c = false := hks c t rfl
  have hstart : StartsOk sp (optLine (c :: t, v)) := startsOk_cons hcsp _
  have hind : indentOf sp (optLine (c :: t, v)) = 0 := indentOf_startsOk hstart
  have hbreak : ∀ tail, breakDelim ((c :: t) ++ ' ' :: '=' :: tail) = some ((c :: t) ++ [' '], tail) := by
    intro tail
    have := breakDelim_append ((c :: t) ++ [' ']) '=' tail
      (by intro x hx
          rcases List.mem_append.mp hx with hx | hx
          · exact hkd x hx
          · simp at hx; subst hx; rfl) rfl
    simpa using this
  have hrk : rstrip sp ((c :: t) ++ [' ']) = c :: t := by
    rw [rstrip_snoc_blank _ _ hsp.space, rstrip_endsOk hke]
  have hnc : (c == '#' || c == ';') = false := by
    simp [hc.1, hc.2.1]
  have hnb : ∀ rest, sectionHeader (c :: rest) = none := by
    intro rest
    unfold sectionHeader
    split
    · rename_i heq; simp only [List.cons.injEq] at heq; exact absurd heq.1 hc.2.2
    · rfl
  -- the stripped line: `k =` for an empty value (the blank after `=` goes), the line itself otherwise
  obtain ⟨tail, hstrip, htail⟩ : ∃ tail, strip sp (optLine (c :: t, v)) = (c :: t) ++ ' ' :: '=' :: tail ∧ strip sp tail = v := by
    by_cases hvnil : v = []
    · subst hvnil
      refine ⟨[], ?_, by simp [strip, rstrip, lstrip]⟩
      have e : optLine (c :: t, []) = (((c :: t) ++ [' ']) ++ ['=']) ++ [' '] := by simp [optLine]
      unfold strip
      rw [lstrip_startsOk hstart, e, rstrip_snoc_blank _ _ hsp.space, rstrip_endsOk (endsOk_concat hsp.eq _)]
      simp
    · refine ⟨' ' :: v, ?_, ?_⟩
      · have : optLine (c :: t, v) = ((c :: t) ++ [' ', '=', ' ']) ++ v := by simp [optLine]
        exact strip_ok hstart (this ▸ endsOk_append_of_ne hvnil hve)
      · unfold strip
        simp only [lstrip, hsp.space, if_true]
        rw [lstrip_startsOk hvs, rstrip_endsOk hve]
  have hsplit : splitOption sp ((c :: t) ++ ' ' :: '=' :: tail) = some (c :: t, v) := by
    simp only [splitOption, hbreak tail, Option.map_some, hrk, htail]
  simp only [step, hstrip, hind, hst]
  simp only [List.cons_append] at hsplit ⊢
  simp [hnc, hnb, hsplit, lastKeys_snoc, addOption_snoc]
  intro x hx; exact hfresh (List.mem_map.mpr ⟨(c :: t, x), hx, rfl⟩)

end

/-! The raw state keeps every value as its list of physical lines, so the blank line that ends a section is appended to the
last value of that section, if there is one; `finish` (`'\n'.join(lines).rstrip()`) drops it again.  Seen through `finish`
a blank line changes nothing, a header adds an empty section and an option line adds an option to the last section. -/

/-- the document the reader returns if the text ends in state `st` -/
def St.doc (sp : Char → Bool) (st : St) : Doc := finish sp st.secs

theorem finish_names (secs : List RawSec) : (finish sp secs).map (·.1) = secs.map (·.1) := by
  simp [finish]

theorem finish_eq_snoc {secs : List RawSec} {D : Doc} {n : Str} {o : List (Str × Str)}
    (h : finish sp secs = D ++ [(n, o)]) :
    ∃ pre ro, secs = pre ++ [(n, ro)] ∧ finish sp pre = D ∧ ro.map (fun x => (x.1, joinValue sp x.2)) = o := by
  obtain ⟨pre, l, rfl, h1, h2⟩ := List.map_eq_append_iff.mp h
  obtain ⟨⟨n', ro⟩, rfl, h3⟩ := List.map_eq_singleton_iff.mp h2
  injection h3 with h3 h4
  subst h3
  exact ⟨pre, ro, rfl, h1, h4⟩

theorem joinValue_single {v : Str} (h : EndsOk sp v) : joinValue sp [v] = v := by
  simp [joinValue, Str.joinWith, rstrip_endsOk h]

theorem joinValue_snoc_nil (hnl : sp '\n' = true) : ∀ ls : List Str, joinValue sp (ls ++ [[]]) = joinValue sp ls
  | [] => rfl
  | x :: r => by rw [joinValue, C14.joinWith_concat, rstrip_snoc_blank _ _ hnl, joinValue]

theorem finish_appendToLast_nil (hnl : sp '\n' = true) (secs : List RawSec) :
    finish sp (appendToLast secs []) = finish sp secs := by
  rcases List.eq_nil_or_concat secs with rfl | ⟨pre, ⟨n, o⟩, rfl⟩
  · rfl
  · rcases List.eq_nil_or_concat o with rfl | ⟨o', ⟨k, ls⟩, rfl⟩
    · simp [appendToLast]
    · simp only [List.concat_eq_append, appendToLast_snoc]
      simp [finish, joinValue_snoc_nil hnl]

/-- From any state that stands for `D`, the lines `ls` are read without error and lead to a state that stands for `D'`. -/
def Reads (sp : Char → Bool) (D : Doc) (ls : List Str) (D' : Doc) : Prop :=
  ∀ st : St, st.doc sp = D → ∃ st', steps sp st ls = .ok st' ∧ st'.doc sp = D'

theorem Reads.nil (D : Doc) : Reads sp D [] D := fun st h => ⟨st, rfl, h⟩

theorem Reads.cons {D D' D'' : Doc} {l : Str} {ls : List Str}
    (h1 : ∀ st : St, st.doc sp = D → ∃ st', step sp st l = .ok st' ∧ st'.doc sp = D') (h2 : Reads sp D' ls D'') :
    Reads sp D (l :: ls) D'' := by
  intro st h
  obtain ⟨st1, e1, d1⟩ := h1 st h
  obtain ⟨st2, e2, d2⟩ := h2 st1 d1
  exact ⟨st2, by rw [steps, e1]; exact e2, d2⟩

theorem parse_of_reads {text : Str} {D : Doc} (h : Reads sp [] (fileLines text) D) : parse sp text = .ok D := by
  obtain ⟨st, e, d⟩ := h {} rfl
  rw [parse, e, ← d]
  rfl

theorem reads_comment {D : Doc} {ls : List Str} {D' : Doc} (l : Str) (hl : commentLine sp l = true)
    (h : Reads sp D ls D') : Reads sp D (l :: ls) D' :=
  Reads.cons (fun st hst => ⟨st, step_comment st l hl, hst⟩) h

variable (hsp : SpOK sp)
include hsp

theorem reads_blank {D : Doc} {ls : List Str} {D' : Doc} (h : Reads sp D ls D') : Reads sp D ([] :: ls) D' := by
  refine Reads.cons (fun st hst => ?_) h
  obtain ⟨secs, e, rfl | rfl⟩ := step_blank (sp := sp) st
  · exact ⟨_, e, hst⟩
  · exact ⟨_, e, (finish_appendToLast_nil hsp.nl st.secs).trans hst⟩

theorem reads_header {D : Doc} {ls : List Str} {D' : Doc} (n : Str) (hn : NameOk n) (hfresh : n ∉ D.map (·.1))
    (h : Reads sp (D ++ [(n, [])]) ls D') : Reads sp D (('[' :: n ++ [']']) :: ls) D' := by
  refine Reads.cons (fun st hst => ⟨_, step_header hsp st n hn ?_, ?_⟩) h
  · rwa [← hst, St.doc, finish_names] at hfresh
  · simp only [St.doc, finish, List.map_append, List.map_cons, List.map_nil] at hst ⊢
    rw [hst]

theorem reads_option {D : Doc} {n : Str} {o : List (Str × Str)} {ls : List Str} {D' : Doc} (k v : Str)
    (hk : KeyOk sp k) (hv : ValOk sp v) (hfresh : k ∉ o.map (·.1))
    (h : Reads sp (D ++ [(n, o ++ [(k, v)])]) ls D') : Reads sp (D ++ [(n, o)]) (optLine (k, v) :: ls) D' := by
  refine Reads.cons (fun st hst => ?_) h
  obtain ⟨pre, ro, hsecs, rfl, rfl⟩ := finish_eq_snoc hst
  refine ⟨_, step_option hsp st pre n ro k v hsecs hk hv (by simpa using hfresh), ?_⟩
  simp [St.doc, finish, joinValue_single hv.2.2]

theorem reads_options (keep : Str × Str → Bool) {D : Doc} {n : Str} {ls : List Str} {D' : Doc} :
    ∀ (opts o : List (Str × Str)), (∀ kv ∈ opts, keep kv = false → commentLine sp (optLine kv) = true) →
      (∀ kv ∈ opts.filter keep, KeyOk sp kv.1 ∧ ValOk sp kv.2) → ((o ++ opts.filter keep).map (·.1)).Nodup →
      Reads sp (D ++ [(n, o ++ opts.filter keep)]) ls D' → Reads sp (D ++ [(n, o)]) (opts.map optLine ++ ls) D'
  | [], o, _, _, _, h => by simpa using h
  | kv :: kvs, o, hc, hok, hnd, h => by
    have hc' := fun x hx => hc x (List.mem_cons_of_mem _ hx)
    cases hkeep : keep kv
    · rw [List.filter_cons_of_neg (by simp [hkeep])] at hok hnd h
      exact reads_comment _ (hc kv List.mem_cons_self hkeep) (reads_options keep kvs o hc' hok hnd h)
    · rw [List.filter_cons_of_pos hkeep] at hok hnd h
      have hkv := hok kv List.mem_cons_self
      have hfresh : kv.1 ∉ o.map (·.1) := fun hm =>
        (List.nodup_append.mp (by simpa using hnd)).2.2 _ hm _ List.mem_cons_self rfl
      rw [List.append_cons o kv] at hnd h
      exact reads_option hsp kv.1 kv.2 hkv.1 hkv.2 hfresh
        (reads_options keep kvs (o ++ [kv]) hc' (fun x hx => hok x (List.mem_cons_of_mem _ hx)) hnd h)

theorem reads_section (keep : Str × Str → Bool) {D : Doc} {ls : List Str} {D' : Doc} (s : Str × List (Str × Str))
    (hc : ∀ kv ∈ s.2, keep kv = false → commentLine sp (optLine kv) = true) (hs : SecOk sp (s.1, s.2.filter keep))
    (hfresh : s.1 ∉ D.map (·.1)) (h : Reads sp (D ++ [(s.1, s.2.filter keep)]) ls D') :
    Reads sp D (secLines s ++ ls) D' := by
  show Reads sp D (('[' :: s.1 ++ [']']) :: ((s.2.map optLine ++ [[]]) ++ ls)) D'
  rw [List.append_assoc]
  exact reads_header hsp s.1 hs.1 hfresh (reads_options hsp keep s.2 [] hc hs.2.1 hs.2.2 (reads_blank hsp h))

theorem reads_doc (keep : Str × Str → Bool) : ∀ (d : Doc) (D : Doc),
    (∀ s ∈ d, ∀ kv ∈ s.2, keep kv = false → commentLine sp (optLine kv) = true) →
    (∀ s ∈ d, SecOk sp (s.1, s.2.filter keep)) → ((D ++ d).map (·.1)).Nodup →
    Reads sp D (linesOf d) (D ++ d.map fun s => (s.1, s.2.filter keep))
  | [], D, _, _, _ => by simpa [linesOf] using Reads.nil D
  | s :: ss, D, hc, hok, hnd => by
    have hfresh : s.1 ∉ D.map (·.1) := fun hm =>
      (List.nodup_append.mp (by simpa using hnd)).2.2 _ hm _ List.mem_cons_self rfl
    rw [List.append_cons] at hnd
    have ih := reads_doc keep ss (D ++ [(s.1, s.2.filter keep)]) (fun x hx => hc x (List.mem_cons_of_mem _ hx))
      (fun x hx => hok x (List.mem_cons_of_mem _ hx)) (by simpa using hnd)
    rw [List.map_cons, List.append_cons]
    exact reads_section hsp keep s (hc s List.mem_cons_self) (hok s List.mem_cons_self) hfresh ih

/-- **The reader inverts the writer, comment lines apart**: of a document whose options are either representable (`keep`)
or written as comment lines, the reader returns the representable part. -/
theorem parse_render_filter (keep : Str × Str → Bool) (d : Doc) (hnl : NoNewlines d)
    (hc : ∀ s ∈ d, ∀ kv ∈ s.2, keep kv = false → commentLine sp (optLine kv) = true)
    (hrep : Representable sp (d.map fun s => (s.1, s.2.filter keep))) :
    parse sp (render d) = .ok (d.map fun s => (s.1, s.2.filter keep)) := by
  apply parse_of_reads
  rw [fileLines_render d hnl]
  have := reads_doc hsp keep d [] hc (fun s hs => hrep.1 _ (List.mem_map_of_mem hs))
    (by simpa [List.map_map, Function.comp_def] using hrep.2)
  simpa using this

theorem parse_render (d : Doc) (hd : Representable sp d) : parse sp (render d) = .ok d := by
  have h := parse_render_filter hsp (fun _ => true) d
    (fun s hs => ⟨(hd.1 s hs).1.2.1, fun kv hkv => ⟨((hd.1 s hs).2.1 kv hkv).1.2.1, ((hd.1 s hs).2.1 kv hkv).2.1⟩⟩)
    (fun _ _ _ _ h => by cases h)
  have e : (fun s : Str × List (Str × Str) => (s.1, s.2.filter fun _ => true)) = id := funext fun s => by cases s; simp
  rw [e, List.map_id] at h
  exact h hd

end PM.IniParse
