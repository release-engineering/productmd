import ProductMD.Model.Str
/-! `Str.sortDedup`, the model of `sorted(set(l))`: the result is strictly increasing, has exactly the members of `l`, and so depends
only on the set of members. -/
namespace PM.Str

theorem lt_of_not_lt_ne {a b : Str} (h : ¬ a < b) (h2 : a ≠ b) : b < a :=
  Std.lt_of_le_of_ne (List.not_lt.mp h) (Ne.symm h2)

theorem nodup_of_sorted {l : List Str} (h : l.Pairwise (· < ·)) : l.Nodup :=
  h.imp (fun hab e => by subst e; exact List.lt_irrefl _ hab)

theorem sorted_ext {l₁ l₂ : List Str} (h₁ : l₁.Pairwise (· < ·)) (h₂ : l₂.Pairwise (· < ·)) (h : ∀ x, x ∈ l₁ ↔ x ∈ l₂) :
    l₁ = l₂ :=
  List.Perm.eq_of_pairwise (le := (· < ·)) (fun _ _ _ _ hab hba => absurd hba (List.lt_asymm hab)) h₁ h₂
    ((List.perm_ext_iff_of_nodup (nodup_of_sorted h₁) (nodup_of_sorted h₂)).mpr h)

theorem mem_insertSorted {x y : Str} {l : List Str} : y ∈ insertSorted x l ↔ y = x ∨ y ∈ l := by
  induction l with
  | nil => simp [insertSorted]
  | cons a as ih =>
    simp only [insertSorted]
    split
    · rename_i h; subst h; simp
    · split
      · simp
      · simp only [List.mem_cons, ih]; exact or_left_comm

theorem insertSorted_sorted {x : Str} {l : List Str} (h : l.Pairwise (· < ·)) : (insertSorted x l).Pairwise (· < ·) := by
  induction l with
  | nil => simp [insertSorted]
  | cons a as ih =>
    have ⟨ha, hs⟩ := List.pairwise_cons.mp h
    simp only [insertSorted, Str.lt, decide_eq_true_eq]
    split
    · exact h
    · rename_i hne
      split
      · rename_i hlt
        exact List.pairwise_cons.mpr ⟨fun b hb => by
          rcases List.mem_cons.mp hb with rfl | hb
          · exact hlt
          · exact List.lt_trans hlt (ha b hb), h⟩
      · rename_i hnlt
        exact List.pairwise_cons.mpr ⟨fun b hb => by
          rcases mem_insertSorted.mp hb with rfl | hb
          · exact lt_of_not_lt_ne hnlt hne
          · exact ha b hb, ih hs⟩

theorem sortDedup_cons (x : Str) (xs : List Str) : sortDedup (x :: xs) = insertSorted x (sortDedup xs) := rfl

theorem mem_sortDedup {y : Str} {l : List Str} : y ∈ sortDedup l ↔ y ∈ l := by
  induction l with
  | nil => simp [sortDedup]
  | cons a as ih => rw [sortDedup_cons, mem_insertSorted, ih, List.mem_cons]

theorem sortDedup_sorted : ∀ l : List Str, (sortDedup l).Pairwise (· < ·)
  | [] => List.Pairwise.nil
  | _ :: xs => insertSorted_sorted (sortDedup_sorted xs)

theorem sortDedup_congr {l₁ l₂ : List Str} (h : ∀ x, x ∈ l₁ ↔ x ∈ l₂) : sortDedup l₁ = sortDedup l₂ :=
  sorted_ext (sortDedup_sorted _) (sortDedup_sorted _) (fun x => by rw [mem_sortDedup, mem_sortDedup]; exact h x)

theorem sortDedup_of_sorted {l : List Str} (h : l.Pairwise (· < ·)) : sortDedup l = l :=
  sorted_ext (sortDedup_sorted _) h (fun _ => mem_sortDedup)

theorem sortDedup_idem (l : List Str) : sortDedup (sortDedup l) = sortDedup l :=
  sortDedup_of_sorted (sortDedup_sorted l)

theorem sortDedup_nodup (l : List Str) : (sortDedup l).Nodup := nodup_of_sorted (sortDedup_sorted l)

theorem sortDedup_perm {l l' : List Str} (h : l.Perm l') : sortDedup l = sortDedup l' :=
  sortDedup_congr (fun _ => h.mem_iff)

theorem sortDedup_idem_append (l : List Str) (a : Str) (ha : a ∈ l) : sortDedup (sortDedup l ++ [a]) = sortDedup l :=
  sortDedup_congr fun x => by
    simp only [List.mem_append, mem_sortDedup, List.mem_singleton]
    exact or_iff_left_of_imp (fun h => h ▸ ha)

end PM.Str
