import ProductMD.Proofs.C05TreeInfo
import ProductMD.Proofs.TreeInfoReadback
import ProductMD.Model.TreeInfoDown
/-!
C05, treeinfo down-conversion: what `TI.down` does to the lookups and the section names of the written file; the legacy-aware
forest reader of a version above 0.3 is the current one, which sees a file only through its lookups; `legacy_of_sections`: the
legacy-aware reader on a file `d'` that agrees with a file `d` the current reader accepts on the sections every format above 0.0
reads alike (the fix-ups of 0.0 off) returns the same object once its release and forest readers return the release and the
forest of `d`.  The formats above 0.3 need no more than that; `Proofs/C05TIDownOld.lean` adds the two readers of ≤ 0.3.
-/
namespace PM.TI
open Ini

theorem isVarSec_headAV {s : Str} (h : isVarSec s = true) : headAV s := by
  unfold isVarSec Str.startsWith at h
  rw [pVariant_eq, pAddon_eq] at h
  cases s with
  | nil => simp [List.isPrefixOf] at h
  | cons c cs =>
    simp only [List.isPrefixOf, Bool.or_eq_true, Bool.and_eq_true, beq_iff_eq] at h
    rcases h with h | h
    · right; simp [h.1.symm]
    · left; simp [h.1.symm]

theorem isVarSec_variant (u : Str) : isVarSec (pVariant ++ u) = true := by
  have : pVariant.isPrefixOf (pVariant ++ u) = true := List.isPrefixOf_iff_prefix.mpr ⟨u, rfl⟩
  simp [isVarSec, Str.startsWith, this]

theorem isVarSec_addon (u : Str) : isVarSec (pAddon ++ u) = true := by
  have : pAddon.isPrefixOf (pAddon ++ u) = true := List.isPrefixOf_iff_prefix.mpr ⟨u, rfl⟩
  simp [isVarSec, Str.startsWith, this]

theorem isVarSec_secName (type uid : Str) : isVarSec (secName type uid) = true := by
  unfold secName
  split
  · exact isVarSec_addon uid
  · exact isVarSec_variant uid

theorem not_headAV_of {s : Str} {c : Char} (h : s.head? = some c) (h1 : c ≠ 'a') (h2 : c ≠ 'v') : ¬ headAV s := by
  intro hh
  rcases hh with hh | hh <;> rw [h] at hh <;> injection hh with hh
  · exact h1 hh
  · exact h2 hh

section converted
variable (D : TDown) (vs : Str) (src : Bool) (ck : Str)

/-- the section names: `release` renamed for ≤ 0.3, nothing else -/
def renameSec (D : TDown) (s : Str) : Str := if D.old && s == sRelease then sProduct' else s

theorem downSec_fst (p : Str × IniSec) : (downSec D vs src ck p).1 = renameSec D p.1 := by
  have hne : sRelease ≠ sHeader := by decide
  unfold downSec renameSec
  by_cases e1 : p.1 = sHeader
  · simp [e1, hne.symm]
  · cases D.old <;> by_cases e2 : p.1 = sRelease <;> cases isVarSec p.1 <;> simp [e1, e2, hne]

theorem down_names (d : Ini) : (d.map (downSec D vs src ck)).map (·.1) = (d.map (·.1)).map (renameSec D) := by
  simp only [List.map_map]
  exact List.map_congr_left fun p _ => downSec_fst D vs src ck p

theorem renameSec_eq_iff {s : Str} (h : D.old = true → s ≠ sRelease ∧ s ≠ sProduct') (k : Str) : renameSec D k = s ↔ k = s := by
  unfold renameSec
  cases ho : D.old
  · simp
  · obtain ⟨a, b⟩ := h ho
    by_cases e : k = sRelease
    · simp only [e, beq_self_eq_true, Bool.and_self, if_true]
      exact ⟨fun x => absurd x.symm b, fun x => absurd x.symm a⟩
    · simp [e]

theorem renameSec_eq_product (ho : D.old = true) {k : Str} (hk : k ≠ sProduct') : renameSec D k = sProduct' ↔ k = sRelease := by
  unfold renameSec
  by_cases e : k = sRelease
  · simp [e, ho]
  · simp [e, hk]

theorem renameSec_new (h : D.old = false) (l : List Str) : l.map (renameSec D) = l := by
  have : renameSec D = id := by funext s; simp [renameSec, h]
  rw [this, List.map_id]

theorem filter_img_rename (D : TDown) : ∀ l : List Str, (l.map (renameSec D)).filter isImg = l.filter isImg
  | [] => rfl
  | s :: l => by
    have ih := filter_img_rename D l
    by_cases e : (D.old && s == sRelease) = true
    · have e1 : renameSec D s = sProduct' := by simp [renameSec, e]
      have e2 : s = sRelease := by simp only [Bool.and_eq_true, beq_iff_eq] at e; exact e.2
      have a1 : isImg sProduct' = false := by decide
      have a2 : isImg sRelease = false := by decide
      rw [List.map_cons, e1, e2]
      simp only [List.filter_cons, a1, a2, Bool.false_eq_true, if_false]
      exact ih
    · have e1 : renameSec D s = s := by simp [renameSec, e]
      simp only [List.map_cons, e1, List.filter_cons, ih]

theorem sections_img_down (d : Ini) :
    (sections (d.map (downSec D vs src ck))).filter isImg = (sections d).filter isImg :=
  sections_img_of_names (by rw [down_names, filter_img_rename])

theorem downSec_header (o : IniSec) : (downSec D vs src ck (sHeader, o)).2 = downHeaderOpts D vs := by
  simp [downSec]

theorem downSec_release (ho : D.old = true) (o : IniSec) : (downSec D vs src ck (sRelease, o)).2 = o := by
  have : (sRelease == sHeader) = false := by decide
  simp [downSec, ho, this]

theorem downSec_var (ho : D.old = true) {s : Str} (hs : isVarSec s = true) (o : IniSec) :
    (downSec D vs src ck (s, o)).2 = o.filterMap (downVarOpt src ck) := by
  have e1 : s ≠ sHeader := ne_of_pred hs (by decide)
  have e2 : s ≠ sRelease := ne_of_pred hs (by decide)
  simp [downSec, e1, e2, ho, hs]

theorem downSec_other {s : Str} (h1 : s ≠ sHeader) (h2 : D.old = true → s ≠ sRelease ∧ isVarSec s = false) (o : IniSec) :
    (downSec D vs src ck (s, o)).2 = o := by
  cases ho : D.old
  · simp [downSec, h1, ho]
  · obtain ⟨a, b⟩ := h2 ho
    simp [downSec, h1, a, b]

theorem lookup_map_entry {β γ} (f : Str × β → Str × γ) (s s' : Str) :
    ∀ d : List (Str × β), (∀ p ∈ d, (f p).1 = s ↔ p.1 = s') →
      (d.map f).lookup s = (d.lookup s').map fun o => (f (s', o)).2
  | [], _ => rfl
  | (k, o) :: d, h => by
    have ih := lookup_map_entry f s s' d (fun p hp => h p (List.mem_cons_of_mem _ hp))
    have hk := h (k, o) List.mem_cons_self
    rw [List.map_cons, lookup_cons_eq, lookup_cons_eq, ih]
    by_cases e : k = s'
    · subst e; simp [hk.mpr rfl]
    · have e2 : ¬ (f (k, o)).1 = s := fun x => e (hk.mp x)
      simp [e, e2]

theorem down_lookup_same (s : Str) (h1 : s ≠ sHeader) (h2 : D.old = true → s ≠ sRelease ∧ s ≠ sProduct' ∧ isVarSec s = false)
    (d : Ini) : (d.map (downSec D vs src ck)).lookup s = d.lookup s := by
  rw [lookup_map_entry _ s s d fun p _ => by
    rw [downSec_fst]; exact renameSec_eq_iff D (fun ho => ⟨(h2 ho).1, (h2 ho).2.1⟩) p.1]
  simp only [downSec_other D vs src ck h1 (fun ho => ⟨(h2 ho).1, (h2 ho).2.2⟩), Option.map_id']

theorem down_lookup_header (d : Ini) :
    (d.map (downSec D vs src ck)).lookup sHeader = (d.lookup sHeader).map fun _ => downHeaderOpts D vs := by
  rw [lookup_map_entry _ sHeader sHeader d fun p _ => by
    rw [downSec_fst]; exact renameSec_eq_iff D (fun _ => ⟨by decide, by decide⟩) p.1]
  simp only [downSec_header]

theorem down_lookup_product (ho : D.old = true) (d : Ini) (hn : d.lookup sProduct' = none) :
    (d.map (downSec D vs src ck)).lookup sProduct' = d.lookup sRelease := by
  rw [lookup_map_entry _ sProduct' sRelease d fun p hp => by
    rw [downSec_fst]
    refine renameSec_eq_product D ho fun e => ?_
    have := List.lookup_eq_none_iff.mp hn p hp
    simp [e] at this]
  simp only [downSec_release D vs src ck ho, Option.map_id']

theorem down_lookup_var (ho : D.old = true) (s : Str) (hs : isVarSec s = true) (d : Ini) :
    (d.map (downSec D vs src ck)).lookup s = (d.lookup s).map fun o => o.filterMap (downVarOpt src ck) := by
  rw [lookup_map_entry _ s s d fun p _ => by
    rw [downSec_fst]
    exact renameSec_eq_iff D (fun _ => ⟨ne_of_pred hs (by decide), ne_of_pred hs (by decide)⟩) p.1]
  simp only [downSec_var D vs src ck ho hs]

end converted

theorem down_ok {vs : Str} {ver : Nat × Nat} {ck : Str} {t : TreeInfo} {d' : Ini} (h : down vs ver ck t = .ok d') :
    ∃ d, serialize t none = .ok d ∧ d' = d.map (downSec (tdown ver) vs (t.tree.arch == "src".toList) ck) := by
  unfold down at h
  cases hser : serialize t none with
  | error e => rw [hser] at h; cases h
  | ok d => rw [hser] at h; exact ⟨d, rfl, (Except.ok.inj h).symm⟩

theorem gate_header (vt : Nat × Nat) : Legacy.gateB Gen.gate_treeinfo_Header_deserialize_0 vt = .ok (tupleLe (1, 1) vt) := rfl

theorem downHeaderOpts_lookup (D : TDown) (vs : Str) :
    (downHeaderOpts D vs).lookup kVersion = some vs ∧
    (D.headerTyped = true → (downHeaderOpts D vs).lookup kType = some Gen.HEADER_TYPE_TreeInfo) := by
  constructor
  · simp [downHeaderOpts]
  · intro h
    have : (kType == kVersion) = false := by decide
    simp [downHeaderOpts, List.lookup, h, this]

theorem deHeaderL_down (d' : Ini) (D : TDown) (vs : Str) (ver : Nat × Nat) (hl : d'.lookup sHeader = some (downHeaderOpts D vs))
    (hval : validateClass "treeinfo.Header" (headerObj vs) = .ok ()) (hvt : versionTuple vs = .ok ver)
    (hD : D.headerTyped = tupleLe (1, 1) ver) : Legacy.deHeaderL d' = .ok vs := by
  obtain ⟨l1, l2⟩ := downHeaderOpts_lookup D vs
  have ho : hasOption d' sHeader kVersion = true := hasOption_of_lookup hl l1 (by decide) (by decide)
  have hg := get_sec hl l1
  unfold Legacy.deHeaderL
  simp only [ho, if_true, hg, hvt, gate_header, bind, Except.bind, pure, Except.pure]
  cases ht : tupleLe (1, 1) ver with
  | false => simp [hval]
  | true => simp [get_sec hl (l2 (hD.trans ht)), hval]

theorem deChecksumsL_false (d : Ini) : Legacy.deChecksumsL false d = deChecksums d :=
  Legacy.deChecksumsL_eq false d fun _ _ _ _ => Legacy.fixPath_false _

theorem deImagesL_false (d : Ini) (tree : Tree) : Legacy.deImagesL false d tree = deImages d tree :=
  Legacy.deImagesL_eq false d tree fun _ _ _ _ _ _ _ => Legacy.fixPath_false _

theorem deStage2L_false (d : Ini) : Legacy.deStage2L false d = deStage2 d :=
  Legacy.deStage2L_eq false d (fun _ _ => Legacy.fixPath_false _) (fun _ _ => Legacy.fixPath_false _)

theorem deMediaL_false (d : Ini) : Legacy.deMediaL false d = deMedia .v1_0 d := by simp [Legacy.deMediaL]
theorem deTreeL_false (fo : FloatOracle) (d : Ini) : Legacy.deTreeL fo false d = deTree fo .v1_0 d := by simp [Legacy.deTreeL]

theorem loopFile_eq_loopAdd (rd : Str → Except Err Variant) : ∀ (us : List Str) (acc : List Variant),
    Legacy.loopFile rd us acc = loopAdd rd us acc
  | [], _ => rfl
  | u :: us, acc => by
    simp only [Legacy.loopFile, loopAdd]
    cases rd u with
    | error e => rfl
    | ok v =>
      simp only
      cases addKid acc v with
      | error e => rfl
      | ok acc' => exact loopFile_eq_loopAdd rd us acc'

/-- `fileAs` is the legacy-aware reader's `variants.add(variant, variant_id=variant.uid)` … -/
theorem fileAs_none : fileAs none = Legacy.fileTop := by
  funext v
  obtain ⟨key, id, uid, name, type, paths, kids⟩ := v
  simp only [fileAs]
  rw [Legacy.fileTop]
  cases validateClass "treeinfo.Variant" (variantObj none id uid name type kids) <;> rfl

/-- … and its `parent.add(child)` -/
theorem fileAs_some (p : Str) : fileAs (some p) = Legacy.fileChild p := by
  funext v
  obtain ⟨key, id, uid, name, type, paths, kids⟩ := v
  simp only [fileAs]
  rw [Legacy.fileChild]
  cases validateClass "treeinfo.Variant" (variantObj (some p) id uid name type kids) <;> rfl

/-- the legacy-aware variant reader followed by the container's `add`, in the shape of the current reader (`deVariant`) -/
def readFileAs (S : Legacy.Sels) (c : Legacy.VCtx) (d : Ini) (f : Nat) (pu : Option Str) (u : Str) : Except Err Variant :=
  (Legacy.readVariant S c d f pu.isSome u).bind (fileAs pu)

theorem readFileAs_none (S : Legacy.Sels) (c : Legacy.VCtx) (d : Ini) (f : Nat) :
    (fun u => (Legacy.readVariant S c d f false u).bind Legacy.fileTop) = readFileAs S c d f none := by
  rw [← fileAs_none]
  rfl

theorem readVariant_v10 (S : Legacy.Sels) (c : Legacy.VCtx) (d : Ini) (h1 : S.variant = .v10) (h2 : S.paths = .v10)
    (h3 : S.addonFallback = true) :
    ∀ (f : Nat) (pu : Option Str) (uid0 : Str), readFileAs S c d f pu uid0 = deVariant .v1_0 d f pu uid0
  | 0, _, _ => rfl
  | f + 1, pu, uid0 => by
    -- Both programs make the same `get` calls in the same order: once the child reader (`ih`), the section prefix tried for
    -- a child (`ht`) and the two loops agree, it is one `cases` per call; `fileAs pu` at the end is the container's `add`,
    -- which `deVariant` has inline.
    have ih : ∀ uid : Str, (fun u => (Legacy.readVariant S c d f true u).bind (Legacy.fileChild uid)) = deVariant .v1_0 d f (some uid) := by
      intro uid
      funext u
      rw [← fileAs_some]
      exact readVariant_v10 S c d h1 h2 h3 f (some uid) u
    have ht : (if pu.isSome = true then (if (S.addonFallback && !hasSection d (secName tAddon uid0)) = true then tVariant else tAddon) else [])
        = type0Of d pu uid0 := by
      cases pu <;> simp [type0Of, h3]
      cases hasSection d (secName tAddon uid0) <;> rfl
    unfold readFileAs
    rw [Legacy.readVariant, deVariant]
    simp only [h1, ht, ih, loopFile_eq_loopAdd, h2, Legacy.dePathsL]
    by_cases he : uid0.isEmpty = true
    · simp [he, Except.bind]
    simp only [he]
    cases d.get (secName (type0Of d pu uid0) uid0) kId with
    | error e => rfl
    | ok id =>
    simp only
    cases d.get (secName (type0Of d pu uid0) uid0) kUid with
    | error e => rfl
    | ok uid =>
    simp only
    cases d.get (secName (type0Of d pu uid0) uid) kName with
    | error e => rfl
    | ok name =>
    simp only
    cases d.get (secName (type0Of d pu uid0) uid) kType with
    | error e => rfl
    | ok type =>
    simp only
    generalize (if d.hasOption (secName type uid) kAddons = true then
                  match d.get (secName type uid) kAddons with
                  | Except.error e => Except.error e
                  | Except.ok s => loopAdd (deVariant Gate.v1_0 d f (some uid)) (splitNonEmpty s) []
                else Except.ok []) = K
    cases K with
    | error e => rfl
    | ok kids =>
    simp only [bind, Except.bind, pure, Except.pure]
    cases dePaths d (secName type uid) Gen.TREEINFO_PATH_FIELDS with
    | error e => rfl
    | ok paths =>
    simp only
    cases validateClass "treeinfo.VariantPaths" [] with
    | error e => rfl
    | ok u =>
    simp only
    simp only [fileAs, Bool.false_eq_true, if_false]
    cases validateClass "treeinfo.Variant" (variantObj pu id uid name type kids) with
    | error e => rfl
    | ok u => cases pu <;> rfl

theorem dePaths_congr {d d' : Ini} {sec : Str} (h : d'.lookup sec = d.lookup sec) (h0 : d'.lookup DEFAULT = d.lookup DEFAULT) :
    ∀ fs : List Str, dePaths d' sec fs = dePaths d sec fs
  | [] => rfl
  | f :: fs => by simp only [dePaths, hasOption_congr h h0, get_congr h h0, dePaths_congr h h0 fs]

theorem deVariant_congr {d d' : Ini} (h : ∀ s, headAV s → d'.lookup s = d.lookup s) (h0 : d'.lookup DEFAULT = d.lookup DEFAULT) :
    ∀ (f : Nat) (pu : Option Str) (uid0 : Str), deVariant .v1_0 d' f pu uid0 = deVariant .v1_0 d f pu uid0
  | 0, _, _ => rfl
  | f + 1, pu, uid0 => by
    have G : ∀ a b k, Ini.get d' (secName a b) k = Ini.get d (secName a b) k := fun a b k => get_congr (h _ (secName_headAV a b)) h0 k
    have HO : ∀ a b k, Ini.hasOption d' (secName a b) k = Ini.hasOption d (secName a b) k :=
      fun a b k => hasOption_congr (h _ (secName_headAV a b)) h0 k
    have HS : ∀ a b, Ini.hasSection d' (secName a b) = Ini.hasSection d (secName a b) := fun a b => hasSection_congr (h _ (secName_headAV a b))
    have P : ∀ a b fs, dePaths d' (secName a b) fs = dePaths d (secName a b) fs := fun a b fs => dePaths_congr (h _ (secName_headAV a b)) h0 fs
    have ih : ∀ pu, deVariant .v1_0 d' f pu = deVariant .v1_0 d f pu := fun pu => funext (deVariant_congr h h0 f pu)
    have T : type0Of d' pu uid0 = type0Of d pu uid0 := by unfold type0Of; simp only [HS]
    rw [deVariant, deVariant]
    simp only [G, HO, P, ih, T]

theorem deTops_congr {d d' : Ini} (h : ∀ s, headAV s → d'.lookup s = d.lookup s) (ht : d'.lookup sTree = d.lookup sTree)
    (h0 : d'.lookup DEFAULT = d.lookup DEFAULT) (hl : d'.length = d.length) : deTops .v1_0 d' = deTops .v1_0 d := by
  unfold deTops
  have : deVariant .v1_0 d' (d'.length + 1) none = deVariant .v1_0 d (d.length + 1) none := by
    rw [hl]; exact funext (deVariant_congr h h0 _ none)
  simp only [hasOption_congr ht h0, get_congr ht h0, this]

theorem deTopsL_current (S : Legacy.Sels) (c : Legacy.VCtx) (d : Ini) (h1 : S.variant = .v10) (h2 : S.paths = .v10)
    (h3 : S.addonFallback = true) (h4 : S.variants00 = false) : Legacy.deTopsL S c d = deTops .v1_0 d := by
  unfold Legacy.deTopsL deTops
  have : (fun u => (Legacy.readVariant S c d (d.length + 1) false u).bind Legacy.fileTop) = deVariant .v1_0 d (d.length + 1) none :=
    (readFileAs_none S c d _).trans (funext (readVariant_v10 S c d h1 h2 h3 (d.length + 1) none))
  simp only [h4, this, loopFile_eq_loopAdd, Bool.false_eq_true, if_false]

theorem legacy_of_sections {fo : FloatOracle} {d d' : Ini} {x : TreeInfo} {vs : Str} {ver : Nat × Nat} {S : Legacy.Sels}
    (h : deserialize fo d = .ok x)
    (hh : Legacy.deHeaderL d' = .ok vs) (hvt : versionTuple vs = .ok ver) (hS : Legacy.selsOf ver = .ok S)
    (hoff : S.tree00 = false ∧ S.fixChecksums = false ∧ S.fixImages = false ∧ S.fixStage2 = false ∧ S.media00 = false)
    (hsame : ∀ s ∈ [sBase, sTree, sGeneral, sChecksums, sStage2, sMedia, DEFAULT], d'.lookup s = d.lookup s)
    (himg : ∀ s, isImg s = true → d'.lookup s = d.lookup s) (hsec : (sections d').filter isImg = (sections d).filter isImg)
    (hr : Legacy.deReleaseL S.release d' = .ok (x.release, x.isLayered))
    (hto : Legacy.deTopsL S ⟨x.release.name, x.release.short, x.release.version, x.tree.arch⟩ d' = .ok x.variants) :
    Legacy.deserialize fo d' = .ok x := by
  obtain ⟨v, vt, _, _, hv, hr0, hb, ht, _, hc, hi, hs, hm, hu⟩ := deserialize_iff.mp h
  rw [deRelease_gate hr0] at ht hm
  obtain ⟨f1, f2, f3, f4, f5⟩ := hoff
  have h0 := hsame DEFAULT (by simp)
  refine Legacy.deserialize_iff.mpr ⟨vs, ver, S, hh, hvt, hS, hv, hr, ?_, ?_, hto, ?_, ?_, ?_, ?_, hu⟩
  · rw [deBase_congr (hsame sBase (by simp)) h0]; exact hb
  · rw [f1, deTreeL_false, deTree_congr fo (hsame sTree (by simp)) (hsame sGeneral (by simp)) h0]; exact ht
  · rw [f2, deChecksumsL_false, deChecksums_congr (hsame sChecksums (by simp)) h0]; exact hc
  · rw [f3, deImagesL_false, deImages_congr x.tree h0 himg hsec]; exact hi
  · rw [f4, deStage2L_false, deStage2_congr (hsame sStage2 (by simp)) h0]; exact hs
  · rw [f5, deMediaL_false, deMedia_congr (hsame sMedia (by simp)) h0]; exact hm

end PM.TI
