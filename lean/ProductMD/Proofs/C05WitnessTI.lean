import ProductMD.Proofs.TreeInfoExamples
import ProductMD.Model.TreeInfoLegacy
import ProductMD.Model.IniParse
import ProductMD.Model.TreeInfoText
/-!
C05, treeinfo witnesses: the documents and the checks (the property file restates each as `C05_ti_*_witness : <check> = true`).
The checks are evaluated with the other facts about the witness documents, in `treeinfo_facts` (`Proofs/FactsTreeInfo.lean`).
-/
namespace PM
open PM.TI PM.Ini

/-- float oracle that is exact on integer texts (the witnesses below use integer timestamps) -/
def intOracle : FloatOracle := ⟨Str.pyInt, fun s => .ok s⟩
def iniSec (n : String) (kv : List (String × String)) : Str × IniSec := (n.toList, kv.map fun p => (p.1.toList, p.2.toList))

/-- load (any version), write, parse the written text, load, write -/
def tiUpgradeCycle (d : Ini) : Except Err (TreeInfo × Ini × TreeInfo × Ini) := do
  let t ← TI.Legacy.deserialize intOracle d
  let d1 ← TI.serialize t none
  let d1' ← IniParse.parse Str.isPySpace (IniText.render d1)
  let t2 ← TI.Legacy.deserialize intOracle d1'
  let d2 ← TI.serialize t2 none
  pure (t, d1, t2, d2)

def vsum : Variant → List (Str × Str × List (Str × Str) × List Str)
  | .mk _ _ uid _ type paths kids => [(uid, type, paths, kids.map Variant.uid)]

/-- a 0.3 file: `[product]`, children under `variants`, a `src` tree whose source paths sit in `packages` / `repository` -/
def wTI03 : Ini :=
  [iniSec "header" [("version", "0.3")],
   iniSec "product" [("name", "Fedora"), ("short", "F"), ("version", "21")],
   iniSec "tree" [("arch", "src"), ("build_timestamp", "123"), ("platforms", "src"), ("variants", "Server")],
   iniSec "variant-Server" [("id", "Server"), ("uid", "Server"), ("name", "Server"), ("type", "variant"), ("packages", "SRPMS"),
                            ("repository", "."), ("variants", "Server-HA")],
   iniSec "addon-Server-HA" [("id", "HA"), ("uid", "Server-HA"), ("name", "HA"), ("type", "addon")]]

/-- **faithful and idempotent on a 0.3 witness**: `[product]` becomes the release, the child listed under `variants` is
found in its `addon-` section, the `src` tree's paths become `source_packages` / `source_repository`; the written
file is re-read and written again to the same document -/
def tiUpgrade03Check : Bool :=
    (match tiUpgradeCycle wTI03 with
     | .ok (t, d1, _, d2) =>
       t.release.name == "Fedora".toList && t.isLayered == false && t.tree.arch == "src".toList
       && t.variants.flatMap vsum == [("Server".toList, "variant".toList,
            [("source_packages".toList, "SRPMS".toList), ("source_repository".toList, ".".toList)], ["Server-HA".toList])]
       && t.headerVersion == TI.currentVersion && d1 == d2
     | .error _ => false)

/-- a pre-productmd file (no header): RHEL 5 Server by its family name, absolute image paths -/
def wTI00 : Ini :=
  [iniSec "general" [("family", "Red Hat Enterprise Linux Server"), ("version", "5.8"), ("arch", "i386"), ("timestamp", "5"),
                     ("packagedir", "Server"), ("totaldiscs", "2")],
   iniSec "images-i386" [("kernel", "/mnt/os/images/vmlinuz")],
   iniSec "stage2" [("mainimage", "/images/stage2.img")]]

/-- **the pre-productmd heuristics on a witness, and idempotence** (the literal tables of the 0.0 readers are shown on this
witness only; what each 0.0 reader returns on any file is `C05_ti_00_*`, `Properties/C05.lean`): family prefix → name / short
`RHEL`, variant `Server` from the family, the RHEL 5 addon table for
i386, repository named after the variant, `/os/` and leading slashes cut from image paths, disc number defaulting to 1 -/
def tiUpgrade00Check : Bool :=
    (match tiUpgradeCycle wTI00 with
     | .ok (t, d1, _, d2) =>
       t.release.name == "Red Hat Enterprise Linux".toList && t.release.short == "RHEL".toList && t.release.version == "5.8".toList
       && t.variants.flatMap vsum == [("Server".toList, "variant".toList,
            [("packages".toList, "Server".toList), ("repository".toList, "Server".toList)],
            ["Server-Cluster".toList, "Server-ClusterStorage".toList, "Server-VT".toList])]
       && (t.variants.flatMap Variant.kids).map Variant.type == ["addon".toList, "addon".toList, "addon".toList]
       && t.images == [("i386".toList, [("kernel".toList, "images/vmlinuz".toList)])]
       && t.mainimage == some "images/stage2.img".toList && t.discnum == some 1 && t.totaldiscs == some 2 && d1 == d2
     | .error _ => false)

/-- **F12 witness**: the shipped `opensuse` fixture in miniature — a 1.0 file without `[tree]` and without variants —
loads, and the writer then fails with IndexError (`variants[0]` of an empty list in `General.serialize`) -/
def tiF12Check : Bool :=
    let d : Ini := [iniSec "header" [("version", "1.0")], iniSec "release" [("name", "openSUSE Leap"), ("version", "15.1")],
      iniSec "general" [("arch", "x86_64"), ("family", "openSUSE Leap"), ("version", "15.1"), ("platforms", "x86_64,xen")]]
    (match TI.Legacy.deserialize intOracle d with
     | .ok t => (match TI.serialize t none with | .error .indexError => true | _ => false) && t.variants.isEmpty
     | .error _ => false)

end PM
