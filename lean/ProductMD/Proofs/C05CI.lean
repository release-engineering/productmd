import ProductMD.Model.ComposeInfoLegacy
import ProductMD.Proofs.CIDistinct
import ProductMD.Proofs.ExceptMatch
/-!
C05, composeinfo: what a load through `Legacy.deserialize` (any version) has built, and agreement with the C01 reader.

* every variant container is keyed by id with no key twice (`WellKeyed`: what C01's theorems need) — for the explicit
  child lists of >= 1.0 documents and for the UID-prefix scan of older ones alike, because every child goes through `add`;
* from format 1.0 on `Legacy.deserialize` is `CI.deserialize` (`deserialize_eq_legacy`);
* on a table whose UIDs show exactly the forest, the UID-prefix scans of documents older than 1.0 find what the explicit
  child lists say (`tops_legacy_eq`, `kids_legacy_eq`).

The model has the order on versions three times: `CI.verLt` (the current reader's, Model/ComposeInfo.lean), `PM.verLt` /
`PM.verLe` (the generated gates', Model/Gate.lean) and `CI.vLt` / `CI.vLe` (the down-converter's, Model/ComposeInfoDown.lean).
They are the same functions written again, and the proofs here and in Proofs/C05CIDown.lean pass a fact about one as a fact
about the other by `rfl` (the lemmas of Proofs/GateLemmas.lean are stated for `PM.verLt` / `PM.verLe`).
-/
namespace PM.CI.Legacy
open PM PM.CI

-- `split` on a `match validateClass "…" o with` would otherwise make the kernel run the class lookup, which is slow
attribute [local irreducible] validateClass

theorem added_eq {built kids : List Variant} (hb : ∀ v ∈ built, v.key = v.id) (h : addAll [] built = .ok kids) :
    kids = built ∧ (kids.map Variant.id).Nodup := by
  obtain ⟨rfl, hn⟩ := (addAll_nil_iff hb).mp h
  exact ⟨rfl, List.map_congr_left hb ▸ hn⟩

/-! Each section reader is a chain of `match`es with a `validate()` before the attributes are taken as strings: the proof walks
down the chain and its last steps say that the object built is the one that was validated. -/

theorem composeDeL_valid (g : Gates) (p : PyVal) :
    Post (composeDeL g p) fun c => validateClass "composeinfo.Compose" (composeObj c) = .ok () := by
  unfold composeDeL
  split
  case' isTrue =>
    unfold composeDe03
    refine .matchV fun _ _ => .matchV fun cid _ => .matchV fun _ _ => .matchV fun _ _ => ?_
    cases dateTypeRespinOf cid
    · exact .error
    rename_i dtr
    obtain ⟨date, type, respin⟩ := dtr
    refine .matchV fun _ _ => .matchU fun hv => ?_
  case' isFalse =>
    unfold composeDe
    refine .ite .error (.matchV fun _ _ => .matchV fun _ _ => .matchV fun _ _ => .matchV fun _ _ =>
      .matchV fun _ _ => .matchV fun _ _ => .matchV fun _ _ => .matchU fun hv => ?_)
  -- both readers end alike: the validated attributes are strings and an integer, the label a string or `None`
  all_goals
    split
    · simp only [asStr_iff, asInt_iff] at *
      subst_vars
      split
      · rename_i hl
        rw [hl] at hv
        exact .ok hv
      · rename_i hl
        rw [hl] at hv
        exact .ok hv
      · exact .error
    · exact .error

theorem releaseDeL_valid (g : Gates) (p : PyVal) : Post (releaseDeL g p) fun r =>
    validateClass "composeinfo.Release" (releaseObj r) = .ok () ∧ (g.release = true → r.internal = false) := by
  unfold releaseDeL
  split
  · unfold releaseDe03
    refine .matchV fun _ _ => .matchV fun _ _ => .matchV fun _ _ => .matchV fun _ _ => .matchV fun _ _ => .matchV fun _ _ =>
      .matchV fun _ _ => .matchU fun hv => ?_
    split
    · simp only [asStr_iff] at *
      subst_vars
      exact .ok ⟨hv, fun _ => rfl⟩
    · exact .error
  · rename_i hg
    unfold releaseDe
    refine .ite .error (.matchV fun _ _ => .matchV fun _ _ => .matchV fun _ _ => .matchV fun _ _ => .matchV fun _ _ =>
      .matchV fun _ _ => .matchV fun _ _ => .matchV fun _ _ => .matchU fun hv => ?_)
    split
    · simp only [asStr_iff] at *
      subst_vars
      exact .ok ⟨hv, fun h => absurd h hg⟩
    · exact .error

theorem releaseDe03_valid (p : PyVal) (r : Release) (h : releaseDe03 p = .ok r) :
    validateClass "composeinfo.Release" (releaseObj r) = .ok () ∧ r.internal = false := by
  -- `releaseDeL` at any gates with `release = true` is `releaseDe03`
  have := (releaseDeL_valid ⟨false, true, false, false⟩ p).elim (by rw [releaseDeL, if_pos rfl]; exact h)
  exact ⟨this.1, this.2 rfl⟩

theorem baseDe_valid (p : PyVal) : Post (baseDe p) fun b => validateClass "composeinfo.BaseProduct" (baseObj (some b)) = .ok () := by
  unfold baseDe
  refine .matchV fun _ _ => .matchV fun _ _ => .matchV fun _ _ => .matchV fun _ _ => .matchV fun _ _ => .matchU fun hv => ?_
  split
  · simp only [asStr_iff] at *
    subst_vars
    exact .ok hv
  · exact .error

theorem variantReleaseDeL_valid (g : Gates) (t d : PyVal) (rel : Option Release) (h : variantReleaseDeL g t d = .ok rel) :
    ∀ r, rel = some r → validateClass "composeinfo.Release" (releaseObj r) = .ok () := by
  unfold variantReleaseDeL at h
  split at h
  · cases hr : releaseDeL g d with
    | error e => rw [hr] at h; cases h
    | ok r0 =>
      rw [hr] at h
      cases h
      intro r hr'
      cases hr'
      exact ((releaseDeL_valid g d).elim hr).1
  · cases h
    intro r hr
    cases hr

theorem buildL_inv {g : Gates} {full : PyVal} {n : Nat} {ctx : Ctx} {vuid : Str} {v : Variant}
    (h : buildL g full (n + 1) ctx vuid = .ok v) :
    ∃ (keys : List Str) (built : List Variant) (t d : PyVal), v.key = v.id ∧ Str.sortDedup v.arches = v.arches ∧
      collect (keys.map fun k => buildL g full n (some (v.uid, v.arches)) k) = .ok built ∧ addAll [] built = .ok v.kids ∧
      variantReleaseDeL g t d = .ok v.release ∧ validateClass "composeinfo.Variant" (variantObj ctx v) = .ok () := by
  unfold buildL at h
  obtain ⟨data, _, h⟩ := matchV_ok h
  obtain ⟨id0, _, h⟩ := matchV_ok h
  obtain ⟨uid0, _, h⟩ := matchV_ok h
  obtain ⟨name0, _, h⟩ := matchV_ok h
  obtain ⟨type0, _, h⟩ := matchV_ok h
  obtain ⟨arches0, _, h⟩ := matchV_ok h
  split at h; · cases h
  dsimp only at h
  split at h; · cases h
  rename_i hrel
  obtain ⟨paths0, _, h⟩ := matchV_ok h
  split at h; · cases h
  split at h; · cases h
  split at h; · cases h
  split at h; · cases h
  rename_i kidKeys _
  split at h; · cases h
  rename_i hcol
  split at h; · cases h
  rename_i hadd
  split at h
  · split at h; · cases h
    rename_i hval
    split at h; · cases h
    cases h
    exact ⟨kidKeys, _, type0, data, rfl, sortDedup_idem _, hcol, hadd, hrel, hval⟩
  · cases h

theorem variantsDeL_inv {g : Gates} {payload : PyVal} {vs : List Variant} (h : variantsDeL g payload = .ok vs) :
    ∃ (full : PyVal) (tops : List Str) (n : Nat) (built : List Variant), collect (tops.map fun u => buildL g full n none u) = .ok built ∧ addAll [] built = .ok vs := by
  unfold variantsDeL at h
  -- one path to `.ok` through the chain of `match`es
  repeat' (first | split at h | dsimp only at h)
  all_goals first | (cases h; done) | skip
  all_goals exact ⟨_, _, _, _, ‹collect _ = Except.ok _›, h⟩

theorem deserialize_inv {doc : PyVal} {ci : ComposeInfo} (h : deserialize doc = .ok ci) :
    ∃ g payload, composeDeL g payload = .ok ci.compose ∧ releaseDeL g payload = .ok ci.release ∧
      baseDeIf ci.release.isLayered payload = .ok ci.base ∧ variantsDeL g payload = .ok ci.variants := by
  unfold deserialize at h
  repeat' (first | split at h | dsimp only at h)
  all_goals first | (cases h; done) | skip
  cases h
  exact ⟨_, _, ‹composeDeL _ _ = Except.ok _›, ‹releaseDeL _ _ = Except.ok _›, ‹baseDeIf _ _ = Except.ok _›,
    ‹variantsDeL _ _ = Except.ok _›⟩

mutual
/-- every variant passes the (generated) `Variant` validators against the parent it hangs under: id syntax, UID aligned with the
parent's UID (with the id at top level), name, type, non-empty arches contained in the parent's, container keys -/
def ValidV (ctx : Ctx) : Variant → Prop
  | .mk key id uid name type arches paths rel kids =>
    validateClass "composeinfo.Variant" (variantObj ctx (.mk key id uid name type arches paths rel kids)) = .ok ()
    ∧ (∀ r, rel = some r → validateClass "composeinfo.Release" (releaseObj r) = .ok ())
    ∧ ValidVs (some (uid, Str.sortDedup arches)) kids
def ValidVs (ctx : Ctx) : List Variant → Prop
  | [] => True
  | v :: vs => ValidV ctx v ∧ ValidVs ctx vs
end

theorem ValidVs_of (ctx : Ctx) : ∀ vs : List Variant, (∀ v ∈ vs, ValidV ctx v) → ValidVs ctx vs
  | [], _ => trivial
  | v :: vs, h => ⟨h v List.mem_cons_self, ValidVs_of ctx vs (fun w hw => h w (List.mem_cons_of_mem _ hw))⟩

theorem buildL_spec (g : Gates) (full : PyVal) : ∀ (fuel : Nat) (ctx : Ctx) (vuid : Str) (v : Variant),
    buildL g full fuel ctx vuid = .ok v → v.key = v.id ∧ wellKeyed v = true ∧ ValidV ctx v
  | 0, _, _, _, h => by simp [buildL] at h
  | n + 1, ctx, vuid, v, h => by
    obtain ⟨keys, built, t, d, hkey, hsd, hcol, hadd, hrel, hval⟩ := buildL_inv h
    have ih : ∀ b ∈ built, b.key = b.id ∧ wellKeyed b = true ∧ ValidV (some (v.uid, v.arches)) b := fun b hb =>
      let ⟨k, hk⟩ := collect_map_mem hcol b hb
      buildL_spec g full n _ k b hk
    obtain ⟨e, hn⟩ := added_eq (fun b hb => (ih b hb).1) hadd
    obtain ⟨key, id, uid, name, type, arches, paths, rel, kids⟩ := v
    simp only [Variant.kids, Variant.uid, Variant.arches] at e hn ih hsd
    subst e
    exact ⟨hkey, wellKeyed_iff.mpr ⟨hn, wellKeyedL_iff.mpr fun b hb => ⟨(ih b hb).1, (ih b hb).2.1⟩⟩,
      hval, variantReleaseDeL_valid g t d _ hrel, hsd.symm ▸ ValidVs_of _ _ fun b hb => (ih b hb).2.2⟩

theorem variantsDeL_spec (g : Gates) (payload : PyVal) (vs : List Variant) (h : variantsDeL g payload = .ok vs) :
    wellKeyedTop vs = true ∧ ValidVs none vs := by
  obtain ⟨full, tops, n, built, hcol, hadd⟩ := variantsDeL_inv h
  have hb : ∀ b ∈ built, b.key = b.id ∧ wellKeyed b = true ∧ ValidV none b := fun b hb =>
    let ⟨k, hk⟩ := collect_map_mem hcol b hb
    buildL_spec g full n none k b hk
  obtain ⟨rfl, hn⟩ := added_eq (fun b hb' => (hb b hb').1) hadd
  exact ⟨wellKeyedTop_iff.mpr ⟨hn, wellKeyedL_iff.mpr fun b hb' => ⟨(hb b hb').1, (hb b hb').2.1⟩⟩,
    ValidVs_of _ _ fun b hb' => (hb b hb').2.2⟩

theorem deserialize_wellKeyed (doc : PyVal) (ci : ComposeInfo) (h : deserialize doc = .ok ci) : WellKeyed ci :=
  let ⟨_, _, _, _, _, hv⟩ := deserialize_inv h
  (variantsDeL_spec _ _ _ hv).1

theorem deserialize_sections_valid (doc : PyVal) (ci : ComposeInfo) (h : deserialize doc = .ok ci) :
    validateClass "composeinfo.Compose" (composeObj ci.compose) = .ok ()
    ∧ validateClass "composeinfo.Release" (releaseObj ci.release) = .ok () :=
  let ⟨_, _, hc, hr, _, _⟩ := deserialize_inv h
  ⟨(composeDeL_valid _ _).elim hc, ((releaseDeL_valid _ _).elim hr).1⟩

theorem deserialize_forest_valid (doc : PyVal) (ci : ComposeInfo) (h : deserialize doc = .ok ci) :
    ValidVs none ci.variants
    ∧ (ci.release.isLayered = true → ∃ b, ci.base = some b ∧ validateClass "composeinfo.BaseProduct" (baseObj (some b)) = .ok ())
    ∧ (ci.release.isLayered = false → ci.base = none) := by
  obtain ⟨_, payload, _, _, hb, hv⟩ := deserialize_inv h
  obtain ⟨compose, release, base, variants⟩ := ci
  simp only at hb hv ⊢
  refine ⟨(variantsDeL_spec _ _ _ hv).2, fun hl => ?_, fun hl => ?_⟩
  · rw [baseDeIf, if_pos hl] at hb
    cases hbd : baseDe payload <;> rw [hbd] at hb <;> cases hb
    exact ⟨_, rfl, (baseDe_valid _).elim hbd⟩
  · rw [baseDeIf, if_neg (by simp [hl])] at hb
    cases hb
    rfl

theorem gates_0_3_of_ge_1_0 (ver : Nat × Nat) (h : verLt ver (1, 0) = false) : verLt ver (0, 3) = false ∧ verLt (0, 3) ver = true :=
  have hle : verLe (1, 0) ver = true := verLe_of_verLt_false h
  ⟨verLt_false_of_verLe (verLe_trans (by decide) hle), verLt_of_verLt_of_verLe (by decide) hle⟩

theorem gatesOf_eq (v : Nat × Nat) :
    gatesOf v = .ok ⟨PM.verLt v (0, 3), PM.verLe v (0, 3), PM.verLt v (1, 0), PM.verLt v (1, 0)⟩ := rfl

theorem gatesOf_current {v : Nat × Nat} (h : CI.verLt v (1, 0) = false) : gatesOf v = .ok Gates.current := by
  have h03 := gates_0_3_of_ge_1_0 v h
  -- `CI.verLt` is `PM.verLt` by `rfl` (head of this file)
  have h1 : PM.verLt v (0, 3) = false := h03.1
  have h2 : PM.verLe v (0, 3) = false := verLe_false_of_verLt h03.2
  have h3 : PM.verLt v (1, 0) = false := h
  rw [gatesOf_eq, h1, h2, h3]
  rfl

theorem cur_compose : Gates.current.compose = false := rfl
theorem cur_release : Gates.current.release = false := rfl
theorem cur_variants : Gates.current.variants = false := rfl
theorem cur_variant : Gates.current.variant = false := rfl

/-! At the current gates the legacy-aware reader is the reader of `Model/ComposeInfo.lean`, refusals included. -/

theorem composeDe_ver {ver : Nat × Nat} (h : CI.verLt ver (0, 3) = false) (p : PyVal) : composeDe ver p = composeDe Gen.VERSION p := by
  unfold composeDe
  rw [h, show CI.verLt Gen.VERSION (0, 3) = false by decide]

theorem releaseDe_ver {ver : Nat × Nat} (h : CI.verLt (0, 3) ver = true) (p : PyVal) : releaseDe ver p = releaseDe Gen.VERSION p := by
  unfold releaseDe
  rw [h, show CI.verLt (0, 3) Gen.VERSION = true by decide]

theorem variantReleaseDe_eq {ver : Nat × Nat} (h : CI.verLt (0, 3) ver = true) (t d : PyVal) :
    variantReleaseDe ver t d = variantReleaseDeL Gates.current t d := by
  unfold variantReleaseDe variantReleaseDeL releaseDeL
  rw [releaseDe_ver h]
  rfl

theorem kidKeysL_eq {ver : Nat × Nat} (hv : CI.verLt ver (1, 0) = false) (full data : PyVal) (uid vuid : Str) :
    kidKeysL Gates.current full data uid vuid
      = (match kidIdsOf ver data with | .error e => .error e | .ok ids => .ok (ids.map fun i => uid ++ '-' :: i)) := by
  unfold kidKeysL kidIdsOf
  cases data.get? k%"variants" with
  | none => simp [hv, Gates.current]
  | some kv => rfl

/-- The two bodies are the same chain of steps; they differ in the reader of the variant's release and in how the keys of the
children are found.  `congr 1; funext` walks down one `match` of the chain: a congruence lemma stated with a `match` of its own
(like `sub_jeq_bind` of Proofs/CIOrder.lean) does not unify with these two bodies. -/
theorem build_eq_buildL {ver : Nat × Nat} (hv : CI.verLt ver (1, 0) = false) (full : PyVal) :
    ∀ (fuel : Nat) (ctx : Ctx) (u : Str), Variant.build ver full fuel ctx u = buildL Gates.current full fuel ctx u
  | 0, _, _ => rfl
  | fuel + 1, ctx, u => by
    unfold Variant.build buildL
    congr 1; funext data
    congr 1; funext id0
    congr 1; funext uid0
    congr 1; funext name0
    congr 1; funext type0
    congr 1; funext arches0
    congr 1; funext archesL
    dsimp only
    rw [variantReleaseDe_eq (gates_0_3_of_ge_1_0 ver hv).2]
    congr 1; funext rel
    congr 1; funext paths0
    congr 1; funext paths
    cases validateClass "composeinfo.VariantPaths" [] with
    | error e => rfl
    | ok u1 =>
      cases u1
      dsimp only
      congr 1; funext uid
      rw [kidKeysL_eq hv]
      cases kidIdsOf ver data with
      | error e => rfl
      | ok ids =>
        simp only [List.map_map, Function.comp_def, build_eq_buildL hv full fuel]
        rfl

theorem variantsDe_eq {ver : Nat × Nat} (hv : CI.verLt ver (1, 0) = false) (payload : PyVal) :
    variantsDe ver payload = variantsDeL Gates.current payload := by
  unfold variantsDe variantsDeL
  simp only [hv, build_eq_buildL hv, cur_variants, Bool.false_eq_true, if_false]
  rfl

theorem deserialize_eq_legacy {doc : PyVal} {ver : Nat × Nat} (hh : headerDe doc = .ok ver) (hv : CI.verLt ver (1, 0) = false) :
    CI.deserialize doc = deserialize doc := by
  have h03 := gates_0_3_of_ge_1_0 ver hv
  unfold CI.deserialize deserialize composeDeL releaseDeL
  simp only [hh, gatesOf_current hv, composeDe_ver h03.1, releaseDe_ver h03.2, variantsDe_eq hv, cur_compose, cur_release,
    Bool.false_eq_true, if_false]
  rfl

theorem ver_ge_1_0_of_variantsDe {ver : Nat × Nat} {p : PyVal} {vs : List Variant} (h : variantsDe ver p = .ok vs) :
    CI.verLt ver (1, 0) = false := by
  cases hv : CI.verLt ver (1, 0) with
  | false => rfl
  | true =>
    unfold variantsDe at h
    simp only [hv, if_true] at h
    repeat' split at h
    all_goals cases h

theorem tops_legacy_eq (keys cs : List Str)
    (h : ∀ u ∈ keys, cs.contains u = true ↔ ∃ hd, legacyHead u = some hd ∧ keys.contains hd = true) :
    keys.filter (isLegacyTop keys) = keys.filter (fun u => !cs.contains u) := by
  apply List.filter_congr
  intro u hu
  have := h u hu
  unfold isLegacyTop
  -- `isLegacyTop keys u` says that no `hd` is both the head of `u` and a key, the negation of the right side of `this`
  cases hl : legacyHead u <;> cases hc : cs.contains u <;> simp_all

theorem lt_append_left (p : Str) {a b : Str} (h : a < b) : p ++ a < p ++ b := by
  induction p with
  | nil => exact h
  | cons c cs ih => exact List.Lex.cons ih

theorem sorted_map_prefix (p : Str) : ∀ {l : List Str}, SSorted l → SSorted (l.map (p ++ ·)) := by
  intro l h
  unfold SSorted at *
  exact List.pairwise_map.mpr (h.imp (fun hab => lt_append_left p hab))

theorem kids_legacy_eq (full : PyVal) (vuid : Str) (ids : List Str) (hs : SSorted full.keys)
    (hex : ∀ k ∈ full.keys, Str.startsWith k (vuid ++ ['-']) = true ↔ ∃ i ∈ ids, k = vuid ++ '-' :: i)
    (hin : ∀ i ∈ ids, vuid ++ '-' :: i ∈ full.keys) :
    prefixKids full vuid = (Str.sortDedup ids).map fun i => vuid ++ '-' :: i := by
  have h1 : SSorted (prefixKids full vuid) := by
    unfold prefixKids SSorted
    exact List.Pairwise.filter _ hs
  have h2 : SSorted ((Str.sortDedup ids).map fun i => vuid ++ '-' :: i) := by
    have := sorted_map_prefix (vuid ++ ['-']) (sortDedup_sorted ids)
    simpa [List.append_assoc] using this
  apply sorted_ext h1 h2
  intro x
  simp only [prefixKids, List.mem_filter, List.mem_map, mem_sortDedup]
  constructor
  · rintro ⟨hk, hp⟩
    obtain ⟨i, hi, rfl⟩ := (hex x hk).mp hp
    exact ⟨i, hi, rfl⟩
  · rintro ⟨i, hi, rfl⟩
    exact ⟨hin i hi, (hex _ (hin i hi)).mpr ⟨i, hi, rfl⟩⟩

end PM.CI.Legacy
