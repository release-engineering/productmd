import ProductMD.Proofs.CIReader
/-! The top level of a written forest.  `Variants.deserialize` takes as top-level variants the keys of the table that no entry
refers to, and gives `Variant.deserialize` a recursion budget of one more than the table has entries (Python recurses freely);
on the table of a written forest with pairwise different UIDs the first finds the roots and the second is enough
(`written_tops`). -/
namespace PM.CI
open PM

mutual
/-- the UIDs of a subtree, root first -/
def uids : Variant → List Str
  | .mk _ _ uid _ _ _ _ _ kids => uid :: uidsL kids
def uidsL : List Variant → List Str
  | [] => []
  | v :: vs => uids v ++ uidsL vs
end

theorem uids_eq (v : Variant) : uids v = v.uid :: uidsL v.kids := by cases v; rfl

theorem mem_uidsL {x : Str} : ∀ {vs : List Variant}, x ∈ uidsL vs ↔ ∃ v ∈ vs, x ∈ uids v
  | [] => by simp [uidsL]
  | v :: vs => by simp [uidsL, mem_uidsL (vs := vs)]

mutual
/-- up to order only: `flat` files children first, `uids` lists the root first -/
theorem keys_perm : ∀ v : Variant, ((flat v).map (·.1)).Perm (uids v)
  | .mk key id uid name type arches paths rel kids => by
    simp only [flat, uids, List.map_append, List.map_cons, List.map_nil]
    exact (List.perm_append_singleton _ _).trans (.cons _ (keys_permL kids))
theorem keys_permL : ∀ vs : List Variant, ((flats vs).map (·.1)).Perm (uidsL vs)
  | [] => .nil
  | v :: vs => by
    simp only [flats, uidsL, List.map_append]
    exact (keys_perm v).append (keys_permL vs)
end

theorem keys_flat (v : Variant) (x : Str) : x ∈ (flat v).map (·.1) ↔ x ∈ uids v := (keys_perm v).mem_iff

theorem keys_flats : ∀ (vs : List Variant) (x : Str), x ∈ (flats vs).map (·.1) ↔ x ∈ uidsL vs :=
  fun vs _ => (keys_permL vs).mem_iff

theorem length_flat : ∀ (v : Variant), (flat v).length = (uids v).length :=
  fun v => by simpa using (keys_perm v).length_eq

theorem length_flats : ∀ (vs : List Variant), (flats vs).length = (uidsL vs).length :=
  fun vs => by simpa using (keys_permL vs).length_eq

mutual
theorem height_le : ∀ (v : Variant), height v ≤ (uids v).length
  | .mk key id uid name type arches paths rel kids => by
    simp only [height, uids, List.length_cons]
    have := heights_le kids
    omega
theorem heights_le : ∀ (vs : List Variant), heights vs ≤ (uidsL vs).length
  | [] => by simp [heights]
  | v :: vs => by
    simp only [heights, uidsL, List.length_append]
    have := height_le v
    have := heights_le vs
    omega
end

theorem uids_sublist {t : Variant} : ∀ {vs : List Variant}, t ∈ vs → (uids t).Sublist (uidsL vs)
  | [], h => by cases h
  | v :: vs, h => by
    simp only [uidsL]
    rcases List.mem_cons.mp h with rfl | h
    · exact List.sublist_append_left _ _
    · exact (uids_sublist h).trans (List.sublist_append_right _ _)

theorem root_not_below : ∀ {vs : List Variant}, (uidsL vs).Nodup → ∀ t ∈ vs, ∀ t' ∈ vs, t.uid ∉ uidsL t'.kids
  | [], _, t, ht, _, _ => by cases ht
  | a :: rest, hn, t, ht, t', ht' => by
    simp only [uidsL, uids_eq a] at hn
    rw [List.nodup_append] at hn
    obtain ⟨hl, hr, hd⟩ := hn
    have hla := List.nodup_cons.mp hl
    have hroot : ∀ s ∈ rest, s.uid ∈ uidsL rest := fun s hs => mem_uidsL.mpr ⟨s, hs, by rw [uids_eq]; simp⟩
    have hbelow : ∀ s ∈ rest, ∀ x ∈ uidsL s.kids, x ∈ uidsL rest := fun s hs x hx =>
      mem_uidsL.mpr ⟨s, hs, by rw [uids_eq]; simp [hx]⟩
    rcases List.mem_cons.mp ht with h1 | h1 <;> rcases List.mem_cons.mp ht' with h2 | h2
    · rw [h1, h2]; exact hla.1
    · intro h
      rw [h1] at h
      exact hd _ (by simp) _ (hbelow t' h2 _ h) rfl
    · intro h
      rw [h2] at h
      exact hd _ (by simp [h]) _ (hroot t h1) rfl
    · exact root_not_below hr t h1 t' h2

theorem mem_refs {x : Str} {d : Flat} : x ∈ refs d ↔ ∃ p ∈ d, ∃ i ∈ p.2.kids, x = p.2.uid ++ '-' :: i := by
  simp only [refs, List.mem_flatMap, List.mem_map, eq_comm (a := x)]

theorem mem_refs_append {x : Str} (a b : Flat) : x ∈ refs (a ++ b) ↔ x ∈ refs a ∨ x ∈ refs b := by
  simp only [refs, List.flatMap_append, List.mem_append]

theorem mem_refs_entry {x u : Str} (v : Variant) : x ∈ refs [(u, entryOf v)] ↔ ∃ k ∈ v.kids, x = v.uid ++ '-' :: k.id := by
  cases v
  simp only [refs, entryOf, Variant.kids, Variant.uid, List.flatMap_cons, List.flatMap_nil, List.append_nil, List.mem_map,
    mem_sortDedup]
  exact ⟨fun ⟨_, ⟨k, hk, rfl⟩, h⟩ => ⟨k, hk, h.symm⟩, fun ⟨k, hk, h⟩ => ⟨_, ⟨k, hk, rfl⟩, h.symm⟩⟩

mutual
theorem refs_flat : ∀ (v : Variant) (ctx : Ctx), Good ctx v → ∀ x, x ∈ refs (flat v) ↔ x ∈ uidsL v.kids
  | .mk key id uid name type arches paths rel kids, ctx, hg, x => by
    have hal : ∀ k ∈ kids, k.uid = uid ++ '-' :: k.id := hg.aligned
    rw [flat, mem_refs_append, refs_flats kids _ hg.kids x, mem_refs_entry, mem_uidsL]
    simp only [Variant.uid]
    constructor
    · rintro (⟨k, hk, hx⟩ | ⟨k, hk, rfl⟩)
      · exact ⟨k, hk, by rw [uids_eq]; simp [hx]⟩
      · exact ⟨k, hk, by rw [uids_eq, hal k hk]; simp⟩
    · rintro ⟨k, hk, hx⟩
      rw [uids_eq] at hx
      rcases List.mem_cons.mp hx with hx | hx
      · exact .inr ⟨k, hk, by rw [hx, hal k hk]⟩
      · exact .inl ⟨k, hk, hx⟩
theorem refs_flats : ∀ (vs : List Variant) (ctx : Ctx), GoodL ctx vs → ∀ x, x ∈ refs (flats vs) ↔ ∃ v ∈ vs, x ∈ uidsL v.kids
  | [], _, _, x => by simp [flats, refs]
  | v :: vs, ctx, hg, x => by
    simp only [GoodL] at hg
    rw [flats, mem_refs_append, refs_flat v ctx hg.1 x, refs_flats vs ctx hg.2 x]
    simp
end

/-- top-level container: keys are ids, no key twice, and the same below every variant -/
def wellKeyedTop (vs : List Variant) : Bool := decide ((vs.map Variant.id).Nodup) && wellKeyedL vs

theorem wellKeyedTop_iff {vs : List Variant} : wellKeyedTop vs = true ↔ (vs.map Variant.id).Nodup ∧ wellKeyedL vs = true := by
  simp only [wellKeyedTop, Bool.and_eq_true, decide_eq_true_eq]

theorem wellKeyed_eq_top (v : Variant) : wellKeyed v = wellKeyedTop v.kids := by
  cases v; rfl

theorem mem_byKeys {vs : List Variant} (hn : (vs.map Variant.key).Nodup) {t : Variant} : t ∈ byKeys vs ↔ t ∈ vs := by
  unfold byKeys
  simp only [List.mem_filterMap]
  constructor
  · rintro ⟨k, _, hk⟩; exact (findKey_some hk).1
  · exact fun ht => ⟨t.key, mem_sortDedup.mpr (List.mem_map.mpr ⟨t, ht, rfl⟩), findKey_eq_some hn ht rfl⟩

theorem nodup_filterMap_map {α β γ} (g : α → Option β) (key : β → γ) : ∀ {us : List α}, us.Nodup →
    (∀ u1 ∈ us, ∀ u2 ∈ us, ∀ w1 w2, g u1 = some w1 → g u2 = some w2 → key w1 = key w2 → u1 = u2) →
    ((us.filterMap g).map key).Nodup := by
  intro us
  induction us with
  | nil => intro _ _; simp
  | cons u us ih =>
    intro hn hinj
    have ⟨hu, hn'⟩ := List.nodup_cons.mp hn
    have ih' := ih hn' (fun u1 h1 u2 h2 => hinj u1 (by simp [h1]) u2 (by simp [h2]))
    simp only [List.filterMap_cons]
    cases hg : g u with
    | none => exact ih'
    | some w =>
      simp only [List.map_cons, List.nodup_cons]
      refine ⟨?_, ih'⟩
      intro hmem
      obtain ⟨w2, hw2, hkey⟩ := List.mem_map.mp hmem
      obtain ⟨u2, hu2, hg2⟩ := List.mem_filterMap.mp hw2
      have := hinj u (by simp) u2 (by simp [hu2]) w w2 hg hg2 hkey.symm
      exact hu (this ▸ hu2)

theorem roots_sublist : ∀ (vs : List Variant), (vs.map Variant.uid).Sublist (uidsL vs)
  | [] => by simp [uidsL]
  | v :: vs => by
    simp only [List.map_cons, uidsL, uids_eq v, List.cons_append]
    exact List.Sublist.cons_cons _ ((roots_sublist vs).trans (List.sublist_append_right _ _))

/-- a valid top-level UID without its dashes is the id -/
theorem top_uids_nodup {top : List Variant} (hids : (top.map Variant.id).Nodup) (hg : ∀ t ∈ top, Good none t) :
    (top.map Variant.uid).Nodup :=
  nodup_map_of_nodup_map Variant.uid Variant.id hids fun a ha b hb hab => by
    rw [← id_of_valid_top a (hg a ha).valid, ← id_of_valid_top b (hg b hb).valid, hab]

theorem mem_normTop {top : List Variant} (hn : (top.map Variant.uid).Nodup) {w : Variant} :
    w ∈ normTop top ↔ ∃ t ∈ top, w = t.norm := by
  simpa only [normTop, findUid_eq, norms_eq_map] using mem_filterMap_find?_map Variant.norm norm_uid hn

theorem normTop_keys_nodup (top : List Variant) (hids : (top.map Variant.id).Nodup) : ((normTop top).map Variant.key).Nodup := by
  unfold normTop
  apply nodup_filterMap_map _ Variant.key (sortDedup_nodup _)
  intro u1 _ u2 _ w1 w2 h1 h2 hkey
  rw [findUid_norms, Option.map_eq_some_iff] at h1 h2
  obtain ⟨t1, ht1, rfl⟩ := h1
  obtain ⟨t2, ht2, rfl⟩ := h2
  simp only [norm_key] at hkey
  have e1 := findUid_some ht1
  have e2 := findUid_some ht2
  have := inj_of_nodup_map Variant.id hids e1.1 e2.1 hkey
  rw [← e1.2, ← e2.2, this]

theorem variantsSer_keyed {top : List Variant} {d : Flat} (h : variantsSer top = .ok d) (hk : wellKeyedTop top = true) :
    (top.map Variant.id).Nodup ∧ (top.map Variant.key).Nodup ∧
    (∀ t ∈ top, t.key = t.id ∧ wellKeyed t = true ∧ Good none t) ∧ FSorted d ∧ ∀ x, x ∈ d ↔ ∃ t ∈ top, x ∈ flat t := by
  obtain ⟨hids, hkl⟩ := wellKeyedTop_iff.mp hk
  have hkeys : (top.map Variant.key).Nodup := by
    rw [List.map_congr_left fun t ht => (wellKeyedL_iff.mp hkl t ht).1]; exact hids
  obtain ⟨_, hgood, hs, hd⟩ := variantsSer_iff.mp h
  refine ⟨hids, hkeys, fun t ht => ⟨(wellKeyedL_iff.mp hkl t ht).1, (wellKeyedL_iff.mp hkl t ht).2,
    GoodL_iff.mp hgood t ((mem_byKeys hkeys).mpr ht)⟩, hs, fun x => ?_⟩
  rw [hd x, mem_flats]
  exact ⟨fun ⟨t, ht, hx⟩ => ⟨t, (mem_byKeys hkeys).mp ht, hx⟩, fun ⟨t, ht, hx⟩ => ⟨t, (mem_byKeys hkeys).mpr ht, hx⟩⟩

theorem written_tops {top : List Variant} {d : Flat} (hgood : ∀ t ∈ top, Good none t)
    (hd : ∀ x, x ∈ d ↔ ∃ t ∈ top, x ∈ flat t) (hu : (uidsL top).Nodup) :
    Str.sortDedup ((d.map (·.1)).filter fun u => !(refs d).contains u) = Str.sortDedup (top.map Variant.uid) ∧
    ∀ t ∈ top, height t ≤ d.length := by
  -- keys and references depend on the table only through its members, which are those of `flats top`
  have hd' : ∀ p, p ∈ d ↔ p ∈ flats top := fun p => (hd p).trans mem_flats.symm
  have hkeysd : ∀ x, x ∈ d.map (·.1) ↔ ∃ t ∈ top, x ∈ uids t := fun x => by
    rw [← mem_uidsL, ← keys_flats, List.mem_map, List.mem_map]
    simp only [hd']
  have hrefs : ∀ x, x ∈ refs d ↔ ∃ t ∈ top, x ∈ uidsL t.kids := fun x => by
    rw [← refs_flats top none (GoodL_iff.mpr hgood), mem_refs, mem_refs]
    simp only [hd']
  constructor
  · apply sortDedup_congr
    intro x
    simp only [List.mem_filter, Bool.not_eq_true', ← Bool.not_eq_true, List.contains_iff_mem]
    constructor
    · rintro ⟨hx, hnot⟩
      obtain ⟨t, ht, hxt⟩ := (hkeysd x).mp hx
      rw [uids_eq] at hxt
      rcases List.mem_cons.mp hxt with h | h
      · exact List.mem_map.mpr ⟨t, ht, h.symm⟩
      · exact absurd ((hrefs x).mpr ⟨t, ht, h⟩) (by simpa using hnot)
    · intro hx
      obtain ⟨t, ht, rfl⟩ := List.mem_map.mp hx
      refine ⟨(hkeysd _).mpr ⟨t, ht, by rw [uids_eq]; simp⟩, ?_⟩
      have : t.uid ∉ refs d := fun h => by
        obtain ⟨t', ht', hx'⟩ := (hrefs _).mp h
        exact root_not_below hu t ht t' ht' hx'
      simpa using this
  · intro t ht
    have h2 : (uids t).length ≤ (d.map (·.1)).length :=
      ((uids_sublist ht).nodup hu).length_le_of_subset fun x hx => (hkeysd x).mpr ⟨t, ht, hx⟩
    rw [List.length_map] at h2
    exact Nat.le_trans (height_le t) h2

end PM.CI
