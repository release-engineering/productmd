import ProductMD.Proofs.ImagesSerialize
/-!
The reader on a document whose image table has unique keys: it visits exactly the table's entries, in order, and —
when every entry is the dictionary of a valid image, every arch key is admissible and no two images collide —
files each of them under its variant and arch with a fresh object identity.
-/
namespace PM.Img
open PM PM.PyOps PM.Spec

/-- every object identity in use is below the counter `n` from which `loadTriples` hands out fresh ones -/
def IdsBelow (n : Nat) (cs : Cells) : Prop := ∀ e ∈ entries cs, e.2.2.1 < n

/-- the reader's three loops as one loop over the entries of the table, a one-element `loadCell` each (`loadVariants_eq`) -/
def loadTriples (ver images : PyVal) : List (Str × Str × PyVal) → ImgState × Nat → Except Err (ImgState × Nat)
  | [], acc => .ok acc
  | t :: ts, acc => (loadCell ver images (.str t.1) (.str t.2.1) [t.2.2] acc).bind (loadTriples ver images ts)

theorem loadTriples_append (ver images : PyVal) (t1 t2 : List (Str × Str × PyVal)) (acc : ImgState × Nat) :
    loadTriples ver images (t1 ++ t2) acc = (loadTriples ver images t1 acc).bind (loadTriples ver images t2) := by
  induction t1 generalizing acc with
  | nil => rfl
  | cons t rest ih =>
    simp only [List.cons_append, loadTriples]
    cases loadCell ver images (.str t.1) (.str t.2.1) [t.2.2] acc with
    | error e => rfl
    | ok acc' => exact ih acc'

theorem loadCell_cons (ver images variant arch : PyVal) (d : PyVal) (rest : List PyVal) (acc : ImgState × Nat) :
    loadCell ver images variant arch (d :: rest) acc
      = (loadCell ver images variant arch [d] acc).bind (loadCell ver images variant arch rest) := by
  obtain ⟨s, n⟩ := acc
  simp only [loadCell, bind, Except.bind]
  cases Image.deserialize ver d with
  | error e => rfl
  | ok img =>
    simp only
    cases versionTuple ver with
    | error e => rfl
    | ok vt =>
      simp only
      cases gateEval Gen.gate_images_Images_deserialize_0 vt with
      | error e => rfl
      | ok old =>
        simp only
        cases fileLoaded old s images variant arch n img with
        | error e => rfl
        | ok s' => rfl

theorem loadCell_eq (ver images : PyVal) (v a : Str) (l : List PyVal) (acc : ImgState × Nat) :
    loadCell ver images (.str v) (.str a) l acc = loadTriples ver images (l.map fun d => (v, a, d)) acc := by
  induction l generalizing acc with
  | nil => rfl
  | cons d rest ih =>
    rw [loadCell_cons]
    simp only [List.map_cons, loadTriples]
    cases loadCell ver images (.str v) (.str a) [d] acc with
    | error e => rfl
    | ok acc' => exact ih acc'

/-- the arch level of `OutCells.toPy`: the dict `payload["images"][variant]` -/
def archsPy (as : List (Str × List PyVal)) : PyVal := .dict (as.map fun al => (al.1, .list al.2))

theorem toPy_eq (o : OutCells) : o.toPy = .dict (o.map fun va => (va.1, archsPy va.2)) := rfl

theorem iter_archsPy (as : List (Str × List PyVal)) : iter (archsPy as) = .ok (as.map fun al => .str al.1) := by
  simp [archsPy, iter, List.map_map, Function.comp_def]

theorem iter_toPy (o : OutCells) : iter o.toPy = .ok (o.map fun va => .str va.1) := by
  simp [toPy_eq, iter, List.map_map, Function.comp_def]

theorem subscript_archsPy {as : List (Str × List PyVal)} (hn : (as.map (·.1)).Nodup) {a : Str} {l : List PyVal} (h : (a, l) ∈ as) :
    subscript (archsPy as) (.str a) = .ok (.list l) := by
  simp only [archsPy, subscript, find_key (fun l => PyVal.list l) as a l hn h]

theorem subscript_toPy {o : OutCells} (hn : (o.map (·.1)).Nodup) {v : Str} {as : List (Str × List PyVal)} (h : (v, as) ∈ o) :
    subscript o.toPy (.str v) = .ok (archsPy as) := by
  simp only [toPy_eq, subscript, find_key archsPy o v as hn h]

theorem loadArches_eq (ver images : PyVal) (v : Str) (as : List (Str × List PyVal)) (hn : (as.map (·.1)).Nodup) :
    ∀ (rest : List (Str × List PyVal)), (∀ al ∈ rest, al ∈ as) → ∀ acc,
      loadArches ver images (.str v) (archsPy as) (rest.map fun al => .str al.1) acc
        = loadTriples ver images (archTriples v rest) acc := by
  intro rest
  induction rest with
  | nil => intro _ acc; rfl
  | cons al rest ih =>
    intro hsub acc
    obtain ⟨a, l⟩ := al
    simp only [List.map_cons, loadArches, subscript_archsPy hn (hsub (a, l) List.mem_cons_self), bind, Except.bind, iter]
    rw [archTriples_cons, loadTriples_append, loadCell_eq]
    simp only
    cases loadTriples ver images (l.map fun d => (v, a, d)) acc with
    | error e => rfl
    | ok acc' => exact ih (fun x hx => hsub x (List.mem_cons_of_mem _ hx)) acc'

theorem loadVariants_eq (ver : PyVal) (o : OutCells) (hn : OutNodup o) :
    ∀ (rest : OutCells), (∀ va ∈ rest, va ∈ o) → ∀ acc,
      loadVariants ver o.toPy (rest.map fun va => .str va.1) acc = loadTriples ver o.toPy (outTriples rest) acc := by
  intro rest
  induction rest with
  | nil => intro _ acc; rfl
  | cons va rest ih =>
    intro hsub acc
    obtain ⟨v, as⟩ := va
    have hmem : (v, as) ∈ o := hsub (v, as) List.mem_cons_self
    simp only [List.map_cons, loadVariants, subscript_toPy hn.1 hmem, iter_archsPy, bind, Except.bind]
    rw [outTriples_cons, loadTriples_append, loadArches_eq ver o.toPy v as (hn.2 (v, as) hmem) as (fun _ h => h)]
    simp only
    cases loadTriples ver o.toPy (archTriples v as) acc with
    | error e => rfl
    | ok acc' => exact ih (fun x hx => hsub x (List.mem_cons_of_mem _ hx)) acc'

theorem triples_cellsAdd (v a : Str) (n : Nat) (i : Image) (cs : Cells) (h : IdsBelow n cs) :
    (triples (cellsAdd cs v a n i)).Perm ((v, a, i) :: triples cs) ∧ IdsBelow (n + 1) (cellsAdd cs v a n i) := by
  have hp := cellsAdd_perm v a n i cs (fun e he => Nat.ne_of_lt (h e he))
  constructor
  · exact hp.map (fun e => (e.1, e.2.1, e.2.2.2))
  · intro e he
    rcases List.mem_cons.mp (hp.mem_iff.mp he) with rfl | h'
    · exact Nat.lt_succ_self _
    · exact Nat.lt_succ_of_lt (h e h')

/-- `rd` names the image each entry is read as.  `A` is a family inside which no two images collide: everything filed so far and
everything about to be read lies in it. -/
theorem loadTriples_good (images : PyVal) (rd : PyVal → Image) (A : List Image)
    (hA : ∀ i ∈ A, ∀ j ∈ A, SameIdentity i j → PyEq i.checksums j.checksums) :
    ∀ (ts : List (Str × Str × PyVal)) (s : ImgState) (n : Nat),
      (∀ t ∈ ts, Image.deserialize (.str currentVersion) t.2.2 = .ok (rd t.2.2) ∧ rd t.2.2 ∈ A ∧ C10.Admissible t.2.1) →
      s.version = .str currentVersion → (∀ x ∈ s.cells.all, x ∈ A) → IdsBelow n s.cells →
      ∃ s', loadTriples (.str currentVersion) images ts (s, n) = .ok (s', n + ts.length)
        ∧ s'.version = s.version ∧ s'.compose = s.compose
        ∧ (triples s'.cells).Perm (ts.map (fun t => (t.1, t.2.1, rd t.2.2)) ++ triples s.cells) := by
  intro ts
  induction ts with
  | nil => intro s n _ _ _ _; exact ⟨s, rfl, rfl, rfl, List.Perm.refl _⟩
  | cons t rest ih =>
    intro s n hts hs hsub hids
    obtain ⟨v, a, d⟩ := t
    obtain ⟨hd, hiA, ha⟩ := hts (v, a, d) List.mem_cons_self
    simp only at hd hiA ha
    have hc : conflict s.cells (rd d) = false := by
      rw [conflict_false_iff]
      intro cur hcur hid
      exact hA cur (hsub cur hcur) (rd d) hiA hid
    have hfile : fileLoaded false s images (.str v) (.str a) n (rd d) = .ok { s with cells := cellsAdd s.cells v a n (rd d) } := by
      rw [fileLoaded, addPy, add_accepts s v a n (rd d) (hs ▸ cur_enforces) ha hc]
      rfl
    obtain ⟨htr, hids'⟩ := triples_cellsAdd v a n (rd d) s.cells hids
    have hsub' : ∀ x ∈ (cellsAdd s.cells v a n (rd d)).all, x ∈ A := by
      intro x hx
      rcases mem_cellsAdd hx with rfl | h'
      · exact hiA
      · exact hsub x h'
    obtain ⟨s', hl, hv', hc', hp'⟩ := ih { s with cells := cellsAdd s.cells v a n (rd d) } (n + 1)
      (fun u hu => hts u (List.mem_cons_of_mem _ hu)) hs hsub' hids'
    refine ⟨s', ?_, hv', hc', ?_⟩
    · rw [List.length_cons, ← Nat.add_assoc, Nat.add_right_comm]
      -- the dictionary is read, filed through `add` (current version: no re-filing), and the loop goes on
      exact Returns.bind (Returns.bind hd <| Returns.bind cur_vt <| Returns.bind cur_not_old_images <| Returns.bind hfile rfl) hl
    · refine hp'.trans ?_
      simp only [List.map_cons, List.cons_append]
      exact (List.Perm.append_left _ htr).trans List.perm_middle

theorem header_roundtrip (p : PyVal) :
    headerDeserialize (.dict [(L "header", .dict [(L "type", .str Gen.HEADER_TYPE_Images), (L "version", .str currentVersion)]),
      (L "payload", p)]) = .ok (.str currentVersion) := by rfl

/-- the total reader: the image a dictionary is read as under the current format version -/
def readC (d : PyVal) : Image :=
  match Image.deserialize (.str currentVersion) d with
  | .ok i => i
  | .error _ => default

/-- `f i` is the dictionary the table holds for the image `i` of `m`, `g i` what it is read as (`f = Image.dict`, `g = id`: the
written document; `f = canon ∘ Image.dict`, `g = canonC`: the key-sorted one) -/
theorem deserialize_written (m : ImgState) (f : Image → PyVal) (g : Image → Image)
    (hread : ∀ i ∈ m.cells.all, Image.deserialize (.str currentVersion) (f i) = .ok (g i))
    (hA : ∀ i ∈ m.cells.all, ∀ j ∈ m.cells.all, SameIdentity (g i) (g j) → PyEq (g i).checksums (g j).checksums)
    (ha : ∀ t ∈ triples m.cells, C10.Admissible t.2.1)
    (O : OutCells) (hON : OutNodup O) (hOP : (outTriples O).Perm ((triples m.cells).map fun t => (t.1, t.2.1, f t.2.2)))
    (payload : PyVal) (c : Compose) (hc : Compose.deserialize (.str currentVersion) payload = .ok c)
    (hi : item payload (L "images") = .ok O.toPy) :
    ∃ m', deserialize (.dict [(L "header", .dict [(L "type", .str Gen.HEADER_TYPE_Images), (L "version", .str currentVersion)]),
        (L "payload", payload)]) = .ok m'
      ∧ m'.compose = c ∧ m'.version = .str currentVersion
      ∧ (triples m'.cells).Perm ((triples m.cells).map fun t => (t.1, t.2.1, g t.2.2)) := by
  have hrd : ∀ u ∈ triples m.cells, readC (f u.2.2) = g u.2.2 := fun u hu => by simp [readC, hread _ (mem_all_of_triple hu)]
  obtain ⟨s', hl, _, hc', hp'⟩ := loadTriples_good O.toPy readC (m.cells.all.map g)
    (by
      intro i' hi' j' hj'
      obtain ⟨i, hi0, rfl⟩ := List.mem_map.mp hi'
      obtain ⟨j, hj0, rfl⟩ := List.mem_map.mp hj'
      exact hA i hi0 j hj0)
    (outTriples O) { version := .str currentVersion, compose := c, cells := [] } 0
    (by
      intro t ht
      obtain ⟨u, hu, rfl⟩ := List.mem_map.mp (hOP.mem_iff.mp ht)
      exact ⟨hrd u hu ▸ hread _ (mem_all_of_triple hu), hrd u hu ▸ List.mem_map.mpr ⟨_, mem_all_of_triple hu, rfl⟩, ha u hu⟩)
    rfl (fun _ hx => nomatch hx) (fun _ he => nomatch he)
  rw [← loadVariants_eq (.str currentVersion) O hON O (fun _ h => h)] at hl
  refine ⟨_, Returns.bind (header_roundtrip payload) <| Returns.bind rfl <| Returns.bind hc <| Returns.bind hi <| Returns.bind (iter_toPy O) <|
    Returns.bind hl rfl, hc', rfl, (List.append_nil _ ▸ hp').trans ((hOP.map _).trans ?_)⟩
  rw [List.map_map]
  exact .of_eq (List.map_congr_left fun u hu => by simp only [Function.comp, hrd u hu])

end PM.Img
