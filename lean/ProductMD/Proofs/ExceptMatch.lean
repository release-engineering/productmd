import ProductMD.Model.Py
import ProductMD.Proofs.ExceptLemmas
/-! `bind_ok` (here `matchV_ok`) and the `Post` rules (`Post.matchV`, `.matchU`, `.matchValidated`) for the model functions that spell a bind as `match x with | .error e => .error e | .ok a => f a`.

There is a rule per result type of `x`.  A `match` in a model function elaborates to a matcher constant of that function at that type; a rule
stated with a type variable there gets a matcher with one more parameter, which does not unify with the model's, while with the type concrete
both matchers unfold to the same term.  The discriminant must not be a closed `validateClass …`, which the unifier would evaluate: files that
use the rules on such a reader say `attribute [local irreducible] validateClass`. -/
namespace PM

theorem matchV_ok {β : Type} {x : Except Err PyVal} {f : PyVal → Except Err β} {b : β}
    (h : ((match x with | .error e => .error e | .ok a => f a) : Except Err β) = .ok b) : ∃ a, x = .ok a ∧ f a = .ok b := by
  cases x with
  | error e => cases h
  | ok a => exact ⟨a, rfl, h⟩

namespace Post

theorem matchV {β : Type} {x : Except Err PyVal} {f : PyVal → Except Err β} {P : β → Prop} (h : ∀ a, x = .ok a → Post (f a) P) :
    Post (match x with | .error e => .error e | .ok a => f a) P := by
  cases x with
  | error e => exact .error
  | ok a => exact h a rfl

theorem matchU {β : Type} {check : Except Err Unit} {r : Except Err β} {P : β → Prop} (h : check = .ok () → Post r P) :
    Post (match check with | .error e => .error e | .ok () => r) P := by
  cases check with
  | error e => exact .error
  | ok u => exact h rfl

theorem matchValidated {α : Type} {check : Except Err Unit} {a : α} {P : α → Prop} (h : check = .ok () → P a) :
    Post (match check with | .error e => .error e | .ok () => .ok a) P :=
  matchU fun hc => .ok (h hc)

end Post
end PM
