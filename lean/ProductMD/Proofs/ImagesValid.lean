import ProductMD.Spec.Images
import ProductMD.Proofs.RulesEq
/-!
Facts extracted from `Image.validate() = ok` through the generated rule list (`Gen.rules_images_Image`): each is
obtained from the presence of the corresponding rule in the list, so deleting or weakening a validator in the
source makes the lemma (and what depends on it) fail to build.  That a rule is in the list is decided (equality of
rules is decidable, `Spec/ValWords.lean`); what a passed rule says about the value is proved once, for any object and
attribute name.
-/
namespace PM.Img
open PM PM.PyOps

theorem validate_unfold (i : Image) : i.validate = runRules customs i.toObj Gen.rules_images_Image.flat := by
  rfl

section
variable {cu : Str → Obj → Except Err Unit}

theorem type_bool {o : Obj} {f : Str} (h : Rule.check cu o (.type f [.bool]) = .ok ()) : ∃ b, o.get f = .bool b := by
  have h1 := Rule.check_type_ok h
  cases hv : o.get f with
  | bool b => exact ⟨b, rfl⟩
  | _ => rw [hv] at h1; cases h1

theorem type_str {o : Obj} {f : Str} (h : Rule.check cu o (.type f [.str]) = .ok ()) : ∃ s, o.get f = .str s := by
  have h1 := Rule.check_type_ok h
  cases hv : o.get f with
  | str s => exact ⟨s, rfl⟩
  | _ => rw [hv] at h1; cases h1

theorem type_list {o : Obj} {f : Str} (h : Rule.check cu o (.type f [.list]) = .ok ()) : ∃ l, o.get f = .list l := by
  have h1 := Rule.check_type_ok h
  cases hv : o.get f with
  | list l => exact ⟨l, rfl⟩
  | _ => rw [hv] at h1; cases h1

theorem type_dict {o : Obj} {f : Str} (h : Rule.check cu o (.type f [.dict]) = .ok ()) : ∃ kvs, o.get f = .dict kvs := by
  have h1 := Rule.check_type_ok h
  cases hv : o.get f with
  | dict kvs => exact ⟨kvs, rfl⟩
  | _ => rw [hv] at h1; cases h1

theorem type_none_str {o : Obj} {f : Str} (h : Rule.check cu o (.type f [.none, .str]) = .ok ()) :
    o.get f = .none ∨ ∃ s, o.get f = .str s := by
  have h1 := Rule.check_type_ok h
  cases hv : o.get f with
  | none => exact Or.inl rfl
  | str s => exact Or.inr ⟨s, rfl⟩
  | _ => rw [hv] at h1; cases h1

/-- a passed `_assert_type(f, [int])`: the value is an int proper, not a bool.  `_assert_type` (common.py) accepts a bool only where
`bool` is listed; the model takes that from the body of the method as the flag `Gen.assertTypeBoolStrict`.  The flag is not in the
statement: the `bool` case below closes because `assertTypeOk` evaluates to `false` there under the flag, and with the bare isinstance
loop (flag `false`) it would not. -/
theorem type_int_strict {o : Obj} {f : Str} (h : Rule.check cu o (.type f [.int]) = .ok ()) : ∃ n, o.get f = .int n := by
  have h1 := Rule.check_type_ok h
  cases hv : o.get f with
  | int n => exact ⟨n, rfl⟩
  | _ => rw [hv] at h1; cases h1

end

/-- the shape the validators force on the nine attributes that hold strings, None or bools and on the two containers (the four
integers: `Spec.ProperInts`) -/
structure Typed (i : Image) : Prop where
  path : ∃ s, i.path = .str s
  type : ∃ s, i.type = .str s
  format : ∃ s, i.format = .str s
  arch : ∃ s, i.arch = .str s
  subvariant : ∃ s, i.subvariant = .str s
  volume_id : i.volume_id = .none ∨ ∃ s, i.volume_id = .str s
  implant_md5 : i.implant_md5 = .none ∨ ∃ s, i.implant_md5 = .str s
  bootable : ∃ b, i.bootable = .bool b
  unified : ∃ b, i.unified = .bool b
  checksums : ∃ kvs, i.checksums = .dict kvs
  additional_variants : ∃ l, i.additional_variants = .list l
  merges : (i.additional_variants.truthy && !i.unified.truthy) = false

/-- everything the proofs use of `Image.validate() = ok`: every rule named here is in the generated list, and
`i.toObj.get "f"` is the attribute `f`.  The field names are written as character lists so that `decide +kernel` finds each rule
in the list without decoding a string literal. -/
theorem valid_inv (i : Image) (h : i.validate = .ok ()) : Typed i ∧ Spec.ProperInts i := by
  rw [validate_unfold] at h
  have r := (runRules_ok_iff _ _ _).mp h
  exact ⟨⟨type_str (f := ['p','a','t','h']) (r _ (by decide +kernel)), type_str (f := ['t','y','p','e']) (r _ (by decide +kernel)),
      type_str (f := ['f','o','r','m','a','t']) (r _ (by decide +kernel)), type_str (f := ['a','r','c','h']) (r _ (by decide +kernel)),
      type_str (f := ['s','u','b','v','a','r','i','a','n','t']) (r _ (by decide +kernel)),
      type_none_str (f := ['v','o','l','u','m','e','_','i','d']) (r _ (by decide +kernel)),
      type_none_str (f := ['i','m','p','l','a','n','t','_','m','d','5']) (r _ (by decide +kernel)),
      type_bool (f := ['b','o','o','t','a','b','l','e']) (r _ (by decide +kernel)), type_bool (f := ['u','n','i','f','i','e','d']) (r _ (by decide +kernel)),
      type_dict (f := ['c','h','e','c','k','s','u','m','s']) (r _ (by decide +kernel)),
      type_list (f := ['a','d','d','i','t','i','o','n','a','l','_','v','a','r','i','a','n','t','s']) (r _ (by decide +kernel)),
      (Rule.check_failIf_iff (c := .and (.truthy ['a','d','d','i','t','i','o','n','a','l','_','v','a','r','i','a','n','t','s'])
        (.not (.truthy ['u','n','i','f','i','e','d']))) |>.mp (r _ (by decide +kernel))).2⟩,
    type_int_strict (f := ['m','t','i','m','e']) (r _ (by decide +kernel)), type_int_strict (f := ['s','i','z','e']) (r _ (by decide +kernel)),
    type_int_strict (f := ['d','i','s','c','_','n','u','m','b','e','r']) (r _ (by decide +kernel)),
    type_int_strict (f := ['d','i','s','c','_','c','o','u','n','t']) (r _ (by decide +kernel))⟩

theorem typed_of_valid (i : Image) (h : i.validate = .ok ()) : Typed i := (valid_inv i h).1

/-- ints proper, no bools (`type_int_strict`; finding F22) -/
theorem valid_properInts (i : Image) (h : i.validate = .ok ()) : Spec.ProperInts i := (valid_inv i h).2

end PM.Img
