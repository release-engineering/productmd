import ProductMD.Proofs.RulesAgree
import ProductMD.Proofs.PermR
import ProductMD.Proofs.JEq
/-!
The translated validator idiom cannot tell two objects apart whose attribute values are the same content (`JEq`: equal up
to the order of dict entries): `JEq` values are `VSim` (Proofs/RulesAgree), and `ObjEq` objects have `JEq` values under every
attribute name.  `runRules_jeq` is the form for rule lists without hand-bound (`custom`) rules (no `Rule.customNames`); the class C08
needs it for, `images.Image`, has none.  With hand-bound rules: `Rule.check_sim`.
-/
namespace PM

/-- same attribute names in the same order, values the same content -/
def ObjEq (o o' : Obj) : Prop := All2 (fun a b => a.1 = b.1 ∧ JEq a.2 b.2) o o'

theorem ObjEq.refl (o : Obj) : ObjEq o o := All2.refl (fun a => ⟨rfl, .refl a.2⟩) o

theorem ObjEq.get : ∀ {o o' : Obj}, ObjEq o o' → ∀ f : Str, JEq (o.get f) (o'.get f)
  | _, _, .nil, _ => .refl _
  | _, _, @All2.cons _ _ _ a b l l' r t, f => by
    have ih := ObjEq.get t f
    simp only [Obj.get, List.find?_cons] at ih ⊢
    rw [← r.1]
    cases a.1 == f
    · exact ih
    · exact r.2

theorem VSim.of_jeq {a b : PyVal} (h : JEq a b) : VSim a b :=
  ⟨h.isinstance_eq, h.isBool_eq, h.truthy_eq, fun _ e => (e ▸ h).str_left⟩

theorem runRules_jeq (customs : Str → Obj → Except Err Unit) {o o' : Obj} (h : ObjEq o o') (rs : List Rule)
    (hn : rs.flatMap Rule.customNames = []) : runRules customs o rs = runRules customs o' rs :=
  runRules_sim customs rs (fun _ _ f _ => .of_jeq (h.get f)) fun r hr n hm => by
    have hmem : n ∈ rs.flatMap Rule.customNames := List.mem_flatMap.mpr ⟨r, hr, hm⟩
    rw [hn] at hmem
    cases hmem

end PM
