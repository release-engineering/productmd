import ProductMD.Proofs.C05TreeInfo
import ProductMD.Proofs.C14Str
/-!
C05, treeinfo idempotence: what the legacy-aware reader establishes of C04's side conditions.

* the build timestamp of a loaded tree is an integer (every reader goes through `int(...)`),
* top-level variants are filed under `uid or id` — under their UID whenever it is not empty (no F8 through a load),
* checksums: dictionary keys, type and value free of `:` (both syntaxes of the reader),
* images: every platform's image names are dictionary keys.
-/
namespace PM.TI.Legacy
open PM PM.TI PM.Ini

theorem addKid_ok {acc r : List Variant} {v : Variant} (h : addKid acc v = .ok r) : r = acc ++ [v] := by
  unfold addKid at h
  split at h
  · cases h
  · injection h with h; exact h.symm

theorem loopFile_all (P : Variant → Prop) (rd : Str → Except Err Variant) (hrd : ∀ u v, rd u = .ok v → P v) :
    ∀ (us : List Str) (acc r : List Variant), (∀ v ∈ acc, P v) → loopFile rd us acc = .ok r → ∀ v ∈ r, P v
  | [], acc, r, ha, h => by simp only [loopFile] at h; injection h with h; subst h; exact ha
  | u :: us, acc, r, ha, h => by
    simp only [loopFile] at h
    cases hu : rd u with
    | error e => rw [hu] at h; cases h
    | ok v =>
      rw [hu] at h
      simp only at h
      cases hk : addKid acc v with
      | error e => rw [hk] at h; cases h
      | ok acc' =>
        rw [hk] at h
        simp only at h
        refine loopFile_all P rd hrd us acc' r ?_ h
        rw [addKid_ok hk]
        intro w hw
        rcases List.mem_append.mp hw with hw | hw
        · exact ha w hw
        · simp only [List.mem_singleton] at hw; rw [hw]; exact hrd u v hu

theorem fileTop_key {v w : Variant} (h : fileTop v = .ok w) : w.key = (if w.uid.isEmpty then w.id else w.uid) := by
  cases v with
  | mk k id uid name type paths kids =>
    simp only [fileTop] at h
    cases hv : validateClass "treeinfo.Variant" (variantObj none id uid name type kids) with
    | error e => rw [hv] at h; cases h
    | ok u => rw [hv] at h; cases h; rfl

theorem deTopsL_keys {S : Sels} {c : VCtx} {d : Ini} {tops : List Variant} (h : deTopsL S c d = .ok tops) :
    ∀ v ∈ tops, v.key = (if v.uid.isEmpty then v.id else v.uid) := by
  obtain ⟨uids, hl⟩ := ((deTopsL_post _ _ _).elim h).1
  refine loopFile_all _ _ (fun u v hv => ?_) uids [] tops (fun v hv => nomatch hv) hl
  obtain ⟨x, _, hx⟩ := bind_ok hv
  exact fileTop_key hx

theorem deserialize_tree_tops (fo : FloatOracle) (d : Ini) (t : TreeInfo) (h : deserialize fo d = .ok t) :
    (∃ n, t.tree.ts = .int n) ∧ ∀ v ∈ t.variants, v.key = (if v.uid.isEmpty then v.id else v.uid) := by
  obtain ⟨_, _, S, _, _, _, _, _, _, htree, htops, _⟩ := deserialize_iff.mp h
  exact ⟨((deTreeL_post _ _ _).elim htree).1, deTopsL_keys htops⟩

theorem setKV_preserves {α} (P : α → Prop) (k : Str) (v : α) (hv : P v) (l : List (Str × α)) (hn : (l.map (·.1)).Nodup) (hl : ∀ x ∈ l, P x.2) :
    ((setKV k v l).map (·.1)).Nodup ∧ ∀ x ∈ setKV k v l, P x.2 := by
  refine ⟨?_, fun x hx => (mem_setKV k v l x hx).elim (fun e => e ▸ hv) (hl x)⟩
  cases h : l.lookup k with
  | some _ =>
    rw [keys_setKV_of_mem k v l (by rw [h]; rfl)]
    exact hn
  | none =>
    have hk := Assoc.lookup_none_iff.mp h
    rw [setKV_append_fresh k v l hk, List.map_append]
    refine List.nodup_append.mpr ⟨hn, List.nodup_cons.mpr ⟨List.not_mem_nil, List.nodup_nil⟩, fun a ha b hb e => ?_⟩
    rw [List.map_singleton, List.mem_singleton] at hb
    subst hb
    subst e
    exact hk ha

theorem checksumOf_nocolon (value : Str) (tv : Str × Str) (h : checksumOf value = .ok tv) : ':' ∉ tv.1 ∧ ':' ∉ tv.2 := by
  unfold checksumOf at h
  split at h
  · rename_i hc
    have hv : ':' ∉ value := by simpa using hc
    -- the bare form: the type is one of three literal names (chosen by the length), the value is the option's value
    have named : ∀ ty : Str, ':' ∉ ty → (.ok (ty, value) : Except Err (Str × Str)) = .ok tv → ':' ∉ tv.1 ∧ ':' ∉ tv.2 := by
      intro ty hty e
      injection e with e
      subst e
      exact ⟨hty, hv⟩
    split at h
    · cases h
    · split at h
      · exact named _ (by simp) h
      · split at h
        · exact named _ (by simp) h
        · split at h
          · exact named _ (by simp) h
          · cases h
  · split at h
    · rename_i a b hs
      injection h with h
      subst h
      have hm : ∀ x ∈ [a, b], x ∈ Str.splitOn ':' value := fun x hx => hs ▸ hx
      exact ⟨C14.not_mem_of_mem_splitOn (hm a (by simp)), C14.not_mem_of_mem_splitOn (hm b (by simp))⟩
    · cases h

theorem deChecksumItemsL_checksumsOK (fix : Bool) : ∀ (its : List (Str × Str)) (acc r : List (Str × Str × Str)),
    ChecksumsOK acc → deChecksumItemsL fix its acc = .ok r → ChecksumsOK r
  | [], acc, r, ha, h => by simp only [deChecksumItemsL] at h; injection h with h; subst h; exact ha
  | kv :: rest, acc, r, ha, h => by
    simp only [deChecksumItemsL] at h
    cases hc : checksumOf kv.2 with
    | error e => rw [hc] at h; cases h
    | ok tv =>
      rw [hc] at h
      simp only at h
      have := setKV_preserves (fun (x : Str × Str) => ':' ∉ x.1 ∧ ':' ∉ x.2) (fixPath fix kv.1) tv (checksumOf_nocolon _ _ hc) acc ha.1 ha.2
      exact deChecksumItemsL_checksumsOK fix rest _ r ⟨this.1, this.2⟩ h

theorem deChecksumsL_checksumsOK {fix : Bool} {d : Ini} {cs : List (Str × Str × Str)} (h : deChecksumsL fix d = .ok cs) :
    ChecksumsOK cs := by
  have hcs := ((deChecksumsL_post _ _).elim h).1
  have h0 : ChecksumsOK [] := ⟨by simp, by simp⟩
  split at hcs
  · obtain ⟨its, _, hcs⟩ := bind_ok hcs
    exact deChecksumItemsL_checksumsOK fix its [] cs h0 hcs
  · cases hcs
    exact h0

theorem foldl_setKV_nodup (f : Str → Str) : ∀ (its m : List (Str × Str)), (m.map (·.1)).Nodup →
    ((its.foldl (fun m kv => setKV kv.1 (f kv.2) m) m).map (·.1)).Nodup
  | [], m, h => h
  | kv :: rest, m, h => by
    simp only [List.foldl_cons]
    exact foldl_setKV_nodup f rest _ (setKV_preserves (fun _ => True) kv.1 (f kv.2) trivial m h (fun _ _ => trivial)).1

theorem deImageSectionsL_nodup (fix : Bool) (d : Ini) (arch : Str) : ∀ (ss : List Str) (acc r : List (Str × List (Str × Str))),
    ((acc.map (·.1)).Nodup ∧ ∀ p ∈ acc, (p.2.map (·.1)).Nodup) → deImageSectionsL fix d arch ss acc = .ok r →
    (r.map (·.1)).Nodup ∧ ∀ p ∈ r, (p.2.map (·.1)).Nodup
  | [], acc, r, ha, h => by simp only [deImageSectionsL] at h; injection h with h; subst h; exact ha
  | s :: ss, acc, r, ha, h => by
    simp only [deImageSectionsL] at h
    split at h
    · cases hi : items d s with
      | error e => rw [hi] at h; cases h
      | ok its =>
        rw [hi] at h
        simp only at h
        exact deImageSectionsL_nodup fix d arch ss _ r
          (setKV_preserves (fun (x : List (Str × Str)) => (x.map (·.1)).Nodup) _ _
            (foldl_setKV_nodup (fixPath fix) its [] (by simp)) acc ha.1 ha.2) h
    · exact deImageSectionsL_nodup fix d arch ss acc r ha h

theorem deImagesL_nodup {fix : Bool} {d : Ini} {tree : Tree} {im : List (Str × List (Str × Str))} (h : deImagesL fix d tree = .ok im) :
    ∀ p ∈ im, (p.2.map (·.1)).Nodup :=
  (deImageSectionsL_nodup fix d _ _ [] im ⟨by simp, by simp⟩ ((deImagesL_post _ _ _).elim h).1).2

theorem deserialize_cs_images (fo : FloatOracle) (d : Ini) (t : TreeInfo) (h : deserialize fo d = .ok t) :
    ChecksumsOK t.checksums ∧ ∀ p ∈ t.images, (p.2.map (·.1)).Nodup := by
  obtain ⟨_, _, S, _, _, _, _, _, _, _, _, hcs, him, _⟩ := deserialize_iff.mp h
  exact ⟨deChecksumsL_checksumsOK hcs, deImagesL_nodup him⟩

end PM.TI.Legacy
