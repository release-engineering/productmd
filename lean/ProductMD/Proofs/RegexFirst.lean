import ProductMD.Proofs.RegexBasic
/-!
First success of the backtracking matcher (`pyMatch` = head of the list of successes of `mc`).

`first f r F s c` is backtracking with a continuation: `F` is run after each success of `r`, in priority order, until it
answers.  It has an equation for `eps`, `bol`, `eol`, `cls`, `cat`, `alt` and `grp`; a star only in the closed forms for a greedy
class-star (`first_star_cls`: the cuts of the leading run of the class, longest prefix first, `splits`), `k{n}` and `k+`,
which is what the library's patterns need.  So the first success of a concrete pattern is computed by rewriting, failure
included; `head?_eq_first` ties it to `pyMatch`.
-/
namespace PM.First
open PM

@[simp] theorem mc_eps (f s c) : mc f .eps s c = [(s, c)] := rfl
@[simp] theorem mc_bol (f s c) : mc f .bol s c = [(s, c)] := rfl
theorem mc_eol (f s c) : mc f .eol s c = if isEol s then [(s, c)] else [] := rfl
@[simp] theorem mc_bad (f s c) : mc f .bad s c = [] := rfl
@[simp] theorem mc_cls_nil (f k c) : mc f (.cls k) [] c = [] := rfl
theorem mc_cls_cons (f k x xs c) : mc f (.cls k) (x :: xs) c = if k.mem x then [(xs, c)] else [] := rfl
theorem mc_cat (f a b s c) : mc f (.cat a b) s c = (mc f a s c).flatMap (fun p => mc f b p.1 p.2) := rfl
theorem mc_alt (f a b s c) : mc f (.alt a b) s c = mc f a s c ++ mc f b s c := rfl
theorem mc_star (f a s c) : mc f (.star a) s c = starAuxC (mc f a) f s c := rfl
theorem mc_grp (f n a s c) : mc f (.grp n a) s c =
    (mc f a s c).map (fun p => (p.1, (n, s.take (s.length - p.1.length)) :: p.2)) := rfl
@[simp] theorem starAuxC_zero (body s c) : starAuxC body 0 s c = [(s, c)] := rfl
theorem starAuxC_succ (body f s c) : starAuxC body (f+1) s c =
    ((body s c).filter (fun p => p.1.length < s.length)).flatMap (fun p => starAuxC body f p.1 p.2) ++ [(s, c)] := rfl

theorem starAuxC_fst (bodyC : Str → Caps → List (Str × Caps)) (body : Str → List Str)
    (h : ∀ s c, (bodyC s c).map Prod.fst = body s) :
    ∀ (n : Nat) (s : Str) (c : Caps), (starAuxC bodyC n s c).map Prod.fst = starAux body n s := by
  intro n
  induction n with
  | zero => intro s c; rfl
  | succ n ih =>
    intro s c
    rw [starAuxC_succ, starAux_succ, List.map_append, List.map_flatMap]
    congr 1
    rw [← h s c, List.filter_map, List.flatMap_map]
    congr 1
    funext p
    exact ih p.1 p.2

theorem mc_fst : ∀ (r : Re) (f : Nat) (s : Str) (c : Caps), (mc f r s c).map Prod.fst = m f r s := by
  intro r
  induction r with
  | eps | bol | bad => intro f s c; rfl
  | eol => intro f s c; rw [mc_eol, m_eol]; split <;> rfl
  | cls k =>
    intro f s c
    cases s with
    | nil => rfl
    | cons x xs => rw [mc_cls_cons, m_cls_cons]; split <;> rfl
  | cat a b iha ihb =>
    intro f s c
    rw [mc_cat, m_cat, List.map_flatMap, ← iha f s c, List.flatMap_map]
    congr 1
    funext p
    exact ihb f p.1 p.2
  | alt a b iha ihb => intro f s c; rw [mc_alt, m_alt, List.map_append, iha, ihb]
  | star a iha => intro f s c; rw [mc_star, m_star]; exact starAuxC_fst _ _ (iha f) f s c
  | grp n a iha => intro f s c; rw [mc_grp, m_grp, List.map_map, ← iha f s c]; rfl

theorem starAuxC_cls_nil (f k n c) : starAuxC (mc f (.cls k)) n [] c = [([], c)] := by
  cases n with
  | zero => rfl
  | succ n => rw [starAuxC_succ]; rfl

theorem starAuxC_cls_not {f k n x xs c} (h : k.mem x = false) :
    starAuxC (mc f (.cls k)) n (x :: xs) c = [(x :: xs, c)] := by
  cases n with
  | zero => rfl
  | succ n => rw [starAuxC_succ, mc_cls_cons, h]; rfl

theorem starAuxC_cls_mem {f k n x xs c} (h : k.mem x = true) :
    starAuxC (mc f (.cls k)) (n+1) (x :: xs) c = starAuxC (mc f (.cls k)) n xs c ++ [(x :: xs, c)] := by
  rw [starAuxC_succ, mc_cls_cons, h]
  simp

/-- the head of the success list under a group; the equation of `first` for a group is `first_group` -/
theorem first_grp (f n a s c p) (hp : (mc f a s c).head? = some p) :
    (mc f (.grp n a) s c).head? = some (p.1, (n, s.take (s.length - p.1.length)) :: p.2) := by
  rw [mc_grp, List.head?_map, hp]; rfl

theorem span_spec (p : Char → Bool) (l : Str) :
    l = l.takeWhile p ++ l.dropWhile p ∧ (∀ x ∈ l.takeWhile p, p x = true)
    ∧ (∀ x t, l.dropWhile p = x :: t → p x = false) :=
  ⟨List.takeWhile_append_dropWhile.symm, fun x hx => List.all_eq_true.mp List.all_takeWhile x hx, fun x t h => by
    have := List.head?_dropWhile_not p l
    rw [h] at this; exact this⟩

theorem span_run (p : Char → Bool) : ∀ (w y : Str), (∀ c ∈ w, p c = true) → (∀ d y', y = d :: y' → p d = false) →
    (w ++ y).takeWhile p = w ∧ (w ++ y).dropWhile p = y := by
  intro w
  induction w with
  | nil =>
    intro y _ hy
    cases y with
    | nil => simp
    | cons d y' => simp [hy d y' rfl]
  | cons c cs ih =>
    intro y hw hy
    have hc := hw c List.mem_cons_self
    obtain ⟨h1, h2⟩ := ih y (fun c' hc' => hw c' (List.mem_cons_of_mem _ hc')) hy
    simp [hc, h1, h2]

theorem take_sub_of_eq {s u t : Str} (h : s = u ++ t) : s.take (s.length - t.length) = u := by
  subst h; simp

/-- every way to write `x = a ++ z`, as `(a, z)`, longest `a` first -/
def splits : Str → List (Str × Str)
  | [] => [([], [])]
  | x :: xs => (splits xs).map (fun p => (x :: p.1, p.2)) ++ [([], x :: xs)]

theorem splits_eq : ∀ {x : Str} {p : Str × Str}, p ∈ splits x → x = p.1 ++ p.2 := by
  intro x
  induction x with
  | nil => intro p h; rw [List.mem_singleton.mp h]; rfl
  | cons c cs ih =>
    intro p h
    rcases List.mem_append.mp h with h | h
    · obtain ⟨q, hq, rfl⟩ := List.mem_map.mp h
      exact congrArg (c :: ·) (ih hq)
    · rw [List.mem_singleton.mp h]; rfl

theorem splits_head : ∀ x : Str, ∃ L, splits x = (x, []) :: L := by
  intro x
  induction x with
  | nil => exact ⟨[], rfl⟩
  | cons c cs ih => obtain ⟨L, h⟩ := ih; exact ⟨_, by rw [splits, h]; rfl⟩

theorem findSome?_congr {α β} {l : List α} {F G : α → Option β} (h : ∀ a ∈ l, F a = G a) :
    l.findSome? F = l.findSome? G := by
  induction l with
  | nil => rfl
  | cons a l ih =>
    rw [List.findSome?_cons, List.findSome?_cons, h a List.mem_cons_self,
      ih fun b hb => h b (List.mem_cons_of_mem _ hb)]

theorem findSome?_flatMap {α β γ} (l : List α) (g : α → List β) (F : β → Option γ) :
    (l.flatMap g).findSome? F = l.findSome? fun a => (g a).findSome? F := by
  induction l with
  | nil => rfl
  | cons a l ih =>
    rw [List.flatMap_cons, List.findSome?_append, ih, List.findSome?_cons]
    cases (g a).findSome? F <;> rfl

theorem findSome?_splits_nil {β : Type} : ∀ (x : Str) (F : Str × Str → Option β),
    (∀ p ∈ splits x, p.2 ≠ [] → F p = none) → (splits x).findSome? F = F (x, []) := by
  intro x
  induction x with
  | nil => intro F _; simp [splits]
  | cons c cs ih =>
    intro F h
    rw [splits, List.findSome?_append, List.findSome?_map,
      ih (F ∘ fun p => (c :: p.1, p.2)) fun p hp hne =>
        h (c :: p.1, p.2) (List.mem_append_left _ (List.mem_map_of_mem hp)) hne]
    simp [h ([], c :: cs) (List.mem_append_right _ List.mem_cons_self) (by simp)]

theorem findSome?_splits_some {β : Type} (x : Str) (F : Str × Str → Option β) (h : (F (x, [])).isSome) :
    (splits x).findSome? F = F (x, []) := by
  obtain ⟨L, hL⟩ := splits_head x
  rw [hL, List.findSome?_cons_of_isSome h]

theorem starAuxC_cls (f : Nat) (k : Cls) (c : Caps) : ∀ (s : Str) (n : Nat), s.length ≤ n →
    starAuxC (mc f (.cls k)) n s c = (splits (s.takeWhile k.mem)).map fun p => (p.2 ++ s.dropWhile k.mem, c) := by
  intro s
  induction s with
  | nil => intro n _; rw [starAuxC_cls_nil]; rfl
  | cons x xs ih =>
    intro n hn
    cases n with
    | zero => simp at hn
    | succ n =>
      cases hx : k.mem x with
      | false => rw [starAuxC_cls_not hx]; simp [hx, splits]
      | true =>
        rw [starAuxC_cls_mem hx, ih n (Nat.le_of_succ_le_succ hn)]
        simp [hx, splits, List.map_map, Function.comp_def]

theorem mc_lit (f : Nat) (d : Char) (s : Str) (c : Caps) :
    mc f (Re.lit d) s c = match s with
      | y :: t => if y = d then [(t, c)] else []
      | [] => [] := by
  cases s with
  | nil => rfl
  | cons y t =>
    rw [Re.lit, mc_cls_cons]
    by_cases hy : y = d
    · simp [hy, Cls.lit_self]
    · simp [hy, Cls.lit_ne hy]

/-- backtracking with a continuation: run `F` after each success of `r`, in priority order, until it answers.
Irreducible: it is used through the equations below; unfolded, it becomes the list of all successes of `mc`. -/
@[irreducible] def first {β : Type} (f : Nat) (r : Re) (F : Str → Caps → Option β) (s : Str) (c : Caps) : Option β :=
  (mc f r s c).findSome? fun p => F p.1 p.2

/-- the continuation that accepts: what is left and the captures -/
abbrev ret : Str → Caps → Option (Str × Caps) := fun t c => some (t, c)

theorem head?_eq_first (f r s c) : (mc f r s c).head? = first f r ret s c := by
  unfold first
  cases mc f r s c <;> rfl

theorem first_ret_fst (f : Nat) (r : Re) (s : Str) (c : Caps) :
    (first f r ret s c).map Prod.fst = (m f r s).head? := by
  rw [← head?_eq_first, ← mc_fst r f s c, List.head?_map]

section
variable {β : Type} (f : Nat) (F : Str → Caps → Option β) (s : Str) (c : Caps)

theorem first_cat (a b : Re) : first f (.cat a b) F s c = first f a (first f b F) s c := by
  unfold first
  rw [mc_cat, findSome?_flatMap]

theorem first_alt (a b : Re) : first f (.alt a b) F s c = (first f a F s c).or (first f b F s c) := by
  unfold first
  rw [mc_alt, List.findSome?_append]

theorem first_eps : first f .eps F s c = F s c := by
  unfold first
  simp

theorem first_bol : first f .bol F s c = F s c := by
  unfold first
  simp

theorem first_eol : first f .eol F s c = if isEol s then F s c else none := by
  unfold first
  rw [mc_eol]
  split <;> simp

theorem first_cls (k : Cls) : first f (.cls k) F s c = match s with
    | y :: t => if k.mem y then F t c else none
    | [] => none := by
  unfold first
  cases s with
  | nil => rfl
  | cons y t =>
    rw [mc_cls_cons]
    dsimp only
    split <;> simp

theorem first_lit (d : Char) : first f (Re.lit d) F s c = match s with
    | y :: t => if y = d then F t c else none
    | [] => none := by
  unfold first
  rw [mc_lit]
  cases s with
  | nil => rfl
  | cons y t =>
    dsimp only
    split <;> simp

theorem first_group (n : Nat) (a : Re) :
    first f (.grp n a) F s c = first f a (fun t c' => F t ((n, s.take (s.length - t.length)) :: c')) s c := by
  unfold first
  rw [mc_grp, List.findSome?_map]
  rfl

theorem first_star_cls (k : Cls) (hf : s.length ≤ f) : first f (.star (.cls k)) F s c =
    (splits (s.takeWhile k.mem)).findSome? fun p => F (p.2 ++ s.dropWhile k.mem) c := by
  unfold first
  rw [mc_star, starAuxC_cls f k c s f hf, List.findSome?_map]
  rfl

theorem first_grpstar_cls (n : Nat) (k : Cls) (hf : s.length ≤ f) : first f (.grp n (.star (.cls k))) F s c =
    (splits (s.takeWhile k.mem)).findSome? fun p => F (p.2 ++ s.dropWhile k.mem) ((n, p.1) :: c) := by
  rw [first_group, first_star_cls _ _ _ _ _ hf]
  refine findSome?_congr fun p hp => ?_
  have hs : s = p.1 ++ (p.2 ++ s.dropWhile k.mem) := by
    conv => lhs; rw [← List.takeWhile_append_dropWhile (p := k.mem) (l := s), splits_eq hp, List.append_assoc]
  generalize s.dropWhile k.mem = t at hs ⊢
  rw [take_sub_of_eq hs]

/-- `k{n+1}` -/
theorem first_rep_cls (k : Cls) : ∀ (n : Nat) (t : Str), first f (Re.rep (n + 1) (.cls k)) F t c =
    if (decide (n + 1 ≤ t.length) && (t.take (n + 1)).all k.mem) = true then F (t.drop (n + 1)) c else none := by
  intro n
  induction n with
  | zero =>
    intro t
    show first f (.cls k) F t c = _
    rw [first_cls]
    cases t with
    | nil => rfl
    | cons y t' => cases hy : k.mem y <;> simp [hy]
  | succ n ih =>
    intro t
    show first f (.cat (.cls k) (Re.rep (n + 1) (.cls k))) F t c = _
    rw [first_cat, first_cls]
    cases t with
    | nil => rfl
    | cons y t' =>
      dsimp only
      rw [ih t']
      cases hy : k.mem y <;> simp [hy]

theorem first_plus (k : Cls) (hf : s.length ≤ f) (hF : (F (s.dropWhile k.mem) c).isSome) :
    first f (.cat (.cls k) (.star (.cls k))) F s c = if s.takeWhile k.mem = [] then none else F (s.dropWhile k.mem) c := by
  rw [first_cat, first_cls]
  cases s with
  | nil => rfl
  | cons y t =>
    cases hy : k.mem y with
    | false => simp [hy]
    | true =>
      simp only [List.takeWhile_cons, List.dropWhile_cons, hy, if_true] at hF ⊢
      rw [first_star_cls _ _ _ _ _ (Nat.le_of_succ_le hf), findSome?_splits_some _ _ hF, if_neg (by simp)]
      rfl

/-- `hF` holds when a separator follows the `k+` -/
theorem first_plus_sep (k : Cls) (hf : s.length ≤ f) (hF : ∀ y t, k.mem y = true → F (y :: t) c = none) :
    first f (.cat (.cls k) (.star (.cls k))) F s c = if s.takeWhile k.mem = [] then none else F (s.dropWhile k.mem) c := by
  rw [first_cat, first_cls]
  cases s with
  | nil => rfl
  | cons y t =>
    cases hy : k.mem y with
    | false => simp [hy]
    | true =>
      simp only [List.takeWhile_cons, List.dropWhile_cons, hy, if_true]
      rw [first_star_cls _ _ _ _ _ (Nat.le_of_succ_le hf), findSome?_splits_nil, if_neg (by simp)]
      · rfl
      · intro p hp hne
        have hp := splits_eq hp
        cases hz : p.2 with
        | nil => exact absurd hz hne
        | cons w z =>
          have hw : w ∈ t.takeWhile k.mem := by rw [hp, hz]; exact List.mem_append_right _ List.mem_cons_self
          exact hF w _ (List.all_eq_true.mp List.all_takeWhile w hw)

end

end PM.First
