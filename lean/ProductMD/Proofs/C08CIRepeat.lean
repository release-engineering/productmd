import ProductMD.Model.ComposeInfoState
import ProductMD.Proofs.CITop
/-!
C08, repeated dumps of a composeinfo object: the stateful writer (`Model/ComposeInfoState.lean`) produces the text of the
pure writer, leaves behind an object that differs from the original only by `release.is_layered = True` on some
layered-product variants (`Touched`), and the pure writer cannot tell a touched object from the original
(`forceLayered` is idempotent and the writer forces the flag before it reads it).
-/
namespace PM
namespace CI

mutual
theorem Touched.refl : ∀ v : Variant, Touched v v
  | .mk key id uid name type arches paths _ kids => .mk key id uid name type arches paths (.inl rfl) (TouchedL.refl kids)
theorem TouchedL.refl : ∀ l : List Variant, TouchedL l l
  | [] => .nil
  | v :: l => .cons (Touched.refl v) (TouchedL.refl l)
end

theorem forceLayered_idem (r : Release) : forceLayered (forceLayered r) = forceLayered r := rfl

theorem map_force_idem (rel : Option Release) : (rel.map forceLayered).map forceLayered = rel.map forceLayered := by
  cases rel <;> rfl

theorem RelTouched.trans {type : Str} {a b c : Option Release} (h1 : RelTouched type a b) (h2 : RelTouched type b c) :
    RelTouched type a c := by
  rcases h1 with rfl | ⟨ht, rfl⟩
  · exact h2
  · rcases h2 with rfl | ⟨_, rfl⟩
    · exact .inr ⟨ht, rfl⟩
    · exact .inr ⟨ht, map_force_idem a⟩

mutual
theorem Touched.trans : ∀ {a b c : Variant}, Touched a b → Touched b c → Touched a c
  | _, _, _, .mk key id uid name type arches paths hr hk, .mk _ _ _ _ _ _ _ hr' hk' =>
    .mk key id uid name type arches paths (hr.trans hr') (TouchedL.trans hk hk')
theorem TouchedL.trans : ∀ {a b c : List Variant}, TouchedL a b → TouchedL b c → TouchedL a c
  | _, _, _, .nil, .nil => .nil
  | _, _, _, .cons h t, .cons h' t' => .cons (Touched.trans h h') (TouchedL.trans t t')
end

mutual
theorem serSt_spec : ∀ (v : Variant) (ctx : Ctx) (d : Flat),
    (Variant.serSt ctx v d).2 = Variant.ser ctx v d ∧ Touched v (Variant.serSt ctx v d).1
  | .mk key id uid name type arches paths rel kids, ctx, d => by
    have ih := sersSt_spec kids (some (uid, Str.sortDedup arches)) d
    have hr : RelTouched type rel (if type = layeredProduct then rel.map forceLayered else rel) := by
      by_cases ht : type = layeredProduct
      · simp only [ht, if_true]; exact .inr ⟨rfl, rfl⟩
      · simp only [ht, if_false]; exact .inl rfl
    unfold Variant.serSt Variant.ser
    cases (if type = layeredProduct then validateClass "composeinfo.Release" (variantReleaseObj rel) else .ok ()) with
    | error e => exact ⟨rfl, .mk _ _ _ _ _ _ _ hr (TouchedL.refl _)⟩
    | ok u1 =>
      cases u1
      cases validateClass "composeinfo.VariantPaths" [] with
      | error e => exact ⟨rfl, .mk _ _ _ _ _ _ _ hr (TouchedL.refl _)⟩
      | ok u2 =>
        cases u2
        rcases hk : sersSt (some (uid, Str.sortDedup arches)) kids d with ⟨kids', r⟩
        rw [hk] at ih
        obtain ⟨ih1, ih2⟩ := ih
        simp only at ih1
        rw [← ih1]
        cases r with
        | error e => exact ⟨rfl, .mk _ _ _ _ _ _ _ hr ih2⟩
        | ok d1 =>
          simp only
          cases putEntry uid (entryOf (.mk key id uid name type arches paths rel kids)) d1 with
          | error e => exact ⟨rfl, .mk _ _ _ _ _ _ _ hr ih2⟩
          | ok d2 =>
            simp only
            cases validateClass "composeinfo.Variant" (variantObj ctx (.mk key id uid name type arches paths rel kids)) with
            | error e => exact ⟨rfl, .mk _ _ _ _ _ _ _ hr ih2⟩
            | ok u3 => cases u3; exact ⟨rfl, .mk _ _ _ _ _ _ _ hr ih2⟩
theorem sersSt_spec : ∀ (vs : List Variant) (ctx : Ctx) (d : Flat),
    (sersSt ctx vs d).2 = sers ctx vs d ∧ TouchedL vs (sersSt ctx vs d).1
  | [], _, _ => ⟨rfl, .nil⟩
  | v :: vs, ctx, d => by
    have ih1 := serSt_spec v ctx d
    unfold sersSt sers
    rcases hv : Variant.serSt ctx v d with ⟨v', r⟩
    rw [hv] at ih1
    obtain ⟨ih1, ht1⟩ := ih1
    simp only at ih1
    rw [← ih1]
    cases r with
    | error e => exact ⟨rfl, .cons ht1 (TouchedL.refl _)⟩
    | ok d1 =>
      simp only
      have ih2 := sersSt_spec vs ctx d1
      rcases hs : sersSt ctx vs d1 with ⟨vs', r'⟩
      rw [hs] at ih2
      exact ⟨ih2.1, .cons ht1 ih2.2⟩
end

theorem sersSt_snd : ∀ (vs : List Variant) (ctx : Ctx) (d : Flat), (sersSt ctx vs d).2 = sers ctx vs d :=
  fun vs ctx d => (sersSt_spec vs ctx d).1

theorem sersSt_touched : ∀ (vs : List Variant) (ctx : Ctx) (d : Flat), TouchedL vs (sersSt ctx vs d).1 :=
  fun vs ctx d => (sersSt_spec vs ctx d).2

theorem replaceKey_touched (k : Str) {v v' : Variant} (hv : Touched v v') : ∀ vs : List Variant, findKey k vs = some v →
    TouchedL vs (replaceKey k v' vs)
  | [], h => by cases h
  | w :: ws, h => by
    simp only [findKey] at h
    unfold replaceKey
    split
    · rename_i hk
      simp only [hk, if_true, Option.some.injEq] at h
      subst h
      exact .cons hv (TouchedL.refl _)
    · rename_i hk
      simp only [hk, if_false] at h
      exact .cons (Touched.refl _) (replaceKey_touched k hv ws h)

theorem topLoop_touched : ∀ (ks : List Str) (vs : List Variant) (d : Flat), TouchedL vs (topLoop ks vs d).1
  | [], vs, _ => TouchedL.refl vs
  | k :: ks, vs, d => by
    unfold topLoop
    cases hf : findKey k vs with
    | none => exact topLoop_touched ks vs d
    | some v =>
      simp only
      have ht := (serSt_spec v none d).2
      rcases hs : Variant.serSt none v d with ⟨v', r⟩
      rw [hs] at ht
      have h1 := replaceKey_touched k ht vs hf
      cases r with
      | error e => exact h1
      | ok d1 => exact h1.trans (topLoop_touched ks _ d1)

theorem TouchedL.map_eq {β} (f : Variant → β) (hf : ∀ v v', Touched v v' → f v = f v') :
    ∀ {l l' : List Variant}, TouchedL l l' → l.map f = l'.map f
  | _, _, .nil => rfl
  | _, _, .cons h t => by simp only [List.map_cons, hf _ _ h, TouchedL.map_eq f hf t]

theorem Touched.key_eq {v v' : Variant} (h : Touched v v') : v.key = v'.key := by cases h; rfl
theorem Touched.id_eq {v v' : Variant} (h : Touched v v') : v.id = v'.id := by cases h; rfl
theorem Touched.uid_eq {v v' : Variant} (h : Touched v v') : v.uid = v'.uid := by cases h; rfl
theorem Touched.type_eq {v v' : Variant} (h : Touched v v') : v.type = v'.type := by cases h; rfl

theorem findKey_touched (k : Str) : ∀ {l l' : List Variant}, TouchedL l l' →
    (findKey k l = none ∧ findKey k l' = none) ∨ ∃ v v', findKey k l = some v ∧ findKey k l' = some v' ∧ Touched v v'
  | _, _, .nil => .inl ⟨rfl, rfl⟩
  | _, _, @TouchedL.cons v v' l l' h t => by
    simp only [findKey, ← h.key_eq]
    by_cases hk : v.key = k
    · simp only [hk, if_true]
      exact .inr ⟨v, v', rfl, rfl, h⟩
    · simp only [hk, if_false]
      exact findKey_touched k t

theorem byKeys_touched {l l' : List Variant} (h : TouchedL l l') : TouchedL (byKeys l) (byKeys l') := by
  unfold byKeys
  rw [← TouchedL.map_eq Variant.key (fun _ _ h => h.key_eq) h]
  generalize Str.sortDedup (l.map Variant.key) = ks
  induction ks with
  | nil => exact .nil
  | cons k ks ih =>
    simp only [List.filterMap_cons]
    rcases findKey_touched k h with ⟨h1, h2⟩ | ⟨v, v', h1, h2, hv⟩
    · rw [h1, h2]; exact ih
    · rw [h1, h2]; exact .cons hv ih

theorem kidsView_touched (pn : Bool) {l l' : List Variant} (h : TouchedL l l') : kidsView pn l = kidsView pn l' :=
  kidsView_congr pn fun k => by
    rcases findKey_touched k h with ⟨h1, h2⟩ | ⟨v, v', h1, h2, hv⟩
    · rw [h1, h2]
    · rw [h1, h2]
      simp [summ, hv.key_eq, hv.id_eq, hv.uid_eq, hv.type_eq]

mutual
theorem ser_touched : ∀ {v v' : Variant}, Touched v v' → ∀ (ctx : Ctx) (d : Flat), Variant.ser ctx v' d = Variant.ser ctx v d
  | _, _, @Touched.mk key id uid name type arches paths rel rel' kids kids' hr hk, ctx, d => by
    have hrel : (if type = layeredProduct then validateClass "composeinfo.Release" (variantReleaseObj rel') else .ok ())
        = (if type = layeredProduct then validateClass "composeinfo.Release" (variantReleaseObj rel) else .ok ()) := by
      rcases hr with rfl | ⟨_, rfl⟩
      · rfl
      · cases rel <;> rfl
    have hentry : entryOf (.mk key id uid name type arches paths rel' kids') = entryOf (.mk key id uid name type arches paths rel kids) := by
      have h1 : (if type = layeredProduct then rel'.map forceLayered else none) = (if type = layeredProduct then rel.map forceLayered else none) := by
        rcases hr with rfl | ⟨_, rfl⟩
        · rfl
        · rw [map_force_idem]
      have h2 : kids'.map Variant.id = kids.map Variant.id := (TouchedL.map_eq Variant.id (fun _ _ h => h.id_eq) hk).symm
      simp only [entryOf, h1, h2]
    have hobj : variantObj ctx (.mk key id uid name type arches paths rel' kids') = variantObj ctx (.mk key id uid name type arches paths rel kids) := by
      simp only [variantObj, kidsView_touched false hk]
    have hkids := sers_touched hk (some (uid, Str.sortDedup arches))
    unfold Variant.ser
    rw [hrel, hentry, hobj]
    simp only [hkids]
theorem sers_touched : ∀ {l l' : List Variant}, TouchedL l l' → ∀ (ctx : Ctx) (d : Flat), sers ctx l' d = sers ctx l d
  | _, _, .nil, _, _ => rfl
  | _, _, .cons h t, ctx, d => by
    unfold sers
    rw [ser_touched h ctx d]
    cases Variant.ser ctx _ d with
    | error e => rfl
    | ok d1 => exact sers_touched t ctx d1
end

theorem variantsSer_touched {l l' : List Variant} (h : TouchedL l l') : variantsSer l' = variantsSer l := by
  rw [variantsSer, variantsSer, show containerObj l' = containerObj l by simp only [containerObj, kidsView_touched true h],
    sers_touched (byKeys_touched h) none []]

theorem serialize_congr {ci ci' : ComposeInfo} (hc : ci'.compose = ci.compose) (hr : ci'.release = ci.release)
    (hb : ci'.base = ci.base) (hv : variantsSer ci'.variants = variantsSer ci.variants) : serialize ci' = serialize ci := by
  rw [serialize, serialize, hc, hr, hb, hv]

theorem dumps_touched (ci : ComposeInfo) {vs' : List Variant} (h : TouchedL ci.variants vs') :
    dumps { ci with variants := vs' } = dumps ci := by
  have : serialize { ci with variants := vs' } = serialize ci := serialize_congr rfl rfl rfl (variantsSer_touched h)
  rw [dumps, dumps, this]

theorem findKey_replaceKey_ne {k k' : Str} {v' : Variant} (hne : k' ≠ k) (hv' : v'.key = k) :
    ∀ vs : List Variant, findKey k' (replaceKey k v' vs) = findKey k' vs
  | [] => rfl
  | w :: ws => by
    unfold replaceKey
    split
    · rename_i hw
      have h1 : ¬ v'.key = k' := fun e => hne (e.symm.trans hv')
      have h2 : ¬ w.key = k' := fun e => hne (e.symm.trans hw)
      simp only [findKey, h1, h2, if_false]
    · simp only [findKey]
      split
      · rfl
      · exact findKey_replaceKey_ne hne hv' ws

theorem topLoop_snd : ∀ (ks : List Str) (vs : List Variant) (d : Flat), ks.Nodup →
    (topLoop ks vs d).2 = sers none (ks.filterMap (findKey · vs)) d
  | [], _, _, _ => rfl
  | k :: ks, vs, d, hn => by
    have hn' := List.nodup_cons.mp hn
    unfold topLoop
    simp only [List.filterMap_cons]
    cases hf : findKey k vs with
    | none => exact topLoop_snd ks vs d hn'.2
    | some v =>
      simp only
      obtain ⟨h1, ht⟩ := serSt_spec v none d
      rcases hs : Variant.serSt none v d with ⟨v', r⟩
      rw [hs] at h1 ht
      simp only at h1 ht
      unfold sers
      rw [← h1]
      cases r with
      | error e => rfl
      | ok d1 =>
        simp only
        rw [topLoop_snd ks _ d1 hn'.2]
        have hk' : v'.key = k := ht.key_eq.symm.trans (findKey_some hf).2
        congr 1
        apply filterMap_congr'
        intro k' hk
        exact findKey_replaceKey_ne (k := k) (k' := k') (fun (e : k' = k) => hn'.1 (e ▸ hk)) hk' vs

theorem variantsSerSt_spec (vs : List Variant) :
    (variantsSerSt vs).2 = variantsSer vs ∧ TouchedL vs (variantsSerSt vs).1 := by
  rw [variantsSerSt, variantsSer]
  cases validateClass "composeinfo.Variants" (containerObj vs) with
  | error e => exact ⟨rfl, TouchedL.refl vs⟩
  | ok u => cases u; exact ⟨topLoop_snd _ vs [] (sortDedup_nodup _), topLoop_touched _ vs []⟩

theorem dumpsSt_spec (s : CIState) : (dumpsSt s).2 = dumps s.ci ∧
    ∃ vs', (dumpsSt s).1.ci = { s.ci with variants := vs' } ∧ TouchedL s.ci.variants vs' ∧
      ((dumpsSt s).1.version = s.version ∨ (dumpsSt s).1.version = currentVersion) := by
  obtain ⟨hv, ht⟩ := variantsSerSt_spec s.ci.variants
  rw [dumpsSt, dumps, serialize]
  cases validateClass "composeinfo.ComposeInfo" [] with
  | error e => exact ⟨rfl, s.ci.variants, rfl, TouchedL.refl _, .inl rfl⟩
  | ok u0 =>
    cases u0
    cases validateClass "common.Header" (headerObj (.str currentVersion)) with
    | error e => exact ⟨rfl, s.ci.variants, rfl, TouchedL.refl _, .inr rfl⟩
    | ok u1 =>
      cases u1
      cases validateClass "composeinfo.Compose" (composeObj s.ci.compose) with
      | error e => exact ⟨rfl, s.ci.variants, rfl, TouchedL.refl _, .inr rfl⟩
      | ok u2 =>
        cases u2
        cases validateClass "composeinfo.Release" (releaseObj s.ci.release) with
        | error e => exact ⟨rfl, s.ci.variants, rfl, TouchedL.refl _, .inr rfl⟩
        | ok u3 =>
          cases u3
          cases (if s.ci.release.isLayered then validateClass "composeinfo.BaseProduct" (baseObj s.ci.base) else .ok ()) with
          | error e => exact ⟨rfl, s.ci.variants, rfl, TouchedL.refl _, .inr rfl⟩
          | ok u4 =>
            cases u4
            rcases hs : variantsSerSt s.ci.variants with ⟨vs', r⟩
            rw [hs] at hv ht
            simp only at hv
            rw [← hv]
            cases r <;> exact ⟨rfl, vs', rfl, ht, .inr rfl⟩

/-- what relates the object before and after any number of dumps: the same sections, variants `Touched`, any header version -/
def c8Touched (s s' : CIState) : Prop := ∃ vs', s'.ci = { s.ci with variants := vs' } ∧ TouchedL s.ci.variants vs'

theorem c8_touched_refl (s : CIState) : c8Touched s s := ⟨s.ci.variants, rfl, TouchedL.refl _⟩

theorem c8_touched_trans {a b c : CIState} (h1 : c8Touched a b) (h2 : c8Touched b c) : c8Touched a c := by
  obtain ⟨v1, e1, t1⟩ := h1
  obtain ⟨v2, e2, t2⟩ := h2
  refine ⟨v2, ?_, ?_⟩
  · rw [e2, e1]
  · rw [e1] at t2
    exact t1.trans t2

theorem c8_dumpsSt_touched (s : CIState) : c8Touched s (dumpsSt s).1 := by
  obtain ⟨vs', e, ht, _⟩ := (dumpsSt_spec s).2
  exact ⟨vs', e, ht⟩

theorem c8_dumpsSt_of_touched {s s' : CIState} (h : c8Touched s s') : (dumpsSt s').2 = (dumpsSt s).2 := by
  obtain ⟨vs', e, ht⟩ := h
  rw [(dumpsSt_spec s').1, (dumpsSt_spec s).1, e]
  exact dumps_touched s.ci ht

theorem c8_after_touched : ∀ (n : Nat) (s : CIState), c8Touched s (c8After n s)
  | 0, s => c8_touched_refl s
  | n + 1, s => c8_touched_trans (c8_dumpsSt_touched s) (c8_after_touched n (dumpsSt s).1)

end CI
end PM
