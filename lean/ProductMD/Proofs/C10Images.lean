import ProductMD.Proofs.C08Images
/-!
C10, images side: which architecture keys `Images.add` (the statement list read from the source) can create,
and what a refused call leaves behind; the arch keys of the table the writer returns are arch keys of the manifest.
-/
namespace PM.Img.C10
open PM PM.PyOps PM.Spec

def variantKeys (cs : Cells) : List Str := cs.map (·.1)

theorem mem_archKeys_cellsAdd {cs : Cells} {v a : Str} {id : Nat} {img : Image} {x : Str}
    (h : x ∈ archKeys (cellsAdd cs v a id img)) : x = a ∨ x ∈ archKeys cs := by
  rw [cellsAdd_eq] at h
  have hp := upsert_flatMap (fun as => archAdd as a id img) [] (fun _ as => as.map (·.1))
    (fun as => if a ∈ as.map (·.1) then [] else [a]) cs v rfl fun as => by
    rw [archAdd_eq, upsert_keys]
    split
    · exact .refl _
    · exact List.perm_append_comm
  rcases List.mem_append.mp (hp.mem_iff.mp h) with h | h
  · split at h
    · cases h
    · exact Or.inl (List.mem_singleton.mp h)
  · exact Or.inr h

theorem keys_of_archGuard (v a : Str) (id : Nat) (img : Image) (script : List AddStep) (s : ImgState) (tbl src : Bool)
    (hg : archGuard script tbl src = true)
    (ht : tbl = true → Gen.RPM_ARCHES.contains a = true) (hs : src = true → refusedArches.contains a = false)
    (hk : KeysOK s.cells) : KeysOK (runSteps v a id img script s).1.cells := by
  induction script generalizing s tbl src with
  | nil => exact hk
  | cons st rest ih =>
    unfold runSteps
    cases st with
    | archTable =>
      simp only [runStep]
      by_cases hc : Gen.RPM_ARCHES.contains a = true
      · simp only [hc, ↓reduceIte]
        exact ih s true src (by simpa [archGuard] using hg) (fun _ => hc) hs hk
      · simp only [hc]
        exact hk
    | srcRefusal =>
      simp only [runStep]
      by_cases hc : refusedArches.contains a = true
      · simp only [hc, ↓reduceIte]
        exact hk
      · simp only [hc]
        exact ih s tbl true (by simpa [archGuard] using hg) ht (fun _ => by simpa using hc) hk
    | unknown => simp [archGuard] at hg
    | uniqScan =>
      cases hr : runStep v a id img .uniqScan s with
      | mk s' r =>
        have hs' : s' = s := by
          have := runStep_pure v a id img .uniqScan s rfl
          rw [hr] at this; exact this
        subst hs'
        cases r with
        | error e => exact hk
        | ok u =>
          cases u
          exact ih s' tbl src (by simpa [archGuard] using hg) ht hs hk
    | insert =>
      simp only [archGuard, Bool.and_eq_true] at hg
      simp only [runStep]
      refine ih _ tbl src hg.2 ht hs ?_
      intro x hx
      rcases mem_archKeys_cellsAdd hx with rfl | h
      · exact ⟨ht hg.1.1, hs hg.1.2⟩
      · exact hk x h

theorem refused_of_headChecks (v a : Str) (id : Nat) (img : Image) (script : List AddStep) (s : ImgState)
    (h : (Gen.RPM_ARCHES.contains a = false ∧ (headChecks script).1 = true)
       ∨ (refusedArches.contains a = true ∧ (headChecks script).2 = true)) :
    runSteps v a id img script s = (s, .error .valueError) := by
  induction script with
  | nil => simp [headChecks] at h
  | cons st rest ih =>
    unfold runSteps
    cases st with
    | archTable =>
      simp only [runStep]
      by_cases hc : Gen.RPM_ARCHES.contains a = true
      · simp only [hc, ↓reduceIte]
        apply ih
        rcases h with h | h
        · rw [hc] at h; cases h.1
        · right; exact ⟨h.1, by simpa [headChecks] using h.2⟩
      · simp only [hc]
        rfl
    | srcRefusal =>
      simp only [runStep]
      by_cases hc : refusedArches.contains a = true
      · simp only [hc, ↓reduceIte]
      · simp only [hc]
        apply ih
        rcases h with h | h
        · left; exact ⟨h.1, by simpa [headChecks] using h.2⟩
        · exact absurd h.1 hc
    | unknown => simp [headChecks] at h
    | uniqScan => simp [headChecks] at h
    | insert => simp [headChecks] at h

def outArchKeys (o : OutCells) : List Str := o.flatMap fun va => va.2.map (·.1)

theorem archKey_of_entry {cs : Cells} {e : Str × Str × Nat × Image} (h : e ∈ entries cs) : e.2.1 ∈ archKeys cs := by
  simp only [entries, List.mem_flatMap, List.mem_map] at h
  obtain ⟨va, hva, ac, hac, x, _, rfl⟩ := h
  simp only [archKeys, List.mem_flatMap, List.mem_map]
  exact ⟨va, hva, ac, hac, rfl⟩

/-- a table that the writer returns is the fold of the filings, so its arch keys are arch keys of filings -/
theorem serializeCells_keys (cs : Cells) (out : OutCells) (h : serializeCells cs [] = .ok out) :
    ∀ x ∈ outArchKeys out, x ∈ archKeys cs := by
  obtain ⟨_, rfl⟩ := (serializeCells_ok _ _ _).mp h
  intro x hx
  simp only [outArchKeys, List.mem_flatMap] at hx
  obtain ⟨⟨v, as⟩, hva, hx⟩ := hx
  rw [← archAt_of_mem (outFold_table (triples cs)).1.1 hva, archKeys_outFold] at hx
  rcases hx with hx | ⟨t, ht, _, rfl⟩
  · simp [archAt] at hx
  · obtain ⟨e, he, rfl⟩ := List.mem_map.mp ht
    exact archKey_of_entry he

theorem serialize_keys (s : ImgState) : Post (serialize s).2 fun doc =>
    ∃ (hdr comp : PyVal) (out : OutCells),
      doc = .dict [(L "header", hdr), (L "payload", .dict [(L "images", out.toPy), (L "compose", comp)])]
      ∧ ∀ x ∈ outArchKeys out, x ∈ archKeys s.cells :=
  .bind fun _ => .bind fun comp => .bind' fun out hout => .pure ⟨_, comp, out, rfl, serializeCells_keys s.cells out hout⟩

end PM.Img.C10
