import ProductMD.Proofs.C05TreeInfo
import ProductMD.Model.TreeInfoCompat
/-!
C05, pre-productmd treeinfo (0.0): what each section reader returns on any document, given what `Ini.get` / `hasOption` answer for
the options it asks for; and what the path rules of `VariantPaths.deserialize_0_0` (`legacyPathVals`) make of a clean
`repository` / `packagedir` outside the RHEL / Fedora special cases (`legacyPaths_plain`).  `Properties/C05.lean` states these as
`C05_ti_00_*`; `Proofs/C17Legacy.lean` instantiates them with the compatibility sections of a written file.
-/
namespace PM.TI
open Ini

theorem platforms00_eq_dedupe (arch : Str) (secs : List Str) :
    platforms00 arch secs = dedupe ([arch] ++ Legacy.imagePlatforms arch secs) := rfl

theorem deTreeL_00 (fo : FloatOracle) (d : Ini) (arch ts : Str) (n : Int)
    (ha : Ini.get d sGeneral kArch = .ok arch) (hnos : (sections d).contains arch = false)
    (ho : hasOption d sGeneral kTimestamp = true) (ht : Ini.get d sGeneral kTimestamp = .ok ts) (hn : fo.intOfFloatStr ts = .ok n)
    (hv : validateClass "treeinfo.Tree" (treeObj ⟨arch, .int n, platforms00 arch (sections d)⟩) = .ok ()) :
    Legacy.deTreeL fo true d = .ok ⟨arch, .int n, platforms00 arch (sections d)⟩ := by
  exact Returns.ite_neg Bool.false_ne_true <| Returns.bind ha <| Returns.ite_bind (Returns.ite_neg (hnos ▸ Bool.false_ne_true) rfl) <|
    Returns.ite_bind (Returns.ite_pos ho (Returns.bind ht hn)) <| Returns.validated hv

theorem deReleaseL_00 (d : Ini) (family version v' : Str)
    (hf : Ini.get d sGeneral Legacy.kFamilyS = .ok family) (hver : Ini.get d sGeneral kVersion = .ok version)
    (hv' : Legacy.version00 version = .ok v')
    (hv : validateClass "treeinfo.Release" (releaseObj ⟨(Legacy.releaseShort00 family).1, (Legacy.releaseShort00 family).2, v'⟩ false) = .ok ()) :
    Legacy.deReleaseL .v00 d = .ok (⟨(Legacy.releaseShort00 family).1, (Legacy.releaseShort00 family).2, v'⟩, false) := by
  exact Returns.bind hf <| Returns.bind hver <| Returns.bind hv' <| Returns.validated hv

/-- `hr`: the reader's four cases of which of `discnum` / `totaldiscs` is present, with what `int()` makes of each -/
theorem deMediaL_00 (d : Ini) (a b : Option Int)
    (hr : (match hasOption d sGeneral kDiscnum, hasOption d sGeneral kTotaldiscs with
      | false, false => a = none ∧ b = none
      | true, false => ∃ x, (Ini.get d sGeneral kDiscnum).bind Str.pyInt = .ok x ∧ a = some x ∧ b = some x
      | false, true => ∃ y, (Ini.get d sGeneral kTotaldiscs).bind Str.pyInt = .ok y ∧ a = some 1 ∧ b = some y
      | true, true => ∃ x y, (Ini.get d sGeneral kDiscnum).bind Str.pyInt = .ok x ∧ (Ini.get d sGeneral kTotaldiscs).bind Str.pyInt = .ok y
          ∧ a = some x ∧ b = some y))
    (hv : validateClass "treeinfo.Media" (mediaObj a b) = .ok ()) :
    Legacy.deMediaL true d = .ok (a, b) := by
  unfold Legacy.deMediaL
  cases h1 : hasOption d sGeneral kDiscnum <;> cases h2 : hasOption d sGeneral kTotaldiscs <;> rw [h1, h2] at hr <;> simp only at hr
  · obtain ⟨rfl, rfl⟩ := hr
    exact Returns.ite_neg Bool.false_ne_true <| Returns.ite_neg Bool.false_ne_true <| Returns.bind rfl <| Returns.validated hv
  · obtain ⟨y, hy, rfl, rfl⟩ := hr
    exact Returns.ite_neg Bool.false_ne_true <| Returns.ite_pos rfl <| Returns.ite_bind (Returns.ite_neg Bool.false_ne_true rfl) <|
      Returns.ite_bind (Returns.ite_pos rfl hy) <| Returns.bind rfl <| Returns.validated hv
  · obtain ⟨x, hx, rfl, rfl⟩ := hr
    exact Returns.ite_neg Bool.false_ne_true <| Returns.ite_pos rfl <| Returns.ite_bind (Returns.ite_pos rfl hx) <|
      Returns.ite_bind (Returns.ite_neg Bool.false_ne_true rfl) <| Returns.bind rfl <| Returns.validated hv
  · obtain ⟨x, y, hx, hy, rfl, rfl⟩ := hr
    exact Returns.ite_neg Bool.false_ne_true <| Returns.ite_pos rfl <| Returns.ite_bind (Returns.ite_pos rfl hx) <|
      Returns.ite_bind (Returns.ite_pos rfl hy) <| Returns.bind rfl <| Returns.validated hv

theorem fixPath_rel (on : Bool) (p : Str) (h : relative p = true) : Legacy.fixPath on p = p :=
  Legacy.fixPath_relative on p (by simpa [relative] using h)

theorem topIds00_variant (c : Legacy.VCtx) (d : Ini) (v : Str) (ho : hasOption d sGeneral tVariant = true)
    (hg : Ini.get d sGeneral tVariant = .ok v) (hne : v ≠ []) : Legacy.topIds00 c d = .ok [v] := by
  unfold Legacy.topIds00
  have : v.isEmpty = false := List.isEmpty_eq_false_iff.mpr hne
  simp [ho, hg, bind, Except.bind, pure, Except.pure, this]

theorem scan00_none (d : Ini) (h0 : d.lookup DEFAULT = none) (id type0 : Str) : ∀ (secs : List Str) (last : Str),
    (∀ s ∈ secs, d.lookup s = none) →
    Legacy.scanSections00 d id type0 secs last = .ok (secs.getLastD last, type0)
  | [], _, _ => rfl
  | s :: rest, last, h => by
    have hs := h s (List.mem_cons_self ..)
    have h1 : hasOption d s kType = false := hasOption_nosec h0 hs kType
    have h2 : hasSection d s = false := by rw [hasSection_sec h0, hs]; rfl
    simp only [Legacy.scanSections00, h1, h2, Bool.false_eq_true, if_false]
    rw [scan00_none d h0 id type0 rest s (fun x hx => h x (List.mem_cons_of_mem _ hx))]
    cases rest <;> rfl

theorem readVariant_00 (S : Legacy.Sels) (hS1 : S.variant = .v00) (hS2 : S.addonFallback = false) (c : Legacy.VCtx) (d : Ini) (f : Nat) (addon : Bool) (uid : Str)
    (hne : uid ≠ []) (h0 : d.lookup DEFAULT = none)
    (hnosec : ∀ s ∈ [pAddon ++ uid, pAddon ++ (Str.splitOn '-' uid).getLastD [], pVariant ++ uid,
      pVariant ++ (Str.splitOn '-' uid).getLastD []], d.lookup s = none)
    (hnoadd : hasOption d sGeneral kAddons = false) (hr5 : Legacy.rhel5Addons c uid [] = []) :
    Legacy.readVariant S c d (f + 1) addon uid =
      (Legacy.dePathsL S.paths c d ((Str.splitOn '-' uid).getLastD []) uid (if addon then tAddon else tVariant)).map fun paths =>
        .mk [] ((Str.splitOn '-' uid).getLastD []) uid ((Str.splitOn '-' uid).getLastD []) (if addon then tAddon else tVariant) paths [] := by
  -- None of the four candidate sections exists: the scan for the section runs through to its last candidate, `variant-<id>`,
  -- and leaves the incoming type (`scan00_none`), so the type is decided by `addon`; the name falls back to the id.  A variant
  -- looks for its children under `addons` / `variants` of that (missing) section, then under `[general] addons` (absent,
  -- `hnoadd`), and hands the empty list to the RHEL 5 table, which by `hr5` adds none: no children.
  have hempty : uid.isEmpty = false := List.isEmpty_eq_false_iff.mpr hne
  rw [Legacy.readVariant]
  generalize (Str.splitOn '-' uid).getLastD [] = id at hnosec ⊢
  have hlast : [pAddon ++ uid, pAddon ++ id, pVariant ++ uid, pVariant ++ id].getLastD [] = pVariant ++ id := rfl
  have hsec : d.lookup (pVariant ++ id) = none := hnosec _ (by simp)
  have hname : hasOption d (pVariant ++ id) kName = false := hasOption_nosec h0 hsec kName
  have hl : optionLookup d [(pVariant ++ id, kAddons), (pVariant ++ id, kVariants), (sGeneral, kAddons)] (some []) = .ok (some []) := by
    simp only [optionLookup, hasOption_nosec h0 hsec, hnoadd, Bool.false_eq_true, if_false]
  have hsp : splitNonEmpty [] = [] := by decide
  cases addon with
  | true =>
    have hscan := scan00_none d h0 id tAddon _ [] hnosec
    rw [hlast] at hscan
    have e : (tAddon == tVariant) = false := by decide
    have e2 : tAddon.isEmpty = false := by decide
    simp only [hempty, Bool.false_eq_true, if_false, hS1, hS2, Bool.false_and, if_true]
    simp only [hscan, e2, hname, Bool.false_eq_true, if_false, e]
    cases Legacy.dePathsL S.paths c d id uid tAddon <;> rfl
  | false =>
    have hscan := scan00_none d h0 id [] _ [] hnosec
    rw [hlast] at hscan
    have e : (tVariant == tVariant) = true := by decide
    simp only [hempty, Bool.false_eq_true, if_false, hS1]
    simp only [hscan, List.isEmpty_nil, if_true, hname, Bool.false_eq_true, if_false]
    simp only [e, if_true, hl, Option.getD_some, hsp, hr5, List.map_nil, Legacy.loopFile]
    cases Legacy.dePathsL S.paths c d id uid tVariant <;> rfl

theorem pathVals00_general (c : Legacy.VCtx) (d : Ini) (id uid : Str) (h0 : d.lookup DEFAULT = none)
    (hnosec : ∀ s ∈ [pAddon ++ uid, pAddon ++ id, pVariant ++ uid, pVariant ++ id], d.lookup s = none) (repo pk : Option Str)
    (hrepo : ∀ dflt, optionLookup d [(sGeneral, kRepository)] dflt = .ok (orOpt repo dflt))
    (hpk : ∀ dflt, optionLookup d [(sGeneral, Legacy.kPackages), (sGeneral, kPackagedir), (sGeneral, Legacy.kPackagedirs)] dflt
      = .ok (orOpt pk dflt))
    (hid : optionLookup d [(sGeneral, Legacy.kIdentity)] none = .ok none) :
    Legacy.pathVals00 c d id uid = .ok (legacyPathVals c id repo pk) := by
  have nAu := optionLookup_nosec h0 (hnosec (pAddon ++ uid) (by simp))
  have nAi := optionLookup_nosec h0 (hnosec (pAddon ++ id) (by simp))
  have nVu := optionLookup_nosec h0 (hnosec (pVariant ++ uid) (by simp))
  have nVi := optionLookup_nosec h0 (hnosec (pVariant ++ id) (by simp))
  -- `legacyPathVals` is the text of `pathVals00` after its three `optionLookup` chains, with their results as arguments:
  -- once the chains are rewritten the two sides coincide
  unfold Legacy.pathVals00 legacyPathVals
  simp only [nAu, nAi, nVu, nVi, hrepo, hpk, hid, bind, Except.bind, pure, Except.pure]

theorem orStr_some_ne {p y : Str} (h : p ≠ []) : Legacy.orStr (some p) y = p := by
  cases p with
  | nil => exact absurd rfl h
  | cons a b => rfl

theorem legacyPaths_plain (c : Legacy.VCtx) (key r p : Str) (h1 : c.relShort ≠ Legacy.sRHEL)
    (h2 : c.relShort = Legacy.sFedora → p ≠ ".".toList) (hr : CleanPath r) (hp1 : Legacy.rstripSlash p = p) (hp2 : p ≠ []) :
    Legacy.valsToPaths (legacyPathVals c key (some r) (some p)) =
      if c.arch == Legacy.sSrc then [(Legacy.kSourcePackages, p), (Legacy.kSourceRepository, r)]
      else [(Legacy.kPackages, p), (kRepository, r)] := by
  have b1 : (c.relShort == Legacy.sRHEL) = false := by simpa using h1
  have hr' : (if Str.endsWith r "/repodata".toList = true then r.take (r.length - 9) else r) = r := by
    rw [hr.norepodata]; rfl
  have hF : (if (c.relShort == Legacy.sFedora) = true then (if (p == ".".toList) = true then "Packages".toList else p) else p) = p := by
    split
    · rename_i e; rw [if_neg (by simpa using h2 (by simpa using e))]
    · rfl
  unfold legacyPathVals
  simp only [orOpt, Legacy.isRhelMajor, b1, Bool.false_and, Bool.false_eq_true, if_false, Option.getD_some, hr.noslash, hp1,
    orStr_some_ne hr.ne, orStr_some_ne hp2, hr', hF, ite_self]
  cases c.arch == Legacy.sSrc <;> rfl

end PM.TI
