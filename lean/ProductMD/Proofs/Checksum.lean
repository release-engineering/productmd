import ProductMD.Model.Checksum
import ProductMD.Proofs.C14Str
/-! Lemmas about `Model/Checksum.lean` for C16: the chunked read loop (a content cut into chunks of any sizes is still that content),
hex digits are lower case, `type:value` splitting, `normpath` keeps a relative path relative, and the checksum table as an
association list. -/
namespace PM
namespace Checksum

theorem readLoop_nil {H : Type} (upd : H → Bytes → H) (n fuel : Nat) (h : H) :
    readLoop upd n (fuel + 1) h [] = (h, [0]) := by
  simp [readLoop]

theorem readLoop_cons {H : Type} (upd : H → Bytes → H) {n : Nat} (hn : 0 < n) (fuel : Nat) (h : H) {rest : Bytes}
    (hr : rest ≠ []) :
    readLoop upd n (fuel + 1) h rest =
      ((readLoop upd n fuel (upd h (rest.take n)) (rest.drop n)).1,
       (rest.take n).length :: (readLoop upd n fuel (upd h (rest.take n)) (rest.drop n)).2) := by
  have : ¬ (rest.take n).isEmpty = true := by
    simp only [List.isEmpty_iff, List.take_eq_nil_iff, not_or]
    exact ⟨by omega, hr⟩
  rw [readLoop, if_neg this]

/-- The loop has fed the whole content, for a hash with the streaming law whose unit law holds on an invariant `P` that every
`upd` establishes (hash objects whose pending buffer is shorter than a block; `fun _ => True` for an abstract hash). -/
theorem readLoop_state {H : Type} (upd : H → Bytes → H) (P : H → Prop) (hP : ∀ h a, P (upd h a))
    (law : ∀ h a b, upd (upd h a) b = upd h (a ++ b)) (unit : ∀ h, P h → upd h [] = h)
    (n : Nat) (hn : 0 < n) :
    ∀ (fuel : Nat) (h : H) (rest : Bytes), P h → rest.length < fuel → (readLoop upd n fuel h rest).1 = upd h rest
  | 0, _, _, _, hl => by omega
  | f + 1, h, rest, hp, hl => by
    by_cases hr : rest = []
    · rw [hr, readLoop_nil]
      exact (unit h hp).symm
    · have hpos : 0 < rest.length := List.length_pos_iff.mpr hr
      rw [readLoop_cons upd hn f h hr, readLoop_state upd P hP law unit n hn f _ _ (hP _ _) (by simp only [List.length_drop]; omega),
        law, List.take_append_drop]

theorem readLoop_trace {H : Type} (upd : H → Bytes → H) (n : Nat) (hn : 0 < n) :
    ∀ (fuel : Nat) (h : H) (rest : Bytes), rest.length < fuel →
      (readLoop upd n fuel h rest).2.sum = rest.length
      ∧ (∀ k ∈ (readLoop upd n fuel h rest).2, k ≤ n)
      ∧ (readLoop upd n fuel h rest).2.getLast? = some 0
      ∧ (∀ k ∈ (readLoop upd n fuel h rest).2.dropLast, 0 < k)
  | 0, _, _, hl => by omega
  | f + 1, h, rest, hl => by
    by_cases hr : rest = []
    · rw [hr, readLoop_nil]
      simp
    · have hpos : 0 < rest.length := List.length_pos_iff.mpr hr
      obtain ⟨h1, h2, h3, h4⟩ := readLoop_trace upd n hn f (upd h (rest.take n)) (rest.drop n)
        (by simp only [List.length_drop]; omega)
      rw [readLoop_cons upd hn f h hr]
      -- the reads that follow are not none: the last of them is the empty one
      obtain ⟨a, t, ht⟩ : ∃ a t, (readLoop upd n f (upd h (rest.take n)) (rest.drop n)).2 = a :: t := by
        cases ht : (readLoop upd n f (upd h (rest.take n)) (rest.drop n)).2 with
        | nil => rw [ht] at h3; cases h3
        | cons a t => exact ⟨a, t, rfl⟩
      simp only [ht] at h1 h2 h3 h4 ⊢
      have hk : (rest.take n).length ≤ n ∧ 0 < (rest.take n).length := by simp only [List.length_take]; omega
      refine ⟨?_, List.forall_mem_cons.mpr ⟨hk.1, h2⟩, h3, List.forall_mem_cons.mpr ⟨hk.2, h4⟩⟩
      simp only [List.sum_cons, List.length_take, List.length_drop] at h1 ⊢
      omega

theorem cutChunks_flatten : ∀ (sizes : List Nat) (content : Bytes), (cutChunks sizes content).flatten = content := by
  intro sizes
  induction sizes with
  | nil => intro content; simp [cutChunks]
  | cons k ks ih => intro content; simp [cutChunks, ih]

/-- hex digits are lower case (so `.lower()` on a hex digest is the identity: `C16_lower_noop`) -/
theorem lowerAscii_hexDigit (n : Nat) : Str.lowerAscii [HashMD.hexDigit n] = [HashMD.hexDigit n] := by
  by_cases h : n < 16
  · exact (by decide : ∀ n < 16, Str.lowerAscii [HashMD.hexDigit n] = [HashMD.hexDigit n]) n h
  · rw [HashMD.hexDigit, List.getD_eq_getElem?_getD, List.getElem?_eq_none (by simpa using h)]
    rfl

theorem splitTyped_join (t v : Str) (ht : ':' ∉ t) (hv : ':' ∉ v) :
    splitTyped (t ++ ':' :: v) = .ok (t, v) := by
  simp [splitTyped, C14.splitOn_pair_iff.mpr ⟨rfl, ht, hv⟩]

theorem normStep_inv (a : Bool) (acc : List Str) (comp : Str)
    (hacc : ∀ c ∈ acc, c ≠ [] ∧ '/' ∉ c) (hc : '/' ∉ comp) :
    ∀ c ∈ normStep a acc comp, c ≠ [] ∧ '/' ∉ c := by
  intro c hmem
  unfold normStep at hmem
  split at hmem
  · exact hacc c hmem
  · rename_i h1
    split at hmem
    · simp only [List.mem_cons] at hmem
      rcases hmem with e | e
      · subst e
        exact ⟨fun e0 => h1 (Or.inl e0), hc⟩
      · exact hacc c e
    · exact hacc c (List.mem_of_mem_tail hmem)

theorem foldl_normStep_inv (a : Bool) : ∀ (comps : List Str) (acc : List Str),
    (∀ c ∈ acc, c ≠ [] ∧ '/' ∉ c) → (∀ c ∈ comps, '/' ∉ c) →
    ∀ c ∈ comps.foldl (normStep a) acc, c ≠ [] ∧ '/' ∉ c := by
  intro comps
  induction comps with
  | nil => intro acc h _; simpa using h
  | cons x r ih =>
    intro acc hacc hcs
    simp only [List.foldl_cons]
    exact ih _ (normStep_inv a acc x hacc (hcs x (by simp))) (fun c hc => hcs c (by simp [hc]))

theorem joinWith_not_abs : ∀ (comps : List Str), (∀ c ∈ comps, c ≠ [] ∧ '/' ∉ c) →
    Str.startsWith (Str.joinWith '/' comps) ['/'] = false := by
  intro comps h
  cases comps with
  | nil => simp [Str.joinWith, Str.startsWith]
  | cons x r =>
    obtain ⟨hx, hs⟩ := h x (by simp)
    cases x with
    | nil => exact absurd rfl hx
    | cons c cs =>
      have hc : c ≠ '/' := by
        intro e; subst e; simp at hs
      have hc' : ('/' == c) = false := by simp [Ne.symm hc]
      cases r with
      | nil => simp [Str.joinWith, Str.startsWith, List.isPrefixOf, hc']
      | cons y r' => simp [Str.joinWith, Str.startsWith, List.isPrefixOf, hc']

theorem normpath_relative (p : Str) (h : Str.startsWith p ['/'] = false) :
    Str.startsWith (normpath p) ['/'] = false := by
  unfold normpath
  by_cases hp : p = []
  · simp only [hp, if_true, Str.startsWith]; decide
  · simp only [hp, if_false]
    have hk : initialSlashes p = 0 := by simp [initialSlashes, h]
    simp only [hk, List.replicate_zero, List.nil_append]
    have hinv := foldl_normStep_inv ((0 : Nat) != 0) (Str.splitOn '/' p) [] (by simp) (fun _ hc => C14.not_mem_of_mem_splitOn hc)
    have hrev : ∀ c ∈ (List.foldl (normStep ((0 : Nat) != 0)) [] (Str.splitOn '/' p)).reverse, c ≠ [] ∧ '/' ∉ c := by
      intro c hc
      exact hinv c (List.mem_reverse.mp hc)
    split
    · simp only [Str.startsWith]; decide
    · exact joinWith_not_abs _ hrev

theorem Table.get?_set (t : Table) (k : Str) (v : Str × Str) (p : Str) :
    (t.set k v).get? p = if k = p then some v else t.get? p := by
  induction t with
  | nil => simp [Table.set, Table.get?]
  | cons e rest ih =>
    obtain ⟨k', v'⟩ := e
    simp only [Table.set]
    by_cases h : k' = k
    · subst h
      simp only [if_true, Table.get?]
      by_cases h2 : k' = p <;> simp [h2]
    · simp only [h, if_false, Table.get?, ih]
      by_cases h2 : k' = p
      · subst h2
        simp [Ne.symm h]
      · simp [h2]

theorem Table.set_of_not_mem (t : Table) (k : Str) (v : Str × Str) (h : k ∉ t.map (·.1)) :
    t.set k v = t ++ [(k, v)] := by
  induction t with
  | nil => rfl
  | cons e rest ih =>
    obtain ⟨k', v'⟩ := e
    simp only [List.map_cons, List.mem_cons, not_or] at h
    have : ¬ k' = k := fun e => h.1 e.symm
    simp only [Table.set, this, if_false, ih h.2, List.cons_append]

theorem Table.set_keys_any (t : Table) (k : Str) (v : Str × Str) (f : Str → Bool) :
    (t.set k v).any (fun e => f e.1) = (t.any (fun e => f e.1) || f k) := by
  induction t with
  | nil => simp [Table.set]
  | cons e rest ih =>
    obtain ⟨k', v'⟩ := e
    simp only [Table.set]
    by_cases h : k' = k
    · subst h
      simp only [if_true, List.any_cons]
      cases f k' <;> simp
    · simp only [h, if_false, List.any_cons, ih, Bool.or_assoc]

end Checksum
end PM
