import ProductMD.Proofs.CIValid
/-! C01, the writer.  `putAll`: filing a list of entries in the sorted table, one `putEntry` after the other.  `Variant.serialize`
succeeds iff every node is valid and the entries of the subtree, children first, can be filed (`ser_iff`); so `Variants.serialize`
succeeds with `d` iff container and nodes are valid and `d` is the sorted table of the entries (`variantsSer_iff`). -/
namespace PM.CI
open PM

mutual
/-- the entries a variant files, children first -/
def flat : Variant → Flat
  | .mk key id uid name type arches paths rel kids =>
    flats kids ++ [(uid, entryOf (.mk key id uid name type arches paths rel kids))]
def flats : List Variant → Flat
  | [] => []
  | v :: vs => flat v ++ flats vs
end

theorem mem_flats {x : Str × Entry} : ∀ {vs : List Variant}, x ∈ flats vs ↔ ∃ v ∈ vs, x ∈ flat v
  | [] => by simp [flats]
  | v :: vs => by simp [flats, mem_flats (vs := vs)]

theorem flat_sub_flats (v : Variant) (vs : List Variant) (h : v ∈ vs) : ∀ x ∈ flat v, x ∈ flats vs :=
  fun _ hx => mem_flats.mpr ⟨v, h, hx⟩

theorem flat_eq (v : Variant) : flat v = flats v.kids ++ [(v.uid, entryOf v)] := by cases v; rfl

theorem self_mem_flat (v : Variant) : (v.uid, entryOf v) ∈ flat v := by
  rw [flat_eq]; simp

mutual
/-- every `validate()` the writer runs on the subtree succeeded (that of `VariantPaths`, a class without rules today, holds by
evaluation; it is listed because the writer runs it) -/
def Good (ctx : Ctx) : Variant → Prop
  | .mk key id uid name type arches paths rel kids =>
    (type = layeredProduct → validateClass "composeinfo.Release" (variantReleaseObj rel) = .ok ()) ∧
    validateClass "composeinfo.VariantPaths" [] = .ok () ∧
    validateClass "composeinfo.Variant" (variantObj ctx (.mk key id uid name type arches paths rel kids)) = .ok () ∧
    GoodL (some (uid, Str.sortDedup arches)) kids
def GoodL (ctx : Ctx) : List Variant → Prop
  | [] => True
  | v :: vs => Good ctx v ∧ GoodL ctx vs
end

theorem GoodL_iff {ctx : Ctx} : ∀ {vs : List Variant}, GoodL ctx vs ↔ ∀ v ∈ vs, Good ctx v
  | [] => by simp [GoodL]
  | v :: vs => by simp [GoodL, GoodL_iff (vs := vs)]

section
variable {ctx : Ctx} {v : Variant}
theorem Good.valid (h : Good ctx v) : validateClass "composeinfo.Variant" (variantObj ctx v) = .ok () := by
  cases v; rw [Good] at h; exact h.2.2.1
theorem Good.release (h : Good ctx v) (ht : v.type = layeredProduct) :
    validateClass "composeinfo.Release" (variantReleaseObj v.release) = .ok () := by
  cases v; rw [Good] at h; exact h.1 ht
theorem Good.paths (h : Good ctx v) : validateClass "composeinfo.VariantPaths" [] = .ok () := by
  cases v; rw [Good] at h; exact h.2.1
theorem Good.kids (h : Good ctx v) : GoodL (some (v.uid, Str.sortDedup v.arches)) v.kids := by
  cases v; rw [Good] at h; exact h.2.2.2
theorem Good.aligned (h : Good ctx v) : ∀ k ∈ v.kids, k.uid = v.uid ++ '-' :: k.id := fun k hk =>
  uid_of_valid_child v.uid _ k (GoodL_iff.mp h.kids k hk).valid
end

/-- keys strictly increasing: the canonical representation of the dict being filled -/
def FSorted (d : Flat) : Prop := d.Pairwise (fun a b => a.1 < b.1)

theorem FSorted.keys_nodup {d : Flat} (h : FSorted d) : (d.map (·.1)).Nodup :=
  Str.nodup_of_sorted (List.pairwise_map.mpr h)

theorem mem_insertFlat {k : Str} {e : Entry} {x : Str × Entry} {d : Flat} : x ∈ insertFlat k e d ↔ x = (k, e) ∨ x ∈ d := by
  induction d with
  | nil => simp [insertFlat]
  | cons a as ih =>
    obtain ⟨ak, ae⟩ := a
    simp only [insertFlat]
    split
    · simp
    · simp only [List.mem_cons, ih]
      constructor
      · rintro (h | h | h) <;> simp [h]
      · rintro (h | h | h) <;> simp [h]

theorem insertFlat_sorted {k : Str} {e : Entry} {d : Flat} (hs : FSorted d) (hk : ∀ x ∈ d, x.1 ≠ k) : FSorted (insertFlat k e d) := by
  induction d with
  | nil => simp [insertFlat, FSorted]
  | cons a as ih =>
    obtain ⟨ak, ae⟩ := a
    unfold FSorted at hs
    have ⟨ha, hs'⟩ := List.pairwise_cons.mp hs
    simp only [insertFlat]
    split
    · rename_i hlt
      have hlt' : k < ak := by simpa [Str.lt] using hlt
      exact List.pairwise_cons.mpr ⟨fun b hb => by
        rcases List.mem_cons.mp hb with rfl | hb
        · exact hlt'
        · exact List.lt_trans hlt' (ha b hb), hs⟩
    · rename_i hnlt
      have hnlt' : ¬ k < ak := by simpa [Str.lt] using hnlt
      have hne : k ≠ ak := fun h => hk (ak, ae) (by simp) h.symm
      have hak : ak < k := lt_of_not_lt_ne hnlt' hne
      exact List.pairwise_cons.mpr ⟨fun b hb => by
        rcases mem_insertFlat.mp hb with rfl | hb
        · exact hak
        · exact ha b hb, ih hs' (fun x hx => hk x (by simp [hx]))⟩

theorem putEntry_spec {k : Str} {e : Entry} {d d' : Flat} (h : putEntry k e d = .ok d') (hs : FSorted d) :
    FSorted d' ∧ ∀ x, x ∈ d' ↔ x = (k, e) ∨ x ∈ d := by
  unfold putEntry at h
  split at h
  · rename_i hl
    cases h
    exact ⟨insertFlat_sorted hs (lookup_none_iff.mp hl), fun _ => mem_insertFlat⟩
  · rename_i e' hl
    split at h
    · rename_i he
      cases h
      subst he
      exact ⟨hs, fun x => ⟨.inr, fun hx => hx.elim (fun hx => hx ▸ mem_of_lookup hl) id⟩⟩
    · cases h

/-- no key with two different values -/
def Func (l : Flat) : Prop := ∀ x ∈ l, ∀ y ∈ l, x.1 = y.1 → x = y

theorem Func.mono {l l' : Flat} (h : Func l) (hsub : ∀ x ∈ l', x ∈ l) : Func l' :=
  fun x hx y hy hxy => h x (hsub x hx) y (hsub y hy) hxy

theorem FSorted.func {d : Flat} (h : FSorted d) : Func d := by
  intro x hx y hy hxy
  exact inj_of_nodup_map (·.1) h.keys_nodup hx hy hxy

theorem putEntry_complete {k : Str} {e : Entry} {d : Flat} (h : ∀ e', (k, e') ∈ d → e' = e) : ∃ d', putEntry k e d = .ok d' := by
  unfold putEntry
  cases hl : lookup k d with
  | none => exact ⟨_, rfl⟩
  | some e' =>
    have := h e' (mem_of_lookup hl)
    subst this
    exact ⟨d, by simp⟩

theorem flat_ext {d₁ d₂ : Flat} (h₁ : FSorted d₁) (h₂ : FSorted d₂) (h : ∀ x, x ∈ d₁ ↔ x ∈ d₂) : d₁ = d₂ := by
  have n₁ : d₁.Nodup := nodup_of_map _ _ h₁.keys_nodup
  have n₂ : d₂.Nodup := nodup_of_map _ _ h₂.keys_nodup
  have hp : d₁.Perm d₂ := (List.perm_ext_iff_of_nodup n₁ n₂).mpr h
  unfold FSorted at h₁ h₂
  exact List.Perm.eq_of_pairwise (le := fun (a b : Str × Entry) => a.1 < b.1)
    (fun a b _ _ hab hba => absurd hba (List.lt_asymm hab)) h₁ h₂ hp

/-- file the entries of `S` one after the other (`setdefault` + comparison for each) -/
def putAll : Flat → Flat → Except Err Flat
  | [], d => .ok d
  | (k, e) :: S, d => match putEntry k e d with
    | .error err => .error err
    | .ok d1 => putAll S d1

theorem putAll_cons {k e S d d'} : putAll ((k, e) :: S) d = .ok d' ↔ ∃ d1, putEntry k e d = .ok d1 ∧ putAll S d1 = .ok d' := by
  rw [putAll]
  cases putEntry k e d <;> simp

theorem putAll_append (S T : Flat) (d d' : Flat) :
    putAll (S ++ T) d = .ok d' ↔ ∃ d1, putAll S d = .ok d1 ∧ putAll T d1 = .ok d' := by
  induction S generalizing d with
  | nil => simp [putAll]
  | cons x S ih =>
    obtain ⟨k, e⟩ := x
    simp only [List.cons_append, putAll_cons, ih]
    exact ⟨fun ⟨d1, h1, d2, h2, h3⟩ => ⟨d2, ⟨d1, h1, h2⟩, h3⟩, fun ⟨d2, ⟨d1, h1, h2⟩, h3⟩ => ⟨d1, h1, d2, h2, h3⟩⟩

theorem putAll_one {k e d d'} : putAll [(k, e)] d = .ok d' ↔ putEntry k e d = .ok d' := by
  rw [putAll]
  cases putEntry k e d <;> simp [putAll]

theorem putAll_iff : ∀ (S : Flat) {d d' : Flat}, FSorted d →
    (putAll S d = .ok d' ↔ FSorted d' ∧ ∀ x, x ∈ d' ↔ x ∈ S ∨ x ∈ d)
  | [], d, d', hs => by
    simp only [putAll, Except.ok.injEq, List.not_mem_nil, false_or]
    exact ⟨fun h => h ▸ ⟨hs, fun _ => Iff.rfl⟩, fun ⟨hs', h⟩ => flat_ext hs hs' fun x => (h x).symm⟩
  | (k, e) :: S, d, d', hs => by
    have step : ∀ {d1}, putEntry k e d = .ok d1 → FSorted d1 ∧ ∀ x, x ∈ S ∨ x ∈ d1 ↔ x ∈ (k, e) :: S ∨ x ∈ d := fun h1 =>
      let ⟨s1, m1⟩ := putEntry_spec h1 hs
      ⟨s1, fun x => by rw [m1, List.mem_cons, or_left_comm, or_assoc]⟩
    rw [putAll_cons]
    constructor
    · rintro ⟨d1, h1, h2⟩
      obtain ⟨s1, m1⟩ := step h1
      obtain ⟨s', m'⟩ := (putAll_iff S s1).mp h2
      exact ⟨s', fun x => (m' x).trans (m1 x)⟩
    · rintro ⟨s', m'⟩
      -- a value the key already has is `e`: the final table is sorted, so functional, and holds both
      obtain ⟨d1, h1⟩ := putEntry_complete (k := k) (e := e) (d := d) fun e' he' =>
        (Prod.mk.inj (s'.func _ ((m' _).mpr (.inr he')) _ ((m' _).mpr (.inl List.mem_cons_self)) rfl)).2
      obtain ⟨s1, m1⟩ := step h1
      exact ⟨d1, h1, (putAll_iff S s1).mpr ⟨s', fun x => (m' x).trans (m1 x).symm⟩⟩

theorem ser_node_iff {ctx : Ctx} {v : Variant} {d d' : Flat} :
    Variant.ser ctx v d = .ok d' ↔
      (v.type = layeredProduct → validateClass "composeinfo.Release" (variantReleaseObj v.release) = .ok ()) ∧
      validateClass "composeinfo.VariantPaths" [] = .ok () ∧
      validateClass "composeinfo.Variant" (variantObj ctx v) = .ok () ∧
      ∃ d1, sers (some (v.uid, Str.sortDedup v.arches)) v.kids d = .ok d1 ∧ putEntry v.uid (entryOf v) d1 = .ok d' := by
  obtain ⟨key, id, uid, name, type, arches, paths, rel, kids⟩ := v
  rw [Variant.ser]
  simp only [Variant.type, Variant.release, Variant.uid, Variant.arches, Variant.kids]
  generalize validateClass "composeinfo.Release" (variantReleaseObj rel) = R
  generalize validateClass "composeinfo.VariantPaths" [] = P
  generalize validateClass "composeinfo.Variant" _ = V
  generalize sers _ kids d = K
  generalize entryOf _ = e
  -- every discriminant of the body is a variable now; in each combination of their values both sides reduce to the same
  by_cases ht : type = layeredProduct <;> rcases R with _ | ⟨⟨⟩⟩ <;> rcases P with _ | ⟨⟨⟩⟩ <;> rcases K with _ | d1 <;>
    simp [ht] <;> cases putEntry uid e d1 <;> rcases V with _ | ⟨⟨⟩⟩ <;> simp

theorem sers_cons_iff {ctx : Ctx} {v : Variant} {vs : List Variant} {d d' : Flat} :
    sers ctx (v :: vs) d = .ok d' ↔ ∃ d1, Variant.ser ctx v d = .ok d1 ∧ sers ctx vs d1 = .ok d' := by
  rw [sers]
  cases Variant.ser ctx v d <;> simp

mutual
theorem ser_iff : ∀ (v : Variant) (ctx : Ctx) (d d' : Flat),
    Variant.ser ctx v d = .ok d' ↔ Good ctx v ∧ putAll (flat v) d = .ok d'
  | .mk key id uid name type arches paths rel kids, ctx, d, d' => by
    rw [ser_node_iff, flat, Good, putAll_append]
    simp only [Variant.kids, sers_iff kids, putAll_one]
    exact ⟨fun ⟨a, b, c, d1, ⟨g, h1⟩, h2⟩ => ⟨⟨a, b, c, g⟩, d1, h1, h2⟩, fun ⟨⟨a, b, c, g⟩, d1, h1, h2⟩ => ⟨a, b, c, d1, ⟨g, h1⟩, h2⟩⟩
theorem sers_iff : ∀ (vs : List Variant) (ctx : Ctx) (d d' : Flat),
    sers ctx vs d = .ok d' ↔ GoodL ctx vs ∧ putAll (flats vs) d = .ok d'
  | [], ctx, d, d' => by simp [sers, GoodL, flats, putAll]
  | v :: vs, ctx, d, d' => by
    rw [sers_cons_iff, flats, GoodL, putAll_append]
    simp only [ser_iff v, sers_iff vs]
    exact ⟨fun ⟨d1, ⟨g1, h1⟩, g2, h2⟩ => ⟨⟨g1, g2⟩, d1, h1, h2⟩, fun ⟨⟨g1, g2⟩, d1, h1, h2⟩ => ⟨d1, ⟨g1, h1⟩, g2, h2⟩⟩
end

theorem variantsSer_iff_sers {vs : List Variant} {d : Flat} :
    variantsSer vs = .ok d ↔
      validateClass "composeinfo.Variants" (containerObj vs) = .ok () ∧ sers none (byKeys vs) [] = .ok d := by
  rw [variantsSer]
  cases validateClass "composeinfo.Variants" (containerObj vs) <;> simp

theorem variantsSer_iff {vs : List Variant} {d : Flat} :
    variantsSer vs = .ok d ↔
      validateClass "composeinfo.Variants" (containerObj vs) = .ok () ∧ GoodL none (byKeys vs) ∧ FSorted d ∧
        ∀ x, x ∈ d ↔ x ∈ flats (byKeys vs) := by
  rw [variantsSer_iff_sers, sers_iff, putAll_iff _ List.Pairwise.nil]
  simp only [List.not_mem_nil, or_false]

theorem serialize_iff {ci : ComposeInfo} {j : PyVal} : serialize ci = .ok j ↔
    validateClass "common.Header" (headerObj (.str currentVersion)) = .ok () ∧
    validateClass "composeinfo.Compose" (composeObj ci.compose) = .ok () ∧
    validateClass "composeinfo.Release" (releaseObj ci.release) = .ok () ∧
    (if ci.release.isLayered then validateClass "composeinfo.BaseProduct" (baseObj ci.base) else .ok ()) = .ok () ∧
    ∃ d, variantsSer ci.variants = .ok d ∧
      j = .dict [(k%"header", headerVal),
        (k%"payload", .dict ([(k%"compose", composeVal ci.compose), (k%"release", releaseVal ci.release)]
          ++ (if ci.release.isLayered then (ci.base.map fun b => (k%"base_product", baseVal b)).toList else [])
          ++ [(k%"variants", flatVal d)]))] := by
  constructor
  · intro h
    rw [serialize] at h
    -- `cases` on the discriminants: `split` on a `match validateClass "…" o with …` makes the kernel run the class lookup
    cases hH : validateClass "common.Header" (headerObj (.str currentVersion)) <;> rw [hH] at h
    · cases h
    cases hC : validateClass "composeinfo.Compose" (composeObj ci.compose) <;> rw [hC] at h
    · cases h
    cases hR : validateClass "composeinfo.Release" (releaseObj ci.release) <;> rw [hR] at h
    · cases h
    cases hB : (if ci.release.isLayered then validateClass "composeinfo.BaseProduct" (baseObj ci.base) else .ok ()) <;>
      rw [hB] at h
    · cases h
    cases hV : variantsSer ci.variants <;> rw [hV] at h
    · cases h
    cases h
    refine ⟨rfl, rfl, rfl, rfl, _, rfl, ?_⟩
    cases ci.release.isLayered <;> cases ci.base <;> rfl
  · rintro ⟨hH, hC, hR, hB, d, hV, rfl⟩
    rw [serialize, hH, hC, hR, hB, hV]
    cases ci.release.isLayered <;> cases ci.base <;> rfl

theorem dumps_ok {ci : ComposeInfo} {t : Str} (h : dumps ci = .ok t) :
    validateClass "composeinfo.ComposeInfo" [] = .ok () ∧ ∃ j, serialize ci = .ok j ∧ t = JsonText.dumps j := by
  rw [dumps] at h
  cases hv : validateClass "composeinfo.ComposeInfo" [] <;> rw [hv] at h
  · cases h
  cases hj : serialize ci <;> rw [hj] at h
  · cases h
  cases h
  exact ⟨rfl, _, rfl, rfl⟩

end PM.CI
