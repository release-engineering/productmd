import ProductMD.Proofs.RulesAgree
import ProductMD.Spec.MfWords
/-!
"Fields read" analysis for the rule interpreter: a rule list that looks at field `f` only under the guard
`if self.g:` gives the same verdict on two objects that differ only in `f` and have a falsy `g`.
Used for the compose section, which the manifests, composeinfo and images all carry: `final` is validated only
when a label is set, so dropping `final` together with an absent label (what a write/read cycle does) cannot
invalidate the section.
The second half is about that section alone: the closed facts about its generated rule list (`ComposeRuleFacts`) and what the
models use of them.
-/
namespace PM.Mf
open PM

theorem condReads_eq (c : Cond) : condReads c = c.reads := by
  induction c <;> simp only [condReads, Cond.reads, *]

theorem cond_congr (o1 o2 : Obj) (c : Cond) (h : ∀ x ∈ condReads c, o1.get x = o2.get x) :
    c.eval o1 = c.eval o2 ∧ c.wellTyped o1 = c.wellTyped o2 :=
  Cond.agree c (condReads_eq c ▸ h)

theorem rule_congr (cu : Str → Obj → Except Err Unit) (o1 o2 : Obj) (f g : Str) (allow : List Str)
    (hagree : ∀ x, x ≠ f → o1.get x = o2.get x)
    (hg1 : (o1.get g).truthy = false) (hg2 : (o2.get g).truthy = false)
    (hallow : ∀ n ∈ allow, cu n o1 = cu n o2) (r : Rule) (hr : ruleIndep f g allow r = true) :
    r.check cu o1 = r.check cu o2 := by
  induction r with
  | type f' ts =>
    have : f' ≠ f := by simpa [ruleIndep] using hr
    simp [Rule.check, hagree f' this]
  | value f' t =>
    have : f' ≠ f := by simpa [ruleIndep] using hr
    simp [Rule.check, hagree f' this]
  | notBlank f' =>
    have : f' ≠ f := by simpa [ruleIndep] using hr
    simp [Rule.check, hagree f' this]
  | re f' ps =>
    have : f' ≠ f := by simpa [ruleIndep] using hr
    simp [Rule.check, hagree f' this]
  | failIf c =>
    have hnot : f ∉ condReads c := by simpa [ruleIndep] using hr
    have := cond_congr o1 o2 c (fun x hx => hagree x (fun e => hnot (e ▸ hx)))
    simp [Rule.check, this.1, this.2]
  | guarded c r ih =>
    simp only [ruleIndep, Bool.or_eq_true, Bool.and_eq_true] at hr
    rcases hr with hr | hr
    · -- the guard is `if self.g:`, falsy on both objects: the rule under it is skipped on both
      cases c <;> simp [isTruthyGuard] at hr
      subst hr
      simp [Rule.check, Cond.wellTyped, Cond.eval, hg1, hg2]
    · -- the guard does not read `f`, and the rule under it does not depend on `f` (induction)
      have hnot : f ∉ condReads c := by simpa using hr.1
      have := cond_congr o1 o2 c (fun x hx => hagree x (fun e => hnot (e ▸ hx)))
      simp [Rule.check, this.1, this.2, ih hr.2]
  | custom n =>
    have : n ∈ allow := by simpa [ruleIndep] using hr
    simp [Rule.check, hallow n this]

theorem runRules_indep (cu : Str → Obj → Except Err Unit) {o1 o2 : Obj} {f g : Str} {allow : List Str} {rs : List Rule}
    (hrs : rs.all (ruleIndep f g allow) = true) (hagree : ∀ x, x ≠ f → o1.get x = o2.get x)
    (hg1 : (o1.get g).truthy = false) (hg2 : (o2.get g).truthy = false)
    (hallow : ∀ n ∈ allow, cu n o1 = cu n o2) : runRules cu o1 rs = runRules cu o2 rs :=
  runRules_congr cu o1 o2 rs fun r hr =>
    rule_congr cu o1 o2 f g allow hagree hg1 hg2 hallow r (List.all_eq_true.mp hrs r hr)

def isCustom (n : Str) : Rule → Bool
  | .custom m => m == n
  | _ => false

theorem mem_of_isCustom (n : Str) (rs : List Rule) (h : rs.any (isCustom n) = true) : Rule.custom n ∈ rs := by
  obtain ⟨r, hr, hc⟩ := List.any_eq_true.mp h
  cases r <;> simp [isCustom] at hc
  subst hc
  exact hr

/-- Closed facts about the generated compose rules and the label rule, evaluated in one declaration
(DESIGN.md §3, closed facts).  `final_under_label` is the obligation on the generated
rule list: `final` is looked at only under `if self.label:`. -/
structure ComposeRuleFacts : Prop where
  final_under_label : composeRules.all (ruleIndep "final".toList "label".toList [labelCustom]) = true
  label_verified : composeRules.any (isCustom labelCustom) = true
  label_only : (composeRules.flatMap Rule.customNames).all (· == labelCustom) = true
  label_first : (customTable.map (·.1)).idxOf labelCustom = 0
  empty_label_refused : (verifyLabel (.str [])).toBool = false

theorem compose_rule_facts : ComposeRuleFacts := by
  suffices h : _ ∧ _ ∧ _ ∧ _ ∧ _ from ⟨h.1, h.2.1, h.2.2.1, h.2.2.2.1, h.2.2.2.2⟩
  decide +kernel

theorem customs_label (o : Obj) : customs labelCustom o = verifyLabel (o.get "label".toList) :=
  congrFun (customs_eq_of_idxOf (by decide) compose_rule_facts.label_first) o

theorem label_rule_mem : Rule.custom labelCustom ∈ composeRules :=
  mem_of_isCustom _ _ compose_rule_facts.label_verified

theorem compose_customNames {r : Rule} (hr : r ∈ composeRules) {n : Str} (hn : n ∈ r.customNames) : n = labelCustom :=
  eq_of_beq (List.all_eq_true.mp compose_rule_facts.label_only n (List.mem_flatMap.mpr ⟨r, hr, hn⟩))

/-- Stated once: unfolding `validateClass` inside a proof makes the kernel run the class lookup again. -/
theorem validateCompose_eq (o : Obj) : validateClass "composeinfo.Compose" o = runRules customs o composeRules := rfl

/-- the attributes of a compose section by name, as `validateClass "composeinfo.Compose"` sees them in the composeinfo, images and
manifest models alike -/
def composeObj6 (id type date respin label final : PyVal) : Obj :=
  [("id".toList, id), ("type".toList, type), ("date".toList, date), ("respin".toList, respin), ("label".toList, label),
   ("final".toList, final)]

theorem validateCompose_setFinal (id type date respin label f f' : PyVal) (hl : label.truthy = false) :
    validateClass "composeinfo.Compose" (composeObj6 id type date respin label f) =
    validateClass "composeinfo.Compose" (composeObj6 id type date respin label f') := by
  rw [validateCompose_eq, validateCompose_eq]
  refine runRules_indep customs compose_rule_facts.final_under_label (fun x hx => ?_) hl hl fun n hn => ?_
  · -- the two objects differ at the key `final` only
    have hne : ("final".toList == x) = false := beq_false_of_ne (Ne.symm hx)
    simp only [composeObj6, Obj.get, List.find?, hne]
  · rw [List.mem_singleton.mp hn, customs_label, customs_label]
    rfl

/-- `verify_label("")` matches none of the label patterns -/
theorem validateCompose_empty_label {o : Obj} (hl : o.get "label".toList = .str []) :
    validateClass "composeinfo.Compose" o ≠ .ok () := by
  intro h
  rw [validateCompose_eq] at h
  have h1 := (runRules_ok_iff customs o composeRules).mp h _ label_rule_mem
  rw [Rule.check, customs_label, hl] at h1
  exact Bool.noConfusion ((congrArg Except.toBool h1).symm.trans compose_rule_facts.empty_label_refused)

end PM.Mf
