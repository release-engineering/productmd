import ProductMD.Model.ComposeInfo
import ProductMD.Spec.CIWords
import ProductMD.Proofs.Assoc
import ProductMD.Proofs.StrSort
/-! Composeinfo, generic lemmas: sorted lists of strings, `lookup` on association lists, induction over a variant and its children,
`collect` over `map` / `filterMap`. -/
namespace PM.CI
open PM

-- "strictly increasing" in these lemmas is `List.Pairwise (· < ·)`, which `SSorted` (Spec/CIWords.lean) unfolds to
export PM.Str (lt_of_not_lt_ne sorted_ext mem_sortDedup sortDedup_sorted sortDedup_congr sortDedup_of_sorted sortDedup_idem
  sortDedup_nodup)

theorem SSorted.nodup {l : List Str} (h : SSorted l) : l.Nodup := Str.nodup_of_sorted h

theorem sortDedup_eq_nil {l : List Str} : Str.sortDedup l = [] ↔ l = [] := by
  constructor
  · intro h
    cases l with
    | nil => rfl
    | cons a as =>
      have : a ∈ Str.sortDedup (a :: as) := mem_sortDedup.mpr (by simp)
      rw [h] at this; cases this
  · rintro rfl; rfl

theorem nodup_map_of_nodup_map {α β γ} (f : α → β) (g : α → γ) : ∀ {l : List α}, (l.map g).Nodup →
    (∀ a ∈ l, ∀ b ∈ l, f a = f b → g a = g b) → (l.map f).Nodup
  | [], _, _ => List.nodup_nil
  | a :: as, hn, h => by
    simp only [List.map_cons, List.nodup_cons] at hn ⊢
    refine ⟨?_, nodup_map_of_nodup_map f g hn.2 (fun x hx y hy => h x (by simp [hx]) y (by simp [hy]))⟩
    intro hm
    obtain ⟨b, hb, hfb⟩ := List.mem_map.mp hm
    exact hn.1 (List.mem_map.mpr ⟨b, hb, h b (by simp [hb]) a (by simp) hfb⟩)

/-- the model's first-binding lookup is core's `List.lookup` (which compares the other way round) -/
theorem lookup_eq {β} (k : Str) : ∀ l : List (Str × β), lookup k l = l.lookup k
  | [] => rfl
  | (a, b) :: rest => by rw [lookup, Ini.lookup_cons_eq, lookup_eq k rest]

theorem lookup_of_mem {β} {k : Str} {b : β} {l : List (Str × β)} (hn : (l.map (·.1)).Nodup) (hm : (k, b) ∈ l) :
    lookup k l = some b :=
  (lookup_eq k l).trans (Assoc.lookup_of_mem_nodup hn hm)

theorem mem_of_lookup {β} {k : Str} {b : β} {l : List (Str × β)} (h : lookup k l = some b) : (k, b) ∈ l :=
  Assoc.mem_of_lookup ((lookup_eq k l).symm.trans h)

theorem lookup_none_iff {β} {k : Str} {l : List (Str × β)} : lookup k l = none ↔ ∀ x ∈ l, x.1 ≠ k := by
  rw [lookup_eq, Assoc.lookup_none_iff, List.mem_map]
  exact ⟨fun h x hx e => h ⟨x, hx, e⟩, fun h ⟨x, hx, e⟩ => h x hx e⟩

theorem lookup_perm {β} {k : Str} {l l' : List (Str × β)} (hp : l.Perm l') (hn : (l.map (·.1)).Nodup) :
    lookup k l = lookup k l' := by
  rw [lookup_eq, lookup_eq, Assoc.lookup_perm hp hn]

theorem get?_map {β : Type} (f : β → PyVal) (k : Str) (l : List (Str × β)) :
    PyVal.get? (.dict (l.map fun p => (p.1, f p.2))) k = (lookup k l).map f := by
  rw [PyVal.get?, Assoc.find?_fst, Assoc.lookup_map, ← lookup_eq, Option.map_map, Option.map_map]
  cases lookup k l <;> rfl

theorem get?_cons_self (k : Str) (v : PyVal) (l : List (Str × PyVal)) : PyVal.get? (.dict ((k, v) :: l)) k = some v := by
  simp [PyVal.get?]

theorem get?_cons_of_ne {k k' : Str} (h : (k' == k) = false) (v : PyVal) (l : List (Str × PyVal)) :
    PyVal.get? (.dict ((k', v) :: l)) k = PyVal.get? (.dict l) k := by
  simp [PyVal.get?, h]

mutual
theorem Variant.induct {P : Variant → Prop} (step : ∀ v, (∀ k ∈ v.kids, P k) → P v) : ∀ v, P v
  | .mk _ _ _ _ _ _ _ _ kids => step _ (Variant.inducts step kids)
theorem Variant.inducts {P : Variant → Prop} (step : ∀ v, (∀ k ∈ v.kids, P k) → P v) : ∀ (vs : List Variant), ∀ k ∈ vs, P k
  | [], _, h => nomatch h
  | v :: vs, k, h => by
    rcases List.mem_cons.mp h with h | h
    · exact h ▸ Variant.induct step v
    · exact Variant.inducts step vs k h
end

theorem ok_of_isOk {α} : ∀ {x : Except Err α}, isOk x = true → ∃ a, x = .ok a
  | .ok a, _ => ⟨a, rfl⟩

theorem collect_iff {α} : ∀ {l : List (Except Err α)} {r : List α}, collect l = .ok r ↔ l = r.map .ok
  | [], r => by cases r <;> simp [collect]
  | .error e :: rest, r => by cases r <;> simp [collect]
  | .ok a :: rest, r => by
    rw [collect]
    cases r with
    | nil => cases collect rest <;> simp
    | cons b r' =>
      simp only [List.map_cons, List.cons.injEq, Except.ok.injEq, ← collect_iff (l := rest)]
      cases collect rest <;> simp

theorem collect_map_mem {α β} {f : α → Except Err β} {l : List α} {r : List β} (h : collect (l.map f) = .ok r)
    (b : β) (hb : b ∈ r) : ∃ a, f a = .ok b :=
  let ⟨a, _, ha⟩ := List.mem_map.mp (collect_iff.mp h ▸ List.mem_map_of_mem hb : Except.ok b ∈ l.map f)
  ⟨a, ha⟩

theorem collect_map_ok {α β} (f : α → Except Err β) (g : α → β) (l : List α) (h : ∀ a ∈ l, f a = .ok (g a)) :
    collect (l.map f) = .ok (l.map g) := by
  rw [collect_iff, List.map_map]
  exact List.map_congr_left h

theorem collect_filterMap {α β} (f : α → Except Err β) (g : α → Option β) :
    ∀ (l : List α), (∀ a ∈ l, ∃ b, f a = .ok b ∧ g a = some b) → collect (l.map f) = .ok (l.filterMap g) := by
  intro l
  induction l with
  | nil => intro _; rfl
  | cons a as ih =>
    intro h
    obtain ⟨b, hf, hg⟩ := h a (by simp)
    simp only [List.map_cons, collect, hf, ih (fun c hc => h c (by simp [hc])), List.filterMap_cons, hg]

theorem asStrList_strList (l : List Str) : asStrList (strList l) = .ok l := by
  simp only [strList, asStrList, List.map_map]
  have := collect_map_ok (fun s => asStr' (PyVal.str s)) (fun s => s) l (fun a _ => rfl)
  simpa [Function.comp_def] using this

theorem asStr_iff {v : PyVal} {s : Str} : asStr v = .ok s ↔ v = .str s := by
  constructor
  · intro h; cases v <;> simp [asStr] at h; subst h; rfl
  · intro h; subst h; rfl

theorem asInt_iff {v : PyVal} {n : Int} : asInt v = .ok n ↔ v = .int n := by
  constructor
  · intro h; cases v <;> simp [asInt] at h; subst h; rfl
  · intro h; subst h; rfl

end PM.CI
