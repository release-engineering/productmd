import ProductMD.Proofs.TreeInfoNormDump
/-!
The normal form of a tree that was written can be written again, and shows the same bytes (`serialize_transfer` at `norm t`).
-/
namespace PM
namespace TI
open Ini

theorem stage2On_norm (m i : Option Str) :
    stage2On (if optTruthy m then m else none) (if optTruthy i then i else none) = stage2On m i := by
  show stage2On (normOpt m) (normOpt i) = stage2On m i
  unfold stage2On
  rw [optTruthy_normOpt, optTruthy_normOpt]

theorem writeValid_norm {t : TreeInfo} (hv : ReadValid (norm t)) (wv : WriteValid t) : WriteValid (norm t) := by
  refine ⟨closed_facts.header, wv.release, ?_, hv.tree, hv.tops, hv.forest, hv.checksums, fun _ => hv.images, fun _ => hv.stage2,
    fun _ => hv.media⟩
  intro hl
  obtain ⟨p, hp, hvp⟩ := wv.base hl
  have hl' : t.isLayered = true := hl
  exact ⟨p, by simp only [norm, hl', if_true, hp], hvp⟩

theorem second_dump {t : TreeInfo} {mv : Option Str} {d : Ini} (h : serialize t mv = .ok d) (hv : ReadValid (norm t))
    (hk : TopKeyedByUid t.variants) (hnd : UidsNodup t.variants) (hmv : MainVariantTop t mv)
    (hcs : (t.checksums.map (·.1)).Nodup) (himg : ∀ p ∈ t.images, (p.2.map (·.1)).Nodup) :
    ∃ d', serialize (norm t) mv = .ok d' ∧ IniText.render d' = IniText.render d := by
  refine serialize_transfer h (writeValid_norm hv) ?_ ?_
  · intro hon
    rw [mediaOn_norm] at hon
    obtain ⟨h1, h2⟩ := norm_media_of_on hon
    rw [h1, h2]
    exact ⟨hon, id⟩
  · intro n key v hn hkey hch
    obtain ⟨w, hwm, hwk⟩ := chosen_top hmv hkey
    obtain ⟨g1, g2⟩ := getItem_norm_top hk hnd hwm hwk
    obtain rfl : v = w := Except.ok.inj (hch.symm.trans g1)
    refine ⟨normV true v, hn, (chosenKey_of_keys (norm_tops_keys t.variants hk) mv).trans hkey, g2, ?_⟩
    rw [generalOpts_norm t n key v hk]
    exact docList_norm t _ hcs himg

end TI
end PM

