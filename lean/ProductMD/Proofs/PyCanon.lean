import ProductMD.Model.JsonRep
import ProductMD.Proofs.Canon
import ProductMD.Proofs.PyValEq
import ProductMD.Proofs.Assoc
import ProductMD.Proofs.StrSort
/-!
Facts about `PyVal.canon` (recursive key sorting, what `json.dump(sort_keys=True)` does) on JSON-representable
values: it is idempotent, commutes with item lookup, and yields a value Python-equal to the original.
They are in `PM.Mf` because they speak of the manifest model's `Kvs`, `lookup`, `hasKey` and `jsonRep`; the facts about `canon`
that need none of these are in `Proofs/Canon.lean` (namespace `PM`).
"Keys sorted and distinct" is `List.Pairwise KLe` with `Nodup` keys there (what `sortKvs` yields) and the recursive
`sortedKeys` / `uniqKeys` here; `sortedKeys_of_pairwise` and `uniqKeys_iff` lead from the one to the other.
-/
namespace PM.Mf
open PM

theorem beqList_refl (xs : List PyVal) : PyVal.beqList xs xs = true := PyOps.beqList_refl xs
theorem beqKvs_refl (kvs : List (Str × PyVal)) : PyVal.beqKvs kvs kvs = true := PyOps.beqKvs_refl kvs

theorem strLt_irrefl (a : Str) : Str.lt a a = false := by
  simp [Str.lt, List.lt_irrefl]

/-- no key is bound twice -/
def uniqKeys : Kvs → Bool
  | [] => true
  | (k, _) :: rest => !(hasKey rest k) && uniqKeys rest

/-- strictly increasing keys (adjacent comparisons) -/
def sortedKeys : Kvs → Prop
  | [] => True
  | [_] => True
  | x :: y :: rest => Str.lt x.1 y.1 = true ∧ sortedKeys (y :: rest)

theorem hasKey_cons (p : Str × PyVal) (l : Kvs) (k : Str) : hasKey (p :: l) k = (p.1 == k || hasKey l k) := by
  obtain ⟨a, b⟩ := p; rfl

theorem lookup_cons (p : Str × PyVal) (l : Kvs) (k : Str) :
    lookup (p :: l) k = if p.1 == k then some p.2 else lookup l k := by
  obtain ⟨a, b⟩ := p; rfl

theorem uniqKeys_cons (p : Str × PyVal) (l : Kvs) : uniqKeys (p :: l) = (!(hasKey l p.1) && uniqKeys l) := by
  obtain ⟨a, b⟩ := p; rfl

theorem hasKey_eq_any (l : Kvs) (k : Str) : hasKey l k = l.any (·.1 == k) := by
  induction l with
  | nil => rfl
  | cons x xs ih => rw [hasKey_cons, List.any_cons, ih]

theorem hasKey_iff_mem (l : Kvs) (k : Str) : hasKey l k = true ↔ k ∈ l.map (·.1) := by
  rw [hasKey_eq_any, List.any_eq_true, List.mem_map]
  exact ⟨fun ⟨x, hx, e⟩ => ⟨x, hx, beq_iff_eq.mp e⟩, fun ⟨x, hx, e⟩ => ⟨x, hx, beq_iff_eq.mpr e⟩⟩

theorem uniqKeys_iff (l : Kvs) : uniqKeys l = true ↔ (l.map (·.1)).Nodup := by
  induction l with
  | nil => simp [uniqKeys]
  | cons x xs ih =>
    rw [uniqKeys_cons, Bool.and_eq_true, ih, List.map_cons, List.nodup_cons, ← hasKey_iff_mem, Bool.not_eq_true',
      Bool.not_eq_true]

/-- `d.get(k)` is core's `List.lookup` (which takes the key first and compares the other way round) -/
theorem lookup_eq (k : Str) : ∀ kvs : Kvs, lookup kvs k = kvs.lookup k
  | [] => rfl
  | (a, b) :: rest => by
    rw [lookup_cons, Ini.lookup_cons_eq, lookup_eq k rest]
    simp only [beq_iff_eq]

theorem get?_dict (kvs : Kvs) (k : Str) : (PyVal.dict kvs).get? k = lookup kvs k := by
  rw [PyVal.get?, Assoc.find?_fst, lookup_eq, Option.map_map]
  exact Option.map_id'

theorem mem_of_lookup {kvs : Kvs} {k : Str} {c : PyVal} (h : lookup kvs k = some c) : (k, c) ∈ kvs :=
  Assoc.mem_of_lookup ((lookup_eq k kvs).symm.trans h)

theorem lookup_of_mem (kvs : Kvs) (k : Str) (x : PyVal) (hn : (kvs.map (·.1)).Nodup) (hm : (k, x) ∈ kvs) :
    lookup kvs k = some x :=
  (lookup_eq k kvs).trans (Assoc.lookup_of_mem_nodup hn hm)

theorem lookup_perm {l l' : Kvs} (hp : l.Perm l') (hn : (l.map (·.1)).Nodup) (k : Str) : lookup l k = lookup l' k := by
  rw [lookup_eq, lookup_eq, Assoc.lookup_perm hp hn]

/-! The sorted list is a rearrangement (`sortKvs_perm`): what depends on the set of entries only carries over. -/

theorem hasKey_sortKvs (l : Kvs) (k : Str) : hasKey (PyVal.sortKvs l) k = hasKey l k := by
  rw [hasKey_eq_any, hasKey_eq_any, (sortKvs_perm l).any_eq]

theorem uniqKeys_sortKvs (l : Kvs) (h : uniqKeys l = true) : uniqKeys (PyVal.sortKvs l) = true :=
  (uniqKeys_iff _).mpr (((sortKvs_perm l).map (·.1)).nodup_iff.mpr ((uniqKeys_iff l).mp h))

theorem lookup_sortKvs (l : Kvs) (k : Str) (h : uniqKeys l = true) : lookup (PyVal.sortKvs l) k = lookup l k :=
  (lookup_perm (sortKvs_perm l).symm ((uniqKeys_iff l).mp h) k).symm

theorem sortedKeys_tail {x : Str × PyVal} {l : Kvs} (h : sortedKeys (x :: l)) : sortedKeys l := by
  cases l with
  | nil => trivial
  | cons y r => exact h.2

theorem sortedKeys_of_pairwise : ∀ l : Kvs, l.Pairwise KLe → (l.map (·.1)).Nodup → sortedKeys l
  | [], _, _ => trivial
  | [_], _, _ => trivial
  | x :: y :: rest, hp, hn => by
    have hle : x.1 ≤ y.1 := (List.pairwise_cons.mp hp).1 y List.mem_cons_self
    have hn' : x.1 ∉ (y :: rest).map (·.1) ∧ ((y :: rest).map (·.1)).Nodup := List.nodup_cons.mp hn
    have hne : y.1 ≠ x.1 := fun e => hn'.1 (by rw [← e]; exact List.mem_cons_self)
    exact ⟨decide_eq_true (Str.lt_of_not_lt_ne (List.not_lt.mpr hle) hne), sortedKeys_of_pairwise (y :: rest) (List.pairwise_cons.mp hp).2 hn'.2⟩

theorem sortedKeys_sortKvs (l : Kvs) (h : uniqKeys l = true) : sortedKeys (PyVal.sortKvs l) :=
  sortedKeys_of_pairwise _ (sortKvs_sorted l) ((uniqKeys_iff _).mp (uniqKeys_sortKvs l h))

theorem sortKvs_of_sortedKeys (l : Kvs) (h : sortedKeys l) : PyVal.sortKvs l = l := by
  induction l with
  | nil => rfl
  | cons x xs ih =>
    show PyVal.insertKv x (PyVal.sortKvs xs) = _
    rw [ih (sortedKeys_tail h)]
    cases xs with
    | nil => rfl
    | cons y r => simp only [PyVal.insertKv]; rw [if_pos h.1]

theorem canonKvs_cons (p : Str × PyVal) (l : Kvs) :
    PyVal.canonKvs (p :: l) = (p.1, PyVal.canon p.2) :: PyVal.canonKvs l := by
  obtain ⟨a, b⟩ := p; simp [PyVal.canonKvs]

theorem hasKey_canonKvs (l : Kvs) (k : Str) : hasKey (PyVal.canonKvs l) k = hasKey l k := by
  induction l with
  | nil => simp [PyVal.canonKvs]
  | cons x xs ih => rw [canonKvs_cons, hasKey_cons, hasKey_cons, ih]

theorem lookup_canonKvs (l : Kvs) (k : Str) : lookup (PyVal.canonKvs l) k = (lookup l k).map PyVal.canon := by
  rw [lookup_eq, lookup_eq, canonKvs_eq_map, Assoc.lookup_map]

theorem uniqKeys_canonKvs (l : Kvs) : uniqKeys (PyVal.canonKvs l) = uniqKeys l := by
  induction l with
  | nil => simp [PyVal.canonKvs]
  | cons x xs ih => rw [canonKvs_cons, uniqKeys_cons, uniqKeys_cons, ih, hasKey_canonKvs]

theorem jsonRepKvs_cons (p : Str × PyVal) (l : Kvs) :
    jsonRepKvs (p :: l) = (!(hasKey l p.1) && jsonRep p.2 && jsonRepKvs l) := by
  obtain ⟨a, b⟩ := p; simp [jsonRepKvs]

theorem jsonRepKvs_iff (l : Kvs) : jsonRepKvs l = true ↔ uniqKeys l = true ∧ ∀ kv ∈ l, jsonRep kv.2 = true := by
  induction l with
  | nil => simp [jsonRepKvs, uniqKeys]
  | cons x xs ih =>
    rw [jsonRepKvs_cons, uniqKeys_cons]
    simp only [Bool.and_eq_true, ih, List.mem_cons, forall_eq_or_imp]
    exact ⟨fun ⟨⟨h1, h2⟩, h3, h4⟩ => ⟨⟨h1, h3⟩, h2, h4⟩, fun ⟨⟨h1, h3⟩, h2, h4⟩ => ⟨⟨h1, h2⟩, h3, h4⟩⟩

theorem jsonRep_of_lookup (kvs : Kvs) (k : Str) (c : PyVal) (hj : jsonRepKvs kvs = true) (h : lookup kvs k = some c) :
    jsonRep c = true :=
  ((jsonRepKvs_iff kvs).mp hj).2 _ (mem_of_lookup h)

theorem uniqKeys_of_jsonRepKvs (l : Kvs) (h : jsonRepKvs l = true) : uniqKeys l = true := ((jsonRepKvs_iff l).mp h).1

theorem jsonRepList_eq_all : ∀ xs : List PyVal, jsonRepList xs = xs.all jsonRep
  | [] => rfl
  | x :: xs => by rw [jsonRepList, List.all_cons, jsonRepList_eq_all xs]

theorem jsonRep_list_iff {xs : List PyVal} : jsonRep (.list xs) = true ↔ ∀ x ∈ xs, jsonRep x = true := by
  rw [jsonRep, jsonRepList_eq_all, List.all_eq_true]

theorem jsonRep_dict_iff {kvs : Kvs} :
    jsonRep (.dict kvs) = true ↔ (kvs.map (·.1)).Nodup ∧ ∀ kv ∈ kvs, jsonRep kv.2 = true := by
  rw [jsonRep, jsonRepKvs_iff, uniqKeys_iff]

theorem lookup_sortKvs_canonKvs (kvs : Kvs) (k : Str) (h : jsonRepKvs kvs = true) :
    lookup (PyVal.sortKvs (PyVal.canonKvs kvs)) k = (lookup kvs k).map PyVal.canon := by
  rw [lookup_sortKvs _ _ (by rw [uniqKeys_canonKvs]; exact uniqKeys_of_jsonRepKvs _ h), lookup_canonKvs]

theorem jsonRepKvs_sortKvs (l : Kvs) (h : jsonRepKvs l = true) : jsonRepKvs (PyVal.sortKvs l) = true :=
  have ⟨hu, hv⟩ := (jsonRepKvs_iff l).mp h
  (jsonRepKvs_iff _).mpr ⟨uniqKeys_sortKvs l hu, fun kv hkv => hv kv ((sortKvs_perm l).mem_iff.mp hkv)⟩

theorem jsonRep_canon (v : PyVal) (h : jsonRep v = true) : jsonRep (PyVal.canon v) = true := by
  induction v using PyVal.induct with
  | list xs ih =>
    rw [canon_list, jsonRep_list_iff, List.forall_mem_map]
    exact fun x hx => ih x hx (jsonRep_list_iff.mp h x hx)
  | dict kvs ih =>
    obtain ⟨hn, hv⟩ := jsonRep_dict_iff.mp h
    rw [canon_dict, jsonRep_dict_iff, ((sortKvs_perm _).map _).nodup_iff, List.map_map]
    refine ⟨hn, fun kv hkv => ?_⟩
    obtain ⟨p, hp, rfl⟩ := List.mem_map.mp ((sortKvs_perm _).mem_iff.mp hkv)
    exact ih p hp (hv p hp)
  | _ => exact h

theorem jsonRepList_canonList (xs : List PyVal) (h : jsonRepList xs = true) :
    jsonRepList (PyVal.canonList xs) = true :=
  jsonRep_canon (.list xs) h

theorem jsonRepKvs_canonKvs (kvs : List (Str × PyVal)) (h : jsonRepKvs kvs = true) :
    jsonRepKvs (PyVal.canonKvs kvs) = true := by
  rw [jsonRepKvs_iff, uniqKeys_canonKvs, canonKvs_eq_map, List.forall_mem_map]
  exact ⟨uniqKeys_of_jsonRepKvs _ h, fun p hp => jsonRep_canon _ (((jsonRepKvs_iff _).mp h).2 p hp)⟩

/-! Canonical values: every dict inside has strictly increasing keys. -/

mutual
def Canonical : PyVal → Prop
  | .list xs => CanonicalList xs
  | .dict kvs => sortedKeys kvs ∧ CanonicalKvs kvs
  | _ => True
def CanonicalList : List PyVal → Prop
  | [] => True
  | x :: xs => Canonical x ∧ CanonicalList xs
def CanonicalKvs : List (Str × PyVal) → Prop
  | [] => True
  | (_, v) :: rest => Canonical v ∧ CanonicalKvs rest
end

theorem canonicalKvs_iff : ∀ l : Kvs, CanonicalKvs l ↔ ∀ kv ∈ l, Canonical kv.2
  | [] => by simp [CanonicalKvs]
  | (_, _) :: rest => by simp [CanonicalKvs, canonicalKvs_iff rest]

theorem canonicalList_iff : ∀ l : List PyVal, CanonicalList l ↔ ∀ x ∈ l, Canonical x
  | [] => by simp [CanonicalList]
  | _ :: rest => by simp [CanonicalList, canonicalList_iff rest]

theorem canon_of_canonical (v : PyVal) (h : Canonical v) : PyVal.canon v = v := by
  induction v using PyVal.induct with
  | list xs ih =>
    rw [Canonical, canonicalList_iff] at h
    rw [canon_list, List.map_congr_left fun x hx => ih x hx (h x hx), List.map_id']
  | dict kvs ih =>
    rw [Canonical, canonicalKvs_iff] at h
    rw [canon_dict, List.map_congr_left fun p hp => by rw [ih p hp (h.2 p hp)], List.map_id', sortKvs_of_sortedKeys kvs h.1]
  | _ => rfl

theorem canonList_of_canonical (xs : List PyVal) (h : CanonicalList xs) : PyVal.canonList xs = xs :=
  PyVal.list.inj (canon_of_canonical (.list xs) h)

theorem canonKvs_of_canonical (kvs : List (Str × PyVal)) (h : CanonicalKvs kvs) : PyVal.canonKvs kvs = kvs := by
  rw [canonKvs_eq_map, List.map_congr_left fun p hp => by rw [canon_of_canonical p.2 ((canonicalKvs_iff kvs).mp h p hp)], List.map_id']

theorem canonical_canon (v : PyVal) (h : jsonRep v = true) : Canonical (PyVal.canon v) := by
  induction v using PyVal.induct with
  | list xs ih =>
    rw [canon_list, Canonical, canonicalList_iff, List.forall_mem_map]
    exact fun x hx => ih x hx (jsonRep_list_iff.mp h x hx)
  | dict kvs ih =>
    obtain ⟨hn, hv⟩ := jsonRep_dict_iff.mp h
    rw [canon_dict, Canonical, canonicalKvs_iff]
    refine ⟨sortedKeys_sortKvs _ ((uniqKeys_iff _).mpr (by rw [List.map_map]; exact hn)), fun kv hkv => ?_⟩
    obtain ⟨p, hp, rfl⟩ := List.mem_map.mp ((sortKvs_perm _).mem_iff.mp hkv)
    exact ih p hp (hv p hp)
  | _ => trivial

theorem canonicalList_canonList (xs : List PyVal) (h : jsonRepList xs = true) :
    CanonicalList (PyVal.canonList xs) :=
  canonical_canon (.list xs) h

theorem canonicalKvs_canonKvs (kvs : List (Str × PyVal)) (h : jsonRepKvs kvs = true) :
    CanonicalKvs (PyVal.canonKvs kvs) := by
  rw [canonicalKvs_iff, canonKvs_eq_map, List.forall_mem_map]
  exact fun p hp => canonical_canon _ (((jsonRepKvs_iff _).mp h).2 p hp)

/-- sorting keys twice is sorting once.  Needs that no dict binds a key twice: `insertKv` goes past equal keys, so `sortKvs`
(a `foldr`) REVERSES the entries under one key, and a second sort reverses them back. -/
theorem canon_idem (v : PyVal) (h : jsonRep v = true) : PyVal.canon (PyVal.canon v) = PyVal.canon v :=
  canon_of_canonical _ (canonical_canon v h)

theorem getItem_canon (v : PyVal) (k : Str) (h : jsonRep v = true) :
    getItem (PyVal.canon v) k = (getItem v k).map PyVal.canon := by
  cases v with
  | list xs => simp only [PyVal.canon, getItem]; rfl
  | dict kvs =>
    simp only [jsonRep] at h
    simp only [PyVal.canon, getItem, lookup_sortKvs_canonKvs kvs k h]
    cases lookup kvs k <;> rfl
  | _ => rfl

theorem getItem_jsonRep (v x : PyVal) (k : Str) (hv : jsonRep v = true) (h : getItem v k = .ok x) : jsonRep x = true := by
  cases v with
  | dict kvs =>
    rw [jsonRep] at hv
    unfold getItem at h
    dsimp only at h
    cases hy : lookup kvs k with
    | none => rw [hy] at h; cases h
    | some y =>
      rw [hy] at h
      exact Except.ok.inj h ▸ jsonRep_of_lookup kvs k y hv hy
  | _ => cases h

theorem dictGetD_canon (v : PyVal) (k : Str) (d : PyVal) (hd : PyVal.canon d = d) (h : jsonRep v = true) :
    dictGetD (PyVal.canon v) k d = (dictGetD v k d).map PyVal.canon := by
  cases v with
  | list xs => simp only [PyVal.canon, dictGetD]; rfl
  | dict kvs =>
    simp only [jsonRep] at h
    simp only [PyVal.canon, dictGetD, lookup_sortKvs_canonKvs kvs k h]
    cases lookup kvs k with
    | none => simp [Except.map, hd]
    | some x => simp [Except.map]
  | _ => rfl

theorem pyEq_canon (v : PyVal) (h : jsonRep v = true) : PyVal.pyEq (PyVal.canon v) v = true := by
  unfold PyVal.pyEq
  rw [canon_idem v h]
  exact PyOps.beq_refl _

end PM.Mf
