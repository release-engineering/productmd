import ProductMD.Proofs.PyCanon
import ProductMD.Proofs.ExceptLemmas
import ProductMD.Spec.MfWords
/-!
The three manifest builders (C12; C03, C08 and C10 build on this).  What `setPathS` (the chain of `setdefault` calls followed by a leaf
update) does for EVERY leaf update: frame, leaf, atomicity; the interpreted statement lists of the three `add` methods are the documented
functions, given that the generated lists are the documented ones; what the precondition checks establish; the shape of the mappings the
builders make themselves.

Every level of `setPathS` (`setPathS_cons`) and every statement of the three leaf updates (`rpmsLeaf_eq`, `extraLeaf_eq`, `modulesLeaf_eq`)
is ONE statement, `sub`.  What is true of a state update because it is true of each statement (atomicity, `Keeps P` here; `Resp`, `Comm`
in Proofs/C08History) is proved for `sub` once and reaches `setPathS` by recursion over the path; what speaks of the whole path at once
(frame, the leaf reached, shape) is proved along the definition of `setPathS` (`fun_induction`).
-/
namespace PM.Mf
open PM

theorem lookup_put_same (kvs : Kvs) (k : Str) (v : PyVal) : lookup (put kvs k v) k = some v := by
  induction kvs with
  | nil => simp [put, lookup]
  | cons p rest ih =>
    obtain ⟨k1, v1⟩ := p
    simp only [put]
    split
    · simp [lookup]
    · rename_i h
      simp only [lookup, h]
      simpa using ih

theorem lookup_put_other (kvs : Kvs) (k k' : Str) (v : PyVal) (h : k' ≠ k) :
    lookup (put kvs k v) k' = lookup kvs k' := by
  induction kvs with
  | nil =>
    have : ¬ k = k' := fun e => h e.symm
    simp [put, lookup, this]
  | cons p rest ih =>
    obtain ⟨k1, v1⟩ := p
    simp only [put]
    split
    · rename_i h1
      have e : k1 = k := by simpa using h1
      subst e
      have : ¬ k1 = k' := fun e => h e.symm
      simp [lookup, this]
    · simp only [lookup, ih]

theorem lookup_put (kvs : Kvs) (k k' : Str) (v : PyVal) :
    lookup (put kvs k v) k' = if k' = k then some v else lookup kvs k' := by
  split
  · rename_i e
    rw [e, lookup_put_same]
  · rename_i e
    exact lookup_put_other _ _ _ _ e

theorem put_lookup_self (kvs : Kvs) (k : Str) (c : PyVal) (h : lookup kvs k = some c) : put kvs k c = kvs := by
  induction kvs with
  | nil => simp [lookup] at h
  | cons p rest ih =>
    obtain ⟨k1, v1⟩ := p
    simp only [lookup] at h
    simp only [put]
    split at h
    · rename_i h1
      have e : k1 = k := by simpa using h1
      simp only [Option.some.injEq] at h
      simp [e, h]
    · rename_i h1
      simp [h1, ih h]

theorem put_put_same (kvs : Kvs) (k : Str) (a b : PyVal) : put (put kvs k a) k b = put kvs k b := by
  induction kvs with
  | nil => simp [put]
  | cons p rest ih =>
    obtain ⟨k1, v1⟩ := p
    simp only [put]
    split
    · simp [put]
    · rename_i h1
      simp only [put, h1, ih]
      simp

theorem mem_put : ∀ {kvs : Kvs} {k : Str} {v : PyVal} {x : Str × PyVal}, x ∈ put kvs k v → x ∈ kvs ∨ x = (k, v)
  | [], _, _, _, h => .inr (List.mem_singleton.mp h)
  | (k1, v1) :: rest, k, v, x, h => by
    simp only [put] at h
    split at h
    · exact (List.mem_cons.mp h).symm.imp_left (List.mem_cons_of_mem _)
    · rcases List.mem_cons.mp h with rfl | h
      · exact .inl List.mem_cons_self
      · exact (mem_put h).imp_left (List.mem_cons_of_mem _)

theorem lookup_none_of_hasKey_false (kvs : Kvs) (k : Str) (h : hasKey kvs k = false) : lookup kvs k = none := by
  induction kvs with
  | nil => rfl
  | cons p rest ih =>
    obtain ⟨k1, v1⟩ := p
    simp only [hasKey, Bool.or_eq_false_iff] at h
    simp [lookup, h.1, ih h.2]

theorem put_keys_nodup (kvs : Kvs) (k : Str) (v : PyVal) (h : (kvs.map (·.1)).Nodup) : ((put kvs k v).map (·.1)).Nodup := by
  induction kvs with
  | nil => simp [put]
  | cons p rest ih =>
    obtain ⟨k1, v1⟩ := p
    simp only [List.map_cons, List.nodup_cons] at h
    simp only [put]
    split
    · rename_i h1
      rw [← beq_iff_eq.mp h1]
      exact List.nodup_cons.mpr h
    · rename_i h1
      refine List.nodup_cons.mpr ⟨fun hm => ?_, ih h.2⟩
      obtain ⟨x, hx, (e : x.1 = k1)⟩ := List.mem_map.mp hm
      rcases mem_put hx with hx | rfl
      · exact h.1 (e ▸ List.mem_map_of_mem (f := (·.1)) hx)
      · exact h1 (beq_iff_eq.mpr e.symm)

theorem jsonRepKvs_put (kvs : Kvs) (k : Str) (v : PyVal) (hj : jsonRepKvs kvs = true) (hv : jsonRep v = true) :
    jsonRepKvs (put kvs k v) = true :=
  have ⟨hu, ha⟩ := (jsonRepKvs_iff kvs).mp hj
  (jsonRepKvs_iff _).mpr ⟨(uniqKeys_iff _).mpr (put_keys_nodup _ _ _ ((uniqKeys_iff _).mp hu)),
    fun x hx => (mem_put hx).elim (ha x) (fun e => e ▸ hv)⟩

theorem jsonRepList_append (xs ys : List PyVal) (hx : jsonRepList xs = true) (hy : jsonRepList ys = true) :
    jsonRepList (xs ++ ys) = true := by
  rw [jsonRepList_eq_all] at hx hy ⊢
  rw [List.all_append, hx, hy]
  rfl

theorem _root_.PM.PyVal.dict_or_not (v : PyVal) : (∃ kvs, v = .dict kvs) ∨ ∀ kvs, v ≠ .dict kvs := by
  cases v <;> simp

theorem _root_.PM.PyVal.list_or_not (v : PyVal) : (∃ xs, v = .list xs) ∨ ∀ xs, v ≠ .list xs := by
  cases v <;> simp

theorem getD_elim {P : PyVal → Prop} {o : Option PyVal} {d : PyVal} (ho : ∀ y, o = some y → P y) (hd : P d) : P (o.getD d) := by
  cases o with
  | none => exact hd
  | some y => exact ho y rfl

theorem getPath_nil (v : PyVal) : getPath v [] = some v := by
  cases v <;> rfl

theorem getPath_dict_cons (kvs : Kvs) (k : Str) (ks : List Str) :
    getPath (.dict kvs) (k :: ks) = (lookup kvs k).bind (fun c => getPath c ks) := by
  simp only [getPath]
  cases lookup kvs k <;> rfl

theorem getPath_empty_ne_nil (p : List Str) (h : p ≠ []) : getPath (.dict []) p = none := by
  cases p with
  | nil => exact absurd rfl h
  | cons k ks => simp [getPath_dict_cons, lookup]

theorem getPath_append : ∀ (ks q : List Str) (v : PyVal),
    getPath v (ks ++ q) = (getPath v ks).bind (fun c => getPath c q) := by
  intro ks
  induction ks with
  | nil => intro q v; simp [getPath_nil]
  | cons k ks ih =>
    intro q v
    cases v with
    | dict kvs =>
      rw [List.cons_append, getPath_dict_cons, getPath_dict_cons]
      cases lookup kvs k with
      | none => rfl
      | some c => simp [ih]
    | _ => rfl

theorem getPath_below {v x : PyVal} {ks : List Str} (h : getPath v ks = some x) (q : List Str) :
    getPath v (ks ++ q) = getPath x q := by
  rw [getPath_append, h]
  rfl

theorem getPath_dict_single (kvs : Kvs) (k : Str) : getPath (.dict kvs) [k] = lookup kvs k := by
  rw [getPath_dict_cons]
  cases lookup kvs k <;> rfl

theorem Off.head {Q : List Str → Prop} {k' k : Str} {ps ks : List Str} (h : k' ≠ k) : Off Q (k' :: ps) (k :: ks) := .inl h

theorem Off.cons {Q : List Str → Prop} {k' k : Str} {ps ks : List Str} (h : k' = k → Off Q ps ks) : Off Q (k' :: ps) (k :: ks) := by
  by_cases e : k' = k
  · exact .inr (h e)
  · exact .inl e

theorem Off.cons_iff {Q : List Str → Prop} {k' k : Str} {ps ks : List Str} :
    Off Q (k' :: ps) (k :: ks) ↔ k' ≠ k ∨ Off Q ps ks := Iff.rfl

theorem Off.nil_cons {Q : List Str → Prop} {k : Str} {ks : List Str} : ¬ Off Q [] (k :: ks) := id

theorem Off_nil (Q : List Str → Prop) (p : List Str) : Off Q p [] = Q p := by
  cases p <;> rfl

theorem Off_ne_nil {Q : List Str → Prop} (hQ : ¬ Q []) : ∀ (p ks : List Str), Off Q p ks → p ≠ []
  | [], [], h => absurd h hQ
  | [], _ :: _, h => absurd h Off.nil_cons
  | _ :: _, _, _ => List.cons_ne_nil _ _

theorem setPathS_nil (f : PyVal → PyVal × Out) : setPathS f [] = f := by
  funext v
  cases v <;> rfl

theorem setPathS_dict_cons (f : PyVal → PyVal × Out) (k : Str) (ks : List Str) (kvs : Kvs) :
    setPathS f (k :: ks) (.dict kvs) =
      (.dict (put kvs k (setPathS f ks ((lookup kvs k).getD (.dict []))).1),
       (setPathS f ks ((lookup kvs k).getD (.dict []))).2) := rfl

theorem setPathS_nondict_cons (f : PyVal → PyVal × Out) (k : Str) (ks : List Str) (v : PyVal)
    (h : ∀ kvs, v ≠ .dict kvs) : setPathS f (k :: ks) v = (v, .error .attributeError) := by
  cases v <;> first | rfl | exact absurd rfl (h _)

theorem sub_dict (nd : Err) (d : PyVal) (k : Str) (h : PyVal → PyVal × Out) (e : Kvs) :
    sub nd d k h (.dict e) = (.dict (put e k (h ((lookup e k).getD d)).1), (h ((lookup e k).getD d)).2) := rfl

theorem sub_nondict (nd : Err) (d : PyVal) (k : Str) (h : PyVal → PyVal × Out) (x : PyVal) (hv : ∀ e, x ≠ .dict e) :
    sub nd d k h x = (x, .error nd) := by
  cases x <;> first | rfl | exact absurd rfl (hv _)

theorem setPathS_cons (f : PyVal → PyVal × Out) (k : Str) (ks : List Str) :
    setPathS f (k :: ks) = sub .attributeError (.dict []) k (setPathS f ks) := by
  funext v
  cases v <;> rfl

/-- `Q`: the paths below the leaf that the leaf update leaves alone; no hypothesis on the outcome, a failed call is framed too -/
theorem setPathS_frame (f : PyVal → PyVal × Out) (Q : List Str → Prop) (hQ : ¬ Q [])
    (hf : ∀ x q, Q q → getPath (f x).1 q = getPath x q) (ks : List Str) (v : PyVal) :
    ∀ p, Off Q p ks → getPath (setPathS f ks v).1 p = getPath v p := by
  fun_induction setPathS f ks v with
  | case1 v => intro p h; rw [Off_nil] at h; exact hf v p h
  | case2 k ks kvs r ih =>
    intro p h
    cases p with
    | nil => exact absurd h Off.nil_cons
    | cons k' ps =>
      rw [getPath_dict_cons, getPath_dict_cons]
      by_cases hk : k' = k
      · subst hk
        have hoff : Off Q ps ks := (Off.cons_iff.mp h).resolve_left (fun h => h rfl)
        rw [lookup_put_same, Option.bind_some, ih ps hoff]
        cases hl : lookup kvs k' with
        | some c => rfl
        | none => exact getPath_empty_ne_nil ps (Off_ne_nil hQ ps ks hoff)
      · rw [lookup_put_other _ _ _ _ hk]
  | case3 k ks v hv => exact fun _ _ => rfl

theorem leafArg_dict_cons (k : Str) (ks : List Str) (kvs : Kvs) :
    leafArg (k :: ks) (.dict kvs) = leafArg ks ((lookup kvs k).getD (.dict [])) := rfl

theorem leafArg_nil (v : PyVal) : leafArg [] v = some v := by
  cases v <;> rfl

theorem leafArg_nondict_cons (k : Str) (ks : List Str) (v : PyVal) (h : ∀ kvs, v ≠ .dict kvs) :
    leafArg (k :: ks) v = none := by
  cases v <;> first | rfl | exact absurd rfl (h _)

theorem leafArg_fresh : ∀ ks : List Str, leafArg ks (.dict []) = some (.dict [])
  | [] => rfl
  | _ :: ks => leafArg_fresh ks

theorem setPathS_leaf (f : PyVal → PyVal × Out) (ks : List Str) (v : PyVal) : ∀ x, leafArg ks v = some x →
    x = (getPath v ks).getD (.dict []) ∧ getPath (setPathS f ks v).1 ks = some (f x).1 ∧ (setPathS f ks v).2 = (f x).2 := by
  fun_induction setPathS f ks v with
  | case1 v => intro x h; rw [leafArg_nil] at h; cases h; exact ⟨rfl, getPath_nil _, rfl⟩
  | case2 k ks kvs r ih =>
    intro x h
    obtain ⟨h1, h2⟩ := ih x h
    rw [getPath_dict_cons, getPath_dict_cons, lookup_put_same]
    refine ⟨?_, h2⟩
    cases hl : lookup kvs k with
    | some c => rw [hl] at h1; exact h1
    | none =>
      rw [hl] at h1
      rw [h1]
      cases ks <;> rfl
  | case3 k ks v hv => intro x h; rw [leafArg_nondict_cons k ks v hv] at h; cases h

theorem setPathS_noleaf (f : PyVal → PyVal × Out) (ks : List Str) (v : PyVal) : leafArg ks v = none →
    setPathS f ks v = (v, .error .attributeError) := by
  fun_induction setPathS f ks v with
  | case1 v => intro h; rw [leafArg_nil] at h; cases h
  | case2 k ks kvs r ih =>
    intro h
    have hr : r = _ := ih h
    rw [hr]
    cases hl : lookup kvs k with
    | some c => simp [put_lookup_self kvs k c hl]
    | none => rw [leafArg_dict_cons, hl, Option.getD_none, leafArg_fresh] at h; cases h
  | case3 k ks v hv => exact fun _ => rfl

theorem setPathS_ok (f : PyVal → PyVal × Out) (ks : List Str) (v : PyVal) (h : (setPathS f ks v).2 = .ok ()) :
    ∃ x, x = (getPath v ks).getD (.dict []) ∧ getPath (setPathS f ks v).1 ks = some (f x).1 ∧ (f x).2 = .ok () := by
  cases hl : leafArg ks v with
  | none => rw [setPathS_noleaf f ks v hl] at h; cases h
  | some x =>
    obtain ⟨h0, h1, h2⟩ := setPathS_leaf f ks v x hl
    exact ⟨x, h0, h1, h2 ▸ h⟩

theorem sub_atomic (nd : Err) {d : PyVal} (k : Str) {h : PyVal → PyVal × Out} (P : PyVal → Prop)
    (hh : ∀ x e, P x → (h x).2 = .error e → (h x).1 = x) (h0 : (h d).2 = .ok ()) (x : PyVal) (e : Err)
    (hx : ∀ kvs c, x = .dict kvs → lookup kvs k = some c → P c) (he : (sub nd d k h x).2 = .error e) :
    (sub nd d k h x).1 = x := by
  cases x with
  | dict kvs =>
    cases hl : lookup kvs k with
    | none =>
      -- `c[k]` is created from the default, on which `h` succeeds
      simp only [sub_dict, hl, Option.getD_none, h0] at he
      cases he
    | some c =>
      simp only [sub_dict, hl, Option.getD_some] at he ⊢
      rw [hh c e (hx kvs c rfl hl) he, put_lookup_self kvs k c hl]
  | _ => rfl

theorem setPathS_atomic (f : PyVal → PyVal × Out) (P : PyVal → Prop)
    (hf : ∀ x e, P x → (f x).2 = .error e → (f x).1 = x) (h0 : (f (.dict [])).2 = .ok ()) : ∀ (ks : List Str) (v : PyVal) (e : Err),
    (∀ x, leafArg ks v = some x → P x) → (setPathS f ks v).2 = .error e → (setPathS f ks v).1 = v
  | [], v, e, hP, h => by
    rw [setPathS_nil] at h ⊢
    exact hf v e (hP v (leafArg_nil v)) h
  | k :: ks, v, e, hP, h => by
    rw [setPathS_cons] at h ⊢
    -- one level is one `sub`: the rest of the chain is its `h`, and on a fresh `{}` the rest of the chain reaches the leaf update on `{}`
    refine sub_atomic _ k (fun c => ∀ x, leafArg ks c = some x → P x) (fun c e hc => setPathS_atomic f P hf h0 ks c e hc)
      ((setPathS_leaf f ks _ _ (leafArg_fresh ks)).2.2.trans h0) v e (fun kvs c hv hl => ?_) h
    subst hv
    rw [leafArg_dict_cons, hl] at hP
    exact hP

theorem setPathS_sub_atomic (nd : Err) {d : PyVal} (k : Str) {h : PyVal → PyVal × Out} (hh : ∀ x e, (h x).2 = .error e → (h x).1 = x)
    (h0 : (h d).2 = .ok ()) (ks : List Str) (s : PyVal) (e : Err) (he : (setPathS (sub nd d k h) ks s).2 = .error e) :
    (setPathS (sub nd d k h) ks s).1 = s :=
  setPathS_atomic _ (fun _ => True) (fun x e _ => sub_atomic nd k (fun _ => True) (fun x e _ => hh x e) h0 x e fun _ _ _ _ => trivial)
    h0 ks s e (fun _ _ => trivial) he

theorem setPathS_fst_congr (f g : PyVal → PyVal × Out) (h : ∀ x, (f x).1 = (g x).1) (p : List Str) (s : PyVal) :
    (setPathS f p s).1 = (setPathS g p s).1 := by
  fun_induction setPathS f p s with
  | case1 v => rw [setPathS_nil]; exact h v
  | case2 k ks kvs r ih => rw [setPathS_dict_cons, ← ih]
  | case3 k ks v hv => rw [setPathS_nondict_cons g k ks v hv]

theorem setPathS_fuse (f1 f2 : PyVal → PyVal × Out) (p : List Str) (s : PyVal) :
    (setPathS f2 p (setPathS f1 p s).1).1 = (setPathS (fun x => f2 (f1 x).1) p s).1 := by
  fun_induction setPathS f1 p s with
  | case1 v => simp only [setPathS_nil]
  | case2 k ks kvs r ih => simp only [setPathS_dict_cons, lookup_put_same, Option.getD_some, put_put_same, r, ih]
  | case3 k ks v hv => simp only [setPathS_nondict_cons _ k ks v hv]

/-- the insertion step of the interpreters (`rpmsRun`, `modulesRun`, `extraRun`) takes the outcome of the insertion apart and puts it
together again -/
theorem out_eta (x : PyVal × Out) :
    (match x with
      | (s', Except.ok _) => (s', (Except.ok () : Out))
      | (s', Except.error e) => (s', Except.error e)) = x := by
  obtain ⟨s', r⟩ := x
  cases r <;> rfl

theorem rpmsRun_spec (s : PyVal) (a : RpmsArgs) : rpmsRun a specRpmsScript s (REnv.init a) = Rpms.addSpec s a := by
  -- the k-th `refuseIf` of the interpreted list is the k-th `if` of `rpmsCheck`: decide the tests one after the other, in that order, on
  -- both sides at once; what is left when all are passed is the insertion, up to `out_eta`.  Likewise for the other two builders.
  unfold Rpms.addSpec rpmsCheck
  simp only [specRpmsScript, rpmsRun, rpmsPure, refuseIf, reduceCtorEq, ↓reduceIte, REnv.init]
  by_cases h1 : (!Gen.RPM_ARCHES.contains a.arch) = true
  · simp only [h1, ↓reduceIte]
  simp only [h1, ↓reduceIte, Bool.false_eq_true]
  by_cases h2 : srcArches.contains a.arch = true
  · simp only [h2, ↓reduceIte]
  simp only [h2, ↓reduceIte, Bool.false_eq_true]
  by_cases h3 : (!Gen.SUPPORTED_CATEGORIES.contains a.category) = true
  · simp only [h3, ↓reduceIte]
  simp only [h3, ↓reduceIte, Bool.false_eq_true]
  by_cases h4 : a.path.isEmpty = true
  · simp only [h4, ↓reduceIte]
  simp only [h4, ↓reduceIte, Bool.false_eq_true]
  by_cases h5 : Str.startsWith a.path ['/'] = true
  · simp only [h5, ↓reduceIte]
  simp only [h5, ↓reduceIte, Bool.false_eq_true]
  cases hc : checkNevra a.nevra with
  | error e => simp only
  | ok r =>
    obtain ⟨c, d⟩ := r
    simp only
    by_cases h6 : (a.category == lit "source" && a.srpm.isSome) = true
    · simp only [h6, ↓reduceIte]
    simp only [h6, ↓reduceIte, Bool.false_eq_true]
    by_cases h7 : (a.category != lit "source" && a.srpm.isNone) = true
    · simp only [h7, ↓reduceIte]
    simp only [h7, ↓reduceIte, Bool.false_eq_true]
    by_cases h8 : ((a.category == lit "source") != archIn nevraSrcArches d.arch) = true
    · simp only [h8, ↓reduceIte]
    simp only [h8, ↓reduceIte, Bool.false_eq_true]
    cases hs : a.srpm with
    | none => simp only [rpmsInsert]; exact out_eta _
    | some t =>
      simp only
      by_cases h9 : t.isEmpty = true
      · simp only [h9, ↓reduceIte, rpmsInsert]; exact out_eta _
      simp only [h9, ↓reduceIte, Bool.false_eq_true]
      cases hc2 : checkNevra t with
      | error e => simp only [Except.map]
      | ok r2 =>
        obtain ⟨c2, d2⟩ := r2
        simp only [Except.map, rpmsInsert]; exact out_eta _

theorem modulesRun_spec (s : PyVal) (a : ModulesArgs) :
    modulesRun a specModulesScript s (MEnv.init a) = Modules.addSpec s a := by
  unfold Modules.addSpec modulesCheck
  simp only [specModulesScript, modulesRun, modulesPure, refuseIf, reduceCtorEq, ↓reduceIte, MEnv.init]
  by_cases h1 : a.variant.isEmpty = true
  · simp only [h1, ↓reduceIte]
  simp only [h1, ↓reduceIte, Bool.false_eq_true]
  by_cases h2 : (!Gen.RPM_ARCHES.contains a.arch) = true
  · simp only [h2, ↓reduceIte]
  simp only [h2, ↓reduceIte, Bool.false_eq_true]
  by_cases h3 : (!Gen.SUPPORTED_CATEGORIES.contains a.category) = true
  · simp only [h3, ↓reduceIte]
  simp only [h3, ↓reduceIte, Bool.false_eq_true]
  cases hc : checkUid a.uid with
  | error e => simp only
  | ok r =>
    obtain ⟨c, u⟩ := r
    simp only
    by_cases h5 : a.kojiTag.isEmpty = true
    · simp only [h5, ↓reduceIte, Bool.or_true, Bool.true_or]
    simp only [h5, ↓reduceIte, Bool.false_eq_true, Bool.false_or, Bool.or_false]
    by_cases h6 : a.modulemdPath.isEmpty = true
    · simp only [h6, ↓reduceIte]
    simp only [h6, ↓reduceIte, Bool.false_eq_true]
    by_cases h4 : Str.startsWith a.modulemdPath ['/'] = true
    · simp only [h4, ↓reduceIte]
    simp only [h4, ↓reduceIte, Bool.false_eq_true]
    cases hr : a.rpms with
    | other => simp only [↓reduceIte]
    | list xs => simp only [Bool.false_eq_true, ↓reduceIte, modulesInsert, hr]; exact out_eta _
    | tuple xs => simp only [Bool.false_eq_true, ↓reduceIte, modulesInsert, hr]; exact out_eta _

theorem extraRun_spec (s : PyVal) (a : ExtraArgs) : extraRun a specExtraScript s = ExtraFiles.addSpec s a := by
  unfold ExtraFiles.addSpec extraCheck
  simp only [specExtraScript, extraRun, extraPure, refuseIf, reduceCtorEq, ↓reduceIte]
  by_cases h1 : a.variant.isEmpty = true
  · simp only [h1, ↓reduceIte]
  simp only [h1, ↓reduceIte, Bool.false_eq_true]
  by_cases h2 : (!Gen.RPM_ARCHES.contains a.arch) = true
  · simp only [h2, ↓reduceIte]
  simp only [h2, ↓reduceIte, Bool.false_eq_true]
  by_cases h3 : a.path.isEmpty = true
  · simp only [h3, ↓reduceIte]
  simp only [h3, ↓reduceIte, Bool.false_eq_true]
  by_cases h4 : Str.startsWith a.path ['/'] = true
  · simp only [h4, ↓reduceIte]
  simp only [h4, ↓reduceIte, Bool.false_eq_true]
  by_cases h5 : (!a.checksums.isinstance .dict) = true
  · simp only [h5, ↓reduceIte]
  simp only [h5, ↓reduceIte, Bool.false_eq_true]
  exact out_eta _

/-! obligations on the generated statement lists (tools/gen_builders.py): the three `add` methods consist of exactly
the documented refusals, in the documented order, followed by the insertion.  A refusal removed, added, reordered
or rewritten in the source changes `Gen.*_add_script` (and with it the executable model) and these stop compiling. -/
theorem rpms_script_eq : Gen.rpms_add_script = specRpmsScript := by decide
theorem modules_script_eq : Gen.modules_add_script = specModulesScript := by decide
theorem extra_script_eq : Gen.extra_add_script = specExtraScript := by decide

theorem Rpms.add_eq (s : PyVal) (a : RpmsArgs) :
    Rpms.add s a = match rpmsCheck a with
      | .error e => (s, .error e)
      | .ok p => setPathS (rpmsLeaf p.key p.record) [a.variant, a.arch, p.srpmKey] s := by
  unfold Rpms.add
  rw [rpms_script_eq, rpmsRun_spec]
  rfl

theorem Modules.add_eq (s : PyVal) (a : ModulesArgs) :
    Modules.add s a = match modulesCheck a with
      | .error e => (s, .error e)
      | .ok p => setPathS (modulesLeaf p) [a.variant, a.arch, p.uid] s := by
  unfold Modules.add
  rw [modules_script_eq, modulesRun_spec]
  rfl

theorem ExtraFiles.add_eq (s : PyVal) (a : ExtraArgs) :
    ExtraFiles.add s a = match extraCheck a with
      | .error e => (s, .error e)
      | .ok rec => setPathS (extraLeaf a.arch rec) [a.variant] s := by
  unfold ExtraFiles.add
  rw [extra_script_eq, extraRun_spec]
  rfl

theorem Rpms.add_error {a : RpmsArgs} {e : Err} (s : PyVal) (hc : rpmsCheck a = .error e) : Rpms.add s a = (s, .error e) := by
  rw [Rpms.add_eq, hc]

theorem Rpms.add_ok {a : RpmsArgs} {p : RpmsPlan} (s : PyVal) (hc : rpmsCheck a = .ok p) :
    Rpms.add s a = setPathS (rpmsLeaf p.key p.record) [a.variant, a.arch, p.srpmKey] s := by
  rw [Rpms.add_eq, hc]

theorem Modules.add_error {a : ModulesArgs} {e : Err} (s : PyVal) (hc : modulesCheck a = .error e) :
    Modules.add s a = (s, .error e) := by
  rw [Modules.add_eq, hc]

theorem Modules.add_ok {a : ModulesArgs} {p : ModulesPlan} (s : PyVal) (hc : modulesCheck a = .ok p) :
    Modules.add s a = setPathS (modulesLeaf p) [a.variant, a.arch, p.uid] s := by
  rw [Modules.add_eq, hc]

theorem ExtraFiles.add_error {a : ExtraArgs} {e : Err} (s : PyVal) (hc : extraCheck a = .error e) :
    ExtraFiles.add s a = (s, .error e) := by
  rw [ExtraFiles.add_eq, hc]

theorem ExtraFiles.add_ok {a : ExtraArgs} {r : PyVal} (s : PyVal) (hc : extraCheck a = .ok r) :
    ExtraFiles.add s a = setPathS (extraLeaf a.arch r) [a.variant] s := by
  rw [ExtraFiles.add_eq, hc]

theorem pyIntDigits_error_class (t : Str) : Fails (pyIntDigits t) (· = .valueError) := by
  unfold pyIntDigits
  refine .ite (fun _ => .error rfl) fun _ => .ite (fun _ => .error rfl) fun _ => ?_
  cases digitsVal t 0 with
  | some n => exact .ok
  | none => exact .error rfl

/-- obligation on the generated group table: `groupdict()` has the key `epoch` -/
theorem nvra_has_epoch_group : (Gen.re_common_RPM_NVRA_RE_groups.lookup "epoch").isNone = false := by decide

theorem parseNvra_error_class (n : Str) : Fails (parseNvra n) (· = .valueError) := by
  unfold parseNvra
  cases pyMatch Gen.re_common_RPM_NVRA_RE (stripRpm n) with
  | none => exact .error rfl
  | some caps =>
    show Fails (nvraOfCaps caps) _
    unfold nvraOfCaps
    simp only [nvra_has_epoch_group, Bool.false_eq_true, ↓reduceIte]
    -- only `int()` of the epoch digits can raise
    refine .map ?_
    split
    · exact .ok
    · exact .ok
    · exact pyIntDigits_error_class _

theorem checkNevra_spec (n : Str) :
    (checkNevra n).Spec (fun r => ':' ∈ n ∧ parseNvra n = .ok r.2 ∧ r.1 = canonNvra r.2) (· = .valueError) := by
  unfold checkNevra
  refine .refuse rfl fun hc => ?_
  cases hp : parseNvra n with
  | error e => cases (parseNvra_error_class n).elim hp; rfl
  | ok d => exact ⟨by simpa using hc, rfl, rfl⟩

theorem rpmsCheck_spec (a : RpmsArgs) : (rpmsCheck a).Spec (RpmsAccepted a) (· = .valueError) := by
  unfold rpmsCheck
  refine .refuse rfl fun h1 => .refuse rfl fun h2 => .refuse rfl fun h3 => .refuse rfl fun h4 => .refuse rfl fun h5 => ?_
  cases hc : checkNevra a.nevra with
  | error e => exact (checkNevra_spec a.nevra).of_error hc
  | ok r =>
    obtain ⟨nevra, d⟩ := r
    obtain ⟨hcolon, hparse, hcanon⟩ := (checkNevra_spec a.nevra).of_ok hc
    refine .refuse rfl fun h6 => .refuse rfl fun h7 => .refuse rfl fun h8 => ?_
    have h8' : (a.category == lit "source") = archIn nevraSrcArches d.arch := by simpa using h8
    -- every test is passed; what is left is the key of the source package
    have acc : ∀ sk, (a.category = lit "source" → a.srpm = none ∧ sk = nevra) →
        (a.category ≠ lit "source" → ∃ s, a.srpm = some s ∧ ((s = [] ∧ sk = nevra) ∨
          (s ≠ [] ∧ ':' ∈ s ∧ ∃ d, parseNvra s = .ok d ∧ sk = canonNvra d))) →
        RpmsAccepted a ⟨sk, nevra, rpmRecord (a.sigkey.map Str.lowerAscii) a.path a.category⟩ := fun sk s1 s2 =>
      ⟨by simpa using h1, by simpa using h2, by simpa using h3, by simpa using h4, by simpa using h5, hcolon,
        ⟨d, hparse, hcanon, by rw [← h8', beq_iff_eq]⟩, s1, s2, rfl⟩
    cases hs : a.srpm with
    | none =>
      refine acc nevra (fun _ => ⟨hs, rfl⟩) (fun hc => ?_)
      simp [hs, hc] at h7
    | some t =>
      have hsrc : a.category ≠ lit "source" := by simpa [hs] using h6
      simp only
      by_cases h9 : t.isEmpty = true
      · simp only [h9, ↓reduceIte]
        exact acc nevra (fun hc => absurd hc hsrc) (fun _ => ⟨t, hs, .inl ⟨by simpa using h9, rfl⟩⟩)
      simp only [h9, ↓reduceIte, Bool.false_eq_true]
      cases hc2 : checkNevra t with
      | error e => exact (checkNevra_spec t).of_error hc2
      | ok r2 =>
        obtain ⟨c2, d2⟩ := r2
        obtain ⟨hcol2, hp2, hcan2⟩ := (checkNevra_spec t).of_ok hc2
        exact acc c2 (fun hc => absurd hc hsrc) (fun _ => ⟨t, hs, .inr ⟨by simpa using h9, hcol2, d2, hp2, hcan2⟩⟩)

theorem rpmsCheck_ok {a : RpmsArgs} {p : RpmsPlan} (h : rpmsCheck a = .ok p) : RpmsAccepted a p :=
  (rpmsCheck_spec a).of_ok h

theorem rpmsCheck_error_class (a : RpmsArgs) (e : Err) (h : rpmsCheck a = .error e) : e = .valueError :=
  (rpmsCheck_spec a).of_error h

theorem checkUid_spec (v : PyVal) :
    (checkUid v).Spec (fun r => ∃ s, v = .str s ∧ ':' ∈ s ∧ parseUid (.str s) = .ok r.2 ∧ r.1 = r.2.canonical) (· = .valueError) := by
  cases v with
  | str s =>
    rw [checkUid]
    refine .refuse rfl fun hc => ?_
    cases hp : parseUid (.str s) with
    | error e => rfl
    | ok u => exact ⟨s, rfl, by simpa using hc, hp, rfl⟩
  | _ => rfl

theorem modulesCheck_spec (a : ModulesArgs) : (modulesCheck a).Spec (ModulesAccepted a) (· = .valueError) := by
  unfold modulesCheck
  refine .refuse rfl fun h1 => .refuse rfl fun h2 => .refuse rfl fun h3 => ?_
  cases hc : checkUid a.uid with
  | error e => exact (checkUid_spec a.uid).of_error hc
  | ok r =>
    obtain ⟨uid, u⟩ := r
    obtain ⟨s, hs, hcol, hp, (hcan : uid = u.canonical)⟩ := (checkUid_spec a.uid).of_ok hc
    refine .refuse rfl fun h4 => .refuse rfl fun h5 => .refuse rfl fun h6 => ?_
    have acc : ∀ xs, (a.rpms = .list xs ∨ a.rpms = .tuple xs) →
        ModulesAccepted a ⟨uid, moduleMetadata uid u a.kojiTag, a.category, a.modulemdPath, xs⟩ := fun xs hx =>
      ⟨by simpa using h1, by simpa using h2, by simpa using h3, ⟨s, u, hs, hcol, hp, hcan, by rw [hcan]⟩,
        by simpa using h6, by simpa using h5, by simpa using h4, hx, rfl, rfl⟩
    cases hr : a.rpms with
    | other => rfl
    | list xs => exact acc xs (.inl hr)
    | tuple xs => exact acc xs (.inr hr)

theorem modulesCheck_ok {a : ModulesArgs} {p : ModulesPlan} (h : modulesCheck a = .ok p) : ModulesAccepted a p :=
  (modulesCheck_spec a).of_ok h

theorem modulesCheck_error_class (a : ModulesArgs) (e : Err) (h : modulesCheck a = .error e) : e = .valueError :=
  (modulesCheck_spec a).of_error h

theorem extraCheck_spec (a : ExtraArgs) :
    (extraCheck a).Spec (fun r => a.variant ≠ [] ∧ a.arch ∈ Gen.RPM_ARCHES ∧ a.path ≠ [] ∧ Str.startsWith a.path ['/'] = false
        ∧ a.checksums.isinstance .dict = true ∧ r = extraRecord a) (fun e => e = .valueError ∨ e = .typeError) := by
  unfold extraCheck
  refine .refuse (.inl rfl) fun h1 => .refuse (.inl rfl) fun h2 => .refuse (.inl rfl) fun h3 => .refuse (.inl rfl) fun h4 =>
    .refuse (.inr rfl) fun h5 => ?_
  exact ⟨by simpa using h1, by simpa using h2, by simpa using h3, by simpa using h4, by simpa using h5, rfl⟩

theorem extraCheck_error_class (a : ExtraArgs) (e : Err) (h : extraCheck a = .error e) :
    e = .valueError ∨ e = .typeError :=
  (extraCheck_spec a).of_error h

theorem extraCheck_record {a : ExtraArgs} {r : PyVal} (h : extraCheck a = .ok r) : r = extraRecord a :=
  ((extraCheck_spec a).of_ok h).2.2.2.2.2

/-! The three leaf updates as programs over `sub`: `c[k] = v` is `sub` over the constant `fun _ => (v, .ok ())` (`rpmsLeaf`),
`c.setdefault(k, []).extend(l)` is `sub` over `appendL l` (`extraLeaf`), and `Modules.add`'s three statements are joined by `seqL`. -/

theorem rpmsLeaf_dict (k : Str) (r : PyVal) (e : Kvs) : rpmsLeaf k r (.dict e) = (.dict (put e k r), .ok ()) := rfl

theorem rpmsLeaf_nondict (k : Str) (r x : PyVal) (h : ∀ e, x ≠ .dict e) : rpmsLeaf k r x = (x, .error .typeError) := by
  cases x <;> first | rfl | exact absurd rfl (h _)

theorem modulesLeaf_nondict (p : ModulesPlan) (x : PyVal) (h : ∀ e, x ≠ .dict e) : modulesLeaf p x = (x, .error .typeError) := by
  cases x <;> first | rfl | exact absurd rfl (h _)

theorem rpmsLeaf_eq (k : Str) (v : PyVal) : rpmsLeaf k v = sub .typeError .none k (fun _ => (v, .ok ())) := by
  funext x
  cases x <;> rfl

theorem extraLeaf_eq (arch : Str) (r : PyVal) : extraLeaf arch r = sub .attributeError (.list []) arch (appendL [r]) := by
  funext x
  cases x with
  | dict am =>
    simp only [extraLeaf, sub_dict]
    cases hl : lookup am arch with
    | none => rfl
    | some c =>
      -- an entry that is no list is stored back as it was
      cases c <;> first | rfl | simp only [Option.getD_some, appendL, put_lookup_self am arch _ hl]
  | _ => rfl

theorem modulesLeaf_eq (p : ModulesPlan) :
    modulesLeaf p = seqL (rpmsLeaf (lit "metadata") p.metadata)
      (seqL (sub .attributeError (.dict []) (lit "modulemd_path") (rpmsLeaf p.category (.str p.path)))
        (sub .attributeError (.list []) (lit "rpms") (appendL p.rpms))) := by
  funext x
  rcases PyVal.dict_or_not x with ⟨e, rfl⟩ | hv
  · simp only [seqL, rpmsLeaf_dict, sub_dict, modulesLeaf]
    rcases PyVal.dict_or_not ((lookup (put e (lit "metadata") p.metadata) (lit "modulemd_path")).getD (.dict [])) with ⟨mp, hm⟩ | hm
    · simp only [hm, rpmsLeaf_dict]
      cases hl : lookup (put (put e (lit "metadata") p.metadata) (lit "modulemd_path") (.dict (put mp p.category (.str p.path))))
          (lit "rpms") with
      | none => rfl
      | some c =>
        -- `rpms` is there and is no list: storing back what `setdefault` returned changes nothing
        cases c <;> first | rfl | simp only [Option.getD_some, appendL, put_lookup_self _ _ _ hl]
    · -- `modulemd_path` is there and is no dict: likewise
      cases hl : lookup (put e (lit "metadata") p.metadata) (lit "modulemd_path") with
      | none =>
        rw [hl] at hm
        exact absurd rfl (hm [])
      | some c =>
        rw [hl] at hm
        simp only [Option.getD_some, rpmsLeaf_nondict _ _ c hm, put_lookup_self _ _ c hl]
        cases c <;> first | rfl | exact absurd rfl (hm _)
  · rw [modulesLeaf_nondict p x hv, seqL, rpmsLeaf_nondict _ _ x hv]

theorem appendL_atomic (l : List PyVal) (x : PyVal) (e : Err) (h : (appendL l x).2 = .error e) : (appendL l x).1 = x := by
  cases x <;> first | rfl | cases h

/-- the update keeps `P` of the mapping.  The two instances: `jsonRep · = true`, the mapping stays representable as a JSON document
(C03); `NodupAll`, dict keys stay distinct (C08, Proofs/C08History) -/
def Keeps (P : PyVal → Prop) (h : PyVal → PyVal × Out) : Prop := ∀ x, P x → P (h x).1

theorem seqL_keeps {P : PyVal → Prop} {f g : PyVal → PyVal × Out} (hf : Keeps P f) (hg : Keeps P g) : Keeps P (seqL f g) := by
  intro x hx
  unfold seqL
  split
  · exact hg _ (hf x hx)
  · exact hf x hx

theorem setPathS_keeps {P : PyVal → Prop} (hsub : ∀ k h, Keeps P h → Keeps P (sub .attributeError (.dict []) k h))
    {f : PyVal → PyVal × Out} (hf : Keeps P f) : ∀ ks, Keeps P (setPathS f ks)
  | [] => setPathS_nil f ▸ hf
  | k :: ks => setPathS_cons f k ks ▸ hsub k _ (setPathS_keeps hsub hf ks)

theorem sub_rep (nd : Err) {d : PyVal} (k : Str) {h : PyVal → PyVal × Out} (hd : jsonRep d = true) (hh : Keeps (jsonRep · = true) h) :
    Keeps (jsonRep · = true) (sub nd d k h) := by
  intro x hx
  cases x with
  | dict e => exact jsonRepKvs_put _ _ _ hx (hh _ (getD_elim (fun c hc => jsonRep_of_lookup e k c hx hc) hd))
  | _ => exact hx

theorem setPathS_rep {f : PyVal → PyVal × Out} (hf : Keeps (jsonRep · = true) f) : ∀ ks, Keeps (jsonRep · = true) (setPathS f ks) :=
  setPathS_keeps (fun k _ => sub_rep _ k rfl) hf

theorem appendL_rep {l : List PyVal} (hl : jsonRepList l = true) : Keeps (jsonRep · = true) (appendL l) := by
  intro x hx
  cases x <;> first | exact hx | exact jsonRepList_append _ _ hx hl

theorem OtherKey.head {key n : Str} {rest : List Str} (h : n ≠ key) : OtherKey key (n :: rest) := ⟨n, rest, rfl, h⟩

theorem OtherKey.not_nil {key : Str} : ¬ OtherKey key [] := fun ⟨_, _, h, _⟩ => nomatch h

theorem sub_frame (nd : Err) (d : PyVal) (k : Str) (h : PyVal → PyVal × Out) (x : PyVal) (q : List Str) (hq : OtherKey k q) :
    getPath (sub nd d k h x).1 q = getPath x q := by
  obtain ⟨n, rest, rfl, hn⟩ := hq
  cases x with
  | dict e => simp only [sub_dict, getPath_dict_cons, lookup_put_other _ _ _ _ hn]
  | _ => rfl

theorem setPathS_sub_frame (nd : Err) (d : PyVal) (k : Str) (h : PyVal → PyVal × Out) (ks : List Str) (s : PyVal) (p : List Str)
    (hp : Off (OtherKey k) p ks) : getPath (setPathS (sub nd d k h) ks s).1 p = getPath s p :=
  setPathS_frame _ (OtherKey k) OtherKey.not_nil (sub_frame nd d k h) ks s p hp

theorem modulemd_path_ne_metadata : lit "modulemd_path" ≠ lit "metadata" := by decide
theorem rpms_ne_metadata : lit "rpms" ≠ lit "metadata" := by decide
theorem rpms_ne_modulemd_path : lit "rpms" ≠ lit "modulemd_path" := by decide

theorem EntryOK.empty : EntryOK (.dict []) := ⟨[], rfl, by simp [lookup], by simp [lookup]⟩

theorem modulesLeaf_ok (p : ModulesPlan) (x : PyVal) (hx : EntryOK x) :
    ∃ e mp l, x = .dict e
      ∧ (lookup e (lit "modulemd_path")).getD (.dict []) = .dict mp
      ∧ (lookup e (lit "rpms")).getD (.list []) = .list l
      ∧ modulesLeaf p x =
          (.dict (put (put (put e (lit "metadata") p.metadata) (lit "modulemd_path") (.dict (put mp p.category (.str p.path))))
                    (lit "rpms") (.list (l ++ p.rpms))), .ok ()) := by
  obtain ⟨e, rfl, h1, h2⟩ := hx
  obtain ⟨mp, hmp⟩ : ∃ mp, (lookup e (lit "modulemd_path")).getD (.dict []) = .dict mp := getD_elim h1 ⟨[], rfl⟩
  obtain ⟨l, hl⟩ : ∃ l, (lookup e (lit "rpms")).getD (.list []) = .list l := getD_elim h2 ⟨[], rfl⟩
  refine ⟨e, mp, l, rfl, hmp, hl, ?_⟩
  simp only [modulesLeaf]
  rw [lookup_put_other _ _ _ _ modulemd_path_ne_metadata, hmp]
  simp only
  rw [lookup_put_other _ _ _ _ rpms_ne_modulemd_path, lookup_put_other _ _ _ _ rpms_ne_metadata, hl]

theorem modulesEntry_lookup (e : Kvs) (md mp rs : PyVal) :
    lookup (put (put (put e (lit "metadata") md) (lit "modulemd_path") mp) (lit "rpms") rs) (lit "metadata") = some md
    ∧ lookup (put (put (put e (lit "metadata") md) (lit "modulemd_path") mp) (lit "rpms") rs) (lit "modulemd_path") = some mp
    ∧ lookup (put (put (put e (lit "metadata") md) (lit "modulemd_path") mp) (lit "rpms") rs) (lit "rpms") = some rs :=
  ⟨by rw [lookup_put_other _ _ _ _ rpms_ne_metadata.symm, lookup_put_other _ _ _ _ modulemd_path_ne_metadata.symm, lookup_put_same],
   by rw [lookup_put_other _ _ _ _ rpms_ne_modulemd_path.symm, lookup_put_same], lookup_put_same ..⟩

/-! Every mapping reachable from the empty manifest by calls of one builder has the builder's shape; on such a mapping the chain of
`setdefault`s and the leaf update cannot fail, so the outcome of a call is decided by the precondition checks alone. -/

theorem allVals_inv {P : PyVal → Bool} {v : PyVal} (h : allVals P v = true) :
    ∃ kvs, v = .dict kvs ∧ kvs.all (fun kv => P kv.2) = true := by
  cases v <;> first | exact ⟨_, rfl, h⟩ | cases h

theorem all_of_lookup (P : PyVal → Bool) (kvs : Kvs) (k : Str) (c : PyVal)
    (h : kvs.all (fun kv => P kv.2) = true) (hl : lookup kvs k = some c) : P c = true :=
  List.all_eq_true.mp h _ (mem_of_lookup hl)

theorem all_put (P : PyVal → Bool) (kvs : Kvs) (k : Str) (c : PyVal)
    (h : kvs.all (fun kv => P kv.2) = true) (hc : P c = true) : (put kvs k c).all (fun kv => P kv.2) = true := by
  refine List.all_eq_true.mpr (fun x hx => ?_)
  rcases mem_put hx with hx | rfl
  · exact List.all_eq_true.mp h x hx
  · exact hc

theorem shapeAt_empty (n : Nat) (P : PyVal → Bool) (hP : P (.dict []) = true) : shapeAt n P (.dict []) = true := by
  cases n with
  | zero => exact hP
  | succ n => rfl

theorem shapeAt_child (P : PyVal → Bool) (hP : P (.dict []) = true) (n : Nat) (kvs : Kvs) (k : Str)
    (h : shapeAt (n + 1) P (.dict kvs) = true) : shapeAt n P ((lookup kvs k).getD (.dict [])) = true :=
  getD_elim (fun c hl => all_of_lookup (shapeAt n P) kvs k c h hl) (shapeAt_empty n P hP)

theorem setPathS_shape (f : PyVal → PyVal × Out) (P : PyVal → Bool) (hP : P (.dict []) = true)
    (hf : ∀ x, P x = true → P (f x).1 = true ∧ (f x).2 = .ok ()) (ks : List Str) (v : PyVal) :
    shapeAt ks.length P v = true → shapeAt ks.length P (setPathS f ks v).1 = true ∧ (setPathS f ks v).2 = .ok () := by
  fun_induction setPathS f ks v with
  | case1 v => exact hf v
  | case2 k ks kvs r ih =>
    intro h
    obtain ⟨h1, h2⟩ := ih (shapeAt_child P hP _ kvs k h)
    exact ⟨all_put _ kvs k _ h h1, h2⟩
  | case3 k ks v hv =>
    intro h
    obtain ⟨kvs, rfl, _⟩ := allVals_inv h
    exact absurd rfl (hv kvs)

theorem shape_leaf (P : PyVal → Bool) (hP : P (.dict []) = true) :
    ∀ (ks : List Str) (v : PyVal), shapeAt ks.length P v = true → ∃ x, leafArg ks v = some x ∧ P x = true
  | [], v, h => ⟨v, leafArg_nil v, h⟩
  | k :: ks, .dict kvs, h => shape_leaf P hP ks _ (shapeAt_child P hP _ kvs k h)

theorem isRecList_inv {v : PyVal} (h : isRecList v = true) : ∃ l, v = .list l ∧ l.all isExtraRec = true := by
  cases v <;> first | exact ⟨_, rfl, h⟩ | cases h

theorem EntryOK_of_entryOK (x : PyVal) (h : entryOK x = true) : EntryOK x := by
  cases x with
  | dict e =>
    rw [entryOK, Bool.and_eq_true] at h
    refine ⟨e, rfl, fun y hy => ?_, fun y hy => ?_⟩
    · have h1 := h.1
      rw [hy] at h1
      cases y <;> first | exact ⟨_, rfl⟩ | cases h1
    · have h2 := h.2
      rw [hy] at h2
      cases y <;> first | exact ⟨_, rfl⟩ | cases h2
  | _ => cases h

theorem rpms_shape_step (s : PyVal) (a : RpmsArgs) (h : RpmsShape s) :
    RpmsShape (Rpms.add s a).1 ∧ (Rpms.add s a).2 = (rpmsCheck a).map (fun _ => ()) := by
  rw [Rpms.add_eq]
  cases hc : rpmsCheck a with
  | error e => exact ⟨h, rfl⟩
  | ok p =>
    refine setPathS_shape _ isDict rfl (fun x hx => ?_) [a.variant, a.arch, p.srpmKey] s h
    cases x <;> first | exact ⟨rfl, rfl⟩ | cases hx

theorem modules_shape_step (s : PyVal) (a : ModulesArgs) (h : ModulesShape s) :
    ModulesShape (Modules.add s a).1 ∧ (Modules.add s a).2 = (modulesCheck a).map (fun _ => ()) := by
  rw [Modules.add_eq]
  cases hc : modulesCheck a with
  | error e => exact ⟨h, rfl⟩
  | ok p =>
    refine setPathS_shape _ entryOK (by decide) (fun x hx => ?_) [a.variant, a.arch, p.uid] s h
    obtain ⟨e, mp, l, _, _, _, heq⟩ := modulesLeaf_ok p x (EntryOK_of_entryOK x hx)
    obtain ⟨_, l2, l3⟩ := modulesEntry_lookup e p.metadata (.dict (put mp p.category (.str p.path))) (.list (l ++ p.rpms))
    rw [heq]
    refine ⟨?_, rfl⟩
    simp only [entryOK, l2, l3]
    rfl

theorem extra_shape_step (s : PyVal) (a : ExtraArgs) (h : ExtraShape s) :
    ExtraShape (ExtraFiles.add s a).1 ∧ (ExtraFiles.add s a).2 = (extraCheck a).map (fun _ => ()) := by
  rw [ExtraFiles.add_eq]
  cases hc : extraCheck a with
  | error e => exact ⟨h, rfl⟩
  | ok r =>
    refine setPathS_shape _ (allVals isRecList) rfl (fun x hx => ?_) [a.variant] s h
    obtain ⟨am, rfl, hx⟩ := allVals_inv hx
    -- `.setdefault(arch, [])` on an arch table of record lists returns a list of records
    obtain ⟨l, hm, hl⟩ : ∃ l, (lookup am a.arch).getD (.list []) = .list l ∧ l.all isExtraRec = true :=
      getD_elim (P := fun v => ∃ l, v = .list l ∧ l.all isExtraRec = true)
        (fun z hlk => isRecList_inv (all_of_lookup isRecList am a.arch z hx hlk)) ⟨[], rfl, rfl⟩
    have hr : isExtraRec r = true := extraCheck_record hc ▸ rfl
    have he : extraLeaf a.arch r (.dict am) = (.dict (put am a.arch (.list (l ++ [r]))), .ok ()) := by
      simp only [extraLeaf, hm]
    rw [he]
    refine ⟨all_put isRecList am a.arch _ hx ?_, rfl⟩
    simp only [isRecList, List.all_append, hl, List.all_cons, hr, List.all_nil, Bool.and_self]

/-! What one `Rpms.add` call leaves where (the 0.3 reader, Proofs/C10RpmsRefile, replays a manifest through such calls). -/

theorem Rpms.add_frame (s : PyVal) {a : RpmsArgs} {p : RpmsPlan} (hc : rpmsCheck a = .ok p) (path : List Str)
    (h : Off (OtherKey p.key) path [a.variant, a.arch, p.srpmKey]) : getPath (Rpms.add s a).1 path = getPath s path := by
  rw [Rpms.add_ok s hc, rpmsLeaf_eq]
  exact setPathS_sub_frame _ _ _ _ _ s path h

theorem Rpms.add_content (s : PyVal) {a : RpmsArgs} {p : RpmsPlan} (hc : rpmsCheck a = .ok p) (hok : (Rpms.add s a).2 = .ok ()) :
    getPath (Rpms.add s a).1 [a.variant, a.arch, p.srpmKey, p.key] = some p.record := by
  rw [Rpms.add_ok s hc] at hok ⊢
  obtain ⟨x, _, h1, hok⟩ := setPathS_ok _ _ s hok
  refine (getPath_below h1 [p.key]).trans ?_
  -- the leaf update succeeded, so it met a dict and put the record there
  cases x <;> cases hok
  exact (getPath_dict_cons ..).trans (by rw [lookup_put_same]; rfl)

end PM.Mf
