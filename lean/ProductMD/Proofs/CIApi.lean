import ProductMD.Proofs.CITop
import ProductMD.Proofs.ForestInv
/-!
C01 ⟷ C11: the tree a history of `add` calls builds is well keyed.

`Model/Forest.lean` (C11) is the arena model of `VariantBase.add`: objects with identity, parent pointers, the children
dicts in insertion order; `run U fuel ops` is the state after ANY history of `add` calls (accepted or refused) from
the empty forest, and `InvW` (Spec/ForestWords.lean; `InvW.run`, Proofs/ForestInv.lean) holds in every such state: each child dict is keyed by the ids of
its values, without a key twice.  Here the arena is unfolded into the tree the composeinfo writer walks
(`Model/ComposeInfo.lean`), and `wellKeyedTop` of that tree is derived.  What `add` never looks at (paths, per-variant
release) is a parameter `X`.
-/
namespace PM.CI
open PM PM.Forest

theorem unfold_id (U X s) : ∀ (f : Nat) (kv : Str × Nat), (unfold U X s f kv).id = (U kv.2).id
  | 0, _ => rfl
  | _ + 1, _ => rfl

theorem unfold_key (U X s) : ∀ (f : Nat) (kv : Str × Nat), (unfold U X s f kv).key = kv.1
  | 0, _ => rfl
  | _ + 1, _ => rfl

theorem unfold_list_keyed {U : Nat → Attrs} {s : State} (X : Nat → Extra) (f : Nat) (l : List (Str × Nat))
    (hn : (l.map (·.1)).Nodup) (hk : ∀ kv ∈ l, kv.1 = (U kv.2).id) (hw : ∀ kv, wellKeyed (unfold U X s f kv) = true) :
    wellKeyedTop (l.map (unfold U X s f)) = true := by
  refine wellKeyedTop_iff.mpr ⟨?_, ?_⟩
  · have : l.map (Variant.id ∘ unfold U X s f) = l.map (·.1) :=
      List.map_congr_left fun e he => by simp only [Function.comp, unfold_id, hk e he]
    rw [List.map_map, this]
    exact hn
  · apply wellKeyedL_iff.mpr
    intro w hw'
    obtain ⟨e, he, rfl⟩ := List.mem_map.mp hw'
    exact ⟨by rw [unfold_key, unfold_id, hk e he], hw e⟩

theorem unfold_wellKeyed {U : Nat → Attrs} {s : State} (h : InvW U s) (X : Nat → Extra) :
    ∀ (f : Nat) (kv : Str × Nat), wellKeyed (unfold U X s f kv) = true
  | 0, kv => by simp [unfold, wellKeyed, wellKeyedL]
  | f + 1, kv => by
    rw [wellKeyed_eq_top]
    exact unfold_list_keyed X f _ (h.keys (some kv.2)) (fun e he => (h.edge kv.2 e.1 e.2 he).key) (unfold_wellKeyed h X f)

theorem forestOf_wellKeyed {U : Nat → Attrs} {s : State} (h : InvW U s) (X : Nat → Extra) (f : Nat)
    (htop : ∀ kv ∈ s.top, kv.1 = (U kv.2).id) : wellKeyedTop (forestOf U X s f) = true :=
  unfold_list_keyed X f _ (h.keys none) htop (unfold_wellKeyed h X f)

theorem run_top_keys (U : Nat → Attrs) (fuel : Nat) (ops : List Op) (hk : ∀ o ∈ ops, o.c = none → o.key = none) :
    ∀ kv ∈ (run U fuel ops).top, kv.1 = (U kv.2).id :=
  List.foldlRecOn (motive := fun s => ∀ kv ∈ s.top, kv.1 = (U kv.2).id) ops (step U fuel) (by simp [State.empty])
    fun s h o ho => topIds_add U fuel s o.c o.v o.key (hk o ho) h

end PM.CI
