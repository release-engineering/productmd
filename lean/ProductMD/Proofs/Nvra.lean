import ProductMD.Proofs.RegexFirst
import ProductMD.Proofs.Decimal
import ProductMD.Spec.IdPatterns
import ProductMD.Spec.StrWords
/-!
The NVRA pattern (`Spec.nvra`, proved equal to the generated one in `Properties/C13.lean`): facts about its character
classes and separators, what `stripRpm` does, and the epoch part of the documented shape of an RPM file name
`dir ++ name-[epoch:]version-release.arch` (`Dom`, `fmtBase` in `Spec/StrWords.lean`).  The search on every string is in
`NvraExact.lean`.
-/
namespace PM.NvraProof
open PM PM.First PM.Spec PM.Dec

theorem no_later_delim {d : Char} {a b a' b' : Str} (ha : d ∉ a) (hb : d ∉ b)
    (h : a ++ d :: b = a' ++ d :: b') : d ∉ b' := by
  have hc := congrArg (List.count d) h
  simp only [List.count_append, List.count_cons_self, List.count_eq_zero.mpr ha, List.count_eq_zero.mpr hb] at hc
  exact List.count_eq_zero.mp (by omega)

theorem last_split_unique {d : Char} {a b a' b' : Str} (hb : d ∉ b) (hb' : d ∉ b')
    (h : a ++ d :: b = a' ++ d :: b') : b = b' := by
  rcases List.append_eq_append_iff.mp h with ⟨x, h1, h2⟩ | ⟨x, h1, h2⟩
  · cases x with
    | nil => simpa using h2
    | cons y ys =>
      simp at h2
      exact absurd (h2.2 ▸ (List.mem_append_right ys List.mem_cons_self)) hb
  · cases x with
    | nil => simp at h2; exact h2.symm
    | cons y ys =>
      simp at h2
      exact absurd (h2.2 ▸ (List.mem_append_right ys List.mem_cons_self)) hb'

theorem stripRpm_suffix (s : Str) : stripRpm (s ++ ['.', 'r', 'p', 'm']) = s := by
  have : Str.endsWith (s ++ ['.', 'r', 'p', 'm']) ['.', 'r', 'p', 'm'] = true := by
    simp [Str.endsWith, List.isSuffixOf_iff_suffix]
  simp [stripRpm, this]

theorem stripRpm_other (pre arch : Str) (hdot : '.' ∉ arch) (hne : arch ≠ ['r', 'p', 'm']) :
    stripRpm (pre ++ '.' :: arch) = pre ++ '.' :: arch := by
  have : Str.endsWith (pre ++ '.' :: arch) ['.', 'r', 'p', 'm'] = false := by
    cases h : Str.endsWith (pre ++ '.' :: arch) ['.', 'r', 'p', 'm'] with
    | false => rfl
    | true =>
      rw [Str.endsWith, List.isSuffixOf_iff_suffix] at h
      obtain ⟨q, hq⟩ := h
      exact absurd (last_split_unique (by decide) hdot hq).symm hne
  simp [stripRpm, this]

theorem any_nl : Cls.any.mem '\n' = false := by decide
theorem any_dot : Cls.any.mem '.' = true := by decide
theorem any_dash : Cls.any.mem '-' = true := by decide
theorem any_slash : Cls.any.mem '/' = true := by decide
theorem nl_not_digit : digitCls.mem '\n' = false := by decide
theorem colon_not_digit : digitCls.mem ':' = false := by decide
theorem dash_not_digit : digitCls.mem '-' = false := by decide
theorem slash_not_digit : digitCls.mem '/' = false := by decide

theorem epStr_not_mem (ep : Option Nat) (x : Char) (hx : x.toNat < 48 ∨ 58 < x.toNat) : x ∉ epStr ep := by
  cases ep with
  | none => simp [epStr]
  | some e =>
    simp only [epStr, List.mem_append, List.mem_singleton, not_or]
    refine ⟨fun h => (natStr_dig e x h).ne (by omega) rfl, ?_⟩
    intro h; subst h; simp at hx

end PM.NvraProof
