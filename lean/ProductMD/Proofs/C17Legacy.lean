import ProductMD.Proofs.TreeInfoReadback
import ProductMD.Proofs.TreeInfoText
import ProductMD.Proofs.C17General
import ProductMD.Proofs.C05TI00
import ProductMD.Model.TreeInfoLegacy
import ProductMD.Model.TreeInfoCompat
/-!
C17, last sentence of the property (the reader of files without `[header]` on `compatDoc` of the written document, see
`Model/TreeInfoCompat.lean`): what the restriction does to the lookups, then every class reader of the 0.0 family on the
restricted document (instances of the any-file lemmas of `Proofs/C05TI00.lean`), for any document that is a `View` of the written
sections; what `serialize` has validated of the path conditions; when `legacyTree` is "the same tree".
-/
namespace PM
namespace TI
open Ini Legacy

theorem keys_filter {β : Type} (p : Str → Bool) (l : List (Str × β)) :
    (l.filter fun s => p s.1).map (·.1) = (l.map (·.1)).filter p := by
  rw [List.filter_map]
  rfl

theorem View.filter {C : IniSec → Prop} {L : List (Str × IniSec)} {d : Ini} (V : View C L d) (p : Str → Bool)
    (hD : p DEFAULT = false) : View C (L.filter fun s => p s.1) (d.filter fun s => p s.1) := by
  refine ⟨Assoc.lookup_filter_none p d DEFAULT hD, ?_, ?_, ?_⟩
  · intro s o hs
    cases hp : p s
    · rw [Assoc.lookup_filter_none p L s hp] at hs; cases hs
    · rw [Assoc.lookup_filter_key p L s hp] at hs
      obtain ⟨o', ho', h1, h2⟩ := V.sec s o hs
      exact ⟨o', by rw [Assoc.lookup_filter_key p d s hp]; exact ho', h1, h2⟩
  · intro s hs
    cases hp : p s
    · exact Assoc.lookup_filter_none p d s hp
    · rw [Assoc.lookup_filter_key p L s hp] at hs
      rw [Assoc.lookup_filter_key p d s hp]
      exact V.nosec s hs
  · rw [keys_filter, keys_filter]
    exact V.names.filter p

theorem compatSec_default : compatSec DEFAULT = false := by decide

theorem View.compat {C : IniSec → Prop} {L : List (Str × IniSec)} {d : Ini} (V : View C L d) : View C (compatDoc L) (compatDoc d) :=
  V.filter compatSec compatSec_default

theorem lookup_compat (d : Ini) {s : Str} (h : compatSec s = true) : (compatDoc d).lookup s = d.lookup s :=
  Assoc.lookup_filter_key compatSec d s h

theorem lookup_ncompat (d : Ini) (s : Str) (h : compatSec s = false) : (compatDoc d).lookup s = none :=
  Assoc.lookup_filter_none compatSec d s h

theorem compat_noDefault (d : Ini) : (compatDoc d).lookup DEFAULT = none := lookup_ncompat d DEFAULT compatSec_default

theorem hasOption_ncompat (d : Ini) {s : Str} (h : compatSec s = false) (k : Str) : Ini.hasOption (compatDoc d) s k = false :=
  hasOption_nosec (compat_noDefault d) (lookup_ncompat d s h) k

theorem isImg_compat {s : Str} (h : isImg s = true) : compatSec s = true := by unfold compatSec; unfold isImg at h; simp [h]

theorem sections_compat_img (d : Ini) : (Ini.sections (compatDoc d)).filter isImg = (Ini.sections d).filter isImg := by
  refine sections_img_of_names ?_
  unfold compatDoc
  rw [keys_filter, List.filter_filter]
  exact List.filter_congr fun s _ => by
    cases hs : isImg s
    · rfl
    · rw [isImg_compat hs]; rfl

theorem sections_compat_mem (d : Ini) (s : Str) (h : s ∈ Ini.sections (compatDoc d)) : compatSec s = true := by
  unfold Ini.sections at h
  rw [mem_sortS] at h
  have := (List.mem_filter.mp h).1
  obtain ⟨x, hx, rfl⟩ := List.mem_map.mp this
  unfold compatDoc at hx
  simpa using (List.mem_filter.mp hx).2

theorem compat_head {s : Str} (h : compatSec s = true) :
    s.head? = some 'g' ∨ s.head? = some 's' ∨ s.head? = some 'c' ∨ s.head? = some 'i' := by
  unfold compatSec at h
  simp only [Bool.or_eq_true, beq_iff_eq] at h
  rcases h with ((h | h) | h) | h
  · subst h; left; decide
  · subst h; right; left; decide
  · subst h; right; right; left; decide
  · right; right; right; exact isImg_head h

theorem ncompat_of_headAV {s : Str} (h : headAV s) : compatSec s = false := by
  cases hc : compatSec s
  · rfl
  · have := compat_head hc
    unfold headAV at h
    rcases h with h | h <;> rw [h] at this <;> simp at this

theorem ncompat_addon (x : Str) : compatSec (pAddon ++ x) = false :=
  ncompat_of_headAV (by unfold headAV; rw [pAddon_eq]; left; rfl)

theorem ncompat_variant (x : Str) : compatSec (pVariant ++ x) = false :=
  ncompat_of_headAV (by unfold headAV; rw [pVariant_eq]; right; rfl)

theorem compat_novar (d : Ini) (uid id : Str) :
    ∀ s ∈ [pAddon ++ uid, pAddon ++ id, pVariant ++ uid, pVariant ++ id], (compatDoc d).lookup s = none := by
  intro s hs
  simp only [List.mem_cons, List.not_mem_nil, or_false] at hs
  rcases hs with rfl | rfl | rfl | rfl
  · exact lookup_ncompat d _ (ncompat_addon _)
  · exact lookup_ncompat d _ (ncompat_addon _)
  · exact lookup_ncompat d _ (ncompat_variant _)
  · exact lookup_ncompat d _ (ncompat_variant _)

/-- the header version a file without `[header]` is given -/
def versionStr00 : Str := "0.0".toList
theorem header_00 : validateClass "treeinfo.Header" (headerObj versionStr00) = .ok () ∧ versionTuple versionStr00 = .ok (0, 0) := by
  decide +kernel

theorem deHeaderL_compat (d : Ini) : deHeaderL (compatDoc d) = .ok versionStr00 :=
  Returns.ite_neg (hasOption_ncompat d (s := sHeader) (by decide) kVersion ▸ Bool.false_ne_true) <| Returns.bind rfl <|
    Returns.validated header_00.1

/-- This `rfl` is where the character class written out in `legacyVersion` (code points 45 and 95: `-`, `_`) is checked against
the generated split pattern `Gen.re_treeinfo_Release_deserialize_0_0_0` that `version00` runs. -/
theorem version00_eq (version : Str) : version00 version = .ok (legacyVersion version) := rfl

variable {C : IniSec → Prop} {L : List (Str × IniSec)} {d : Ini}

theorem stage2_rel (V : View C L d) (m i : Option Str)
    (hL : L.lookup sStage2 = if stage2On m i then some (stage2Opts m i) else none) (k : Str) (x : Option Str)
    (hk : nc k = true) (hl : (stage2Opts m i).lookup k = if optTruthy x then x else none)
    (hx : ∀ p, x = some p → RelPath p) : ∀ v, Ini.get d sStage2 k = .ok v → RelPath v := by
  intro v hg
  cases hon : stage2On m i <;> rw [hon] at hL
  · rw [V.get_nosec hL] at hg; cases hg
  · have := V.get_inv hL hk hg
    rw [hl] at this
    split at this
    · exact hx v this
    · cases this

theorem deStage2L_ok {t : TreeInfo} {g : IniSec} (V : View C (docList t g) d)
    (hm : ∀ p, t.mainimage = some p → RelPath p) (hi : ∀ p, t.instimage = some p → RelPath p)
    (hv : validateClass "treeinfo.Stage2" (stage2Obj (normOpt t.mainimage) (normOpt t.instimage)) = .ok ()) :
    deStage2L true (compatDoc d) = .ok (normOpt t.mainimage, normOpt t.instimage) := by
  obtain ⟨l1, l2⟩ := stage2Opts_lookup t.mainimage t.instimage
  have hL := (lookup_compat (docList t g) (s := sStage2) (by decide)).trans (L_stage2 t g)
  rw [deStage2L_eq true _
    (fun p h => fixPath_relative true p (stage2_rel V.compat _ _ hL kMainimage _ (by decide) l1 hm p h))
    (fun p h => fixPath_relative true p (stage2_rel V.compat _ _ hL kInstimage _ (by decide) l2 hi p h))]
  exact deStage2_ok V.compat t.mainimage t.instimage hL hv

theorem deChecksumsL_ok {t : TreeInfo} {g : IniSec} (V : View C (docList t g) d) (hok : ChecksumsOK t.checksums)
    (hC : t.checksums.isEmpty = false → C (checksumOpts t.checksums))
    (hrel : ∀ c ∈ t.checksums, RelPath c.1)
    (hv : validateClass "treeinfo.Checksums" (checksumsObj (sortKV t.checksums)) = .ok ()) :
    deChecksumsL true (compatDoc d) = .ok (sortKV t.checksums) := by
  have hL := (lookup_compat (docList t g) (s := sChecksums) (by decide)).trans (L_checksums t g)
  rw [deChecksumsL_eq true _, deChecksums_ok V.compat t.checksums hL hok hC hv]
  intro its hit kv hkv
  apply fixPath_relative
  cases he : t.checksums.isEmpty <;> rw [he] at hL
  · rw [V.compat.items_of hL (hC he)] at hit
    obtain rfl := Except.ok.inj hit
    rw [mem_sortKV, checksumOpts_eq _ hok.1] at hkv
    obtain ⟨c, hc, rfl⟩ := List.mem_map.mp hkv
    exact hrel c hc
  · rw [items_nosec (V.compat.nosec _ hL) (by decide)] at hit
    cases hit

theorem deImagesL_ok {t : TreeInfo} {g : IniSec} (V : View C (docList t g) d) (hn : ((docList t g).map (·.1)).Nodup) (tree' : Tree)
    (hok : ImagesOK tree'.arch t.images) (hC : ∀ p ∈ t.images, C (setsKV [] p.2))
    (hrel : ∀ p ∈ t.images, ∀ kv ∈ p.2, RelPath kv.2)
    (hv : validateClass "treeinfo.Images" (imagesObj (sortKV (t.images.map imgNorm)) tree'.platforms) = .ok ()) :
    deImagesL true (compatDoc d) tree' = .ok (sortKV (t.images.map imgNorm)) := by
  have hL : ∀ p ∈ t.images, (compatDoc (docList t g)).lookup (pImages ++ p.1) = some (setsKV [] p.2) := fun p hp =>
    (lookup_compat _ (isImg_compat (isImg_prefix p.1))).trans (L_images hn p hp)
  have hnames := (sections_compat_img d).trans (sections_img_of_view V)
  rw [deImagesL_eq true _, deImages_ok V.compat t.images tree' hL hnames (imagePlatforms_nodup hn) hok hC hv]
  intro s hs hi its hit kv hkv
  have hs' := hnames ▸ List.mem_filter.mpr ⟨hs, hi⟩
  obtain ⟨p, hp, rfl⟩ := List.mem_map.mp hs'
  have hp' : p ∈ t.images := (mem_sortKV _ _).mp hp
  rw [V.compat.items_of (hL p hp') (hC p hp')] at hit
  obtain rfl := Except.ok.inj hit
  rw [mem_sortKV, setsKV_nil_nodup _ (hok.1 p hp')] at hkv
  exact fixPath_relative true _ (hrel p hp' kv hkv)

section general
variable {t : TreeInfo} {n : Int} {key : Str} {v : Variant}

variable (V : View C (docList t (generalOpts t n key v)) d)
include V

theorem gen_get {k x : Str} (hk : (generalOpts t n key v).lookup k = some x) (hnc : nc k = true) :
    Ini.get (compatDoc d) sGeneral k = .ok x :=
  V.compat.get_of ((lookup_compat _ (by decide)).trans (L_general _ _)) hk hnc

theorem gen_has (k : Str) (hnc : nc k = true) :
    Ini.hasOption (compatDoc d) sGeneral k = ((generalOpts t n key v).lookup k).isSome :=
  V.compat.hasOption_of ((lookup_compat _ (by decide)).trans (L_general _ _)) hnc (by decide)

theorem optionLookup_gen (k : Str) (rest : List (Str × Str)) (dflt : Option Str) (hnc : nc k = true) :
    optionLookup (compatDoc d) ((sGeneral, k) :: rest) dflt =
      match (generalOpts t n key v).lookup k with
      | some x => .ok (some x)
      | none => optionLookup (compatDoc d) rest dflt := by
  simp only [optionLookup, gen_has V k hnc]
  cases hk : (generalOpts t n key v).lookup k with
  | none => simp
  | some x => simp [gen_get V hk hnc, Except.map]

theorem deReleaseL_ok (hv : validateClass "treeinfo.Release" (releaseObj (legacyRelease t) false) = .ok ()) :
    deReleaseL .v00 (compatDoc d) = .ok (legacyRelease t, false) :=
  deReleaseL_00 _ _ _ _ (gen_get V gen_family (by decide)) (gen_get V gen_version (by decide)) (version00_eq _) hv

theorem deTreeL_ok (fo : FloatOracle) (n' : Int) (hfl : fo.intOfFloatStr (Str.intStr n) = .ok n')
    (harch : compatSec t.tree.arch = false) (hok : ImagesOK t.tree.arch t.images)
    (hv : validateClass "treeinfo.Tree" (treeObj ⟨t.tree.arch, .int n', legacyPlatforms t⟩) = .ok ()) :
    deTreeL fo true (compatDoc d) = .ok ⟨t.tree.arch, .int n', legacyPlatforms t⟩ := by
  have hcont : (Ini.sections (compatDoc d)).contains t.tree.arch = false := by
    cases hc : (Ini.sections (compatDoc d)).contains t.tree.arch
    · rfl
    · have := sections_compat_mem d _ (by simpa using hc)
      rw [harch] at this; cases this
  have hp : platforms00 t.tree.arch (Ini.sections (compatDoc d)) = legacyPlatforms t := by
    have : (Ini.sections (compatDoc d)).filter (Str.startsWith · pImages) = (Ini.sections (compatDoc d)).filter isImg := rfl
    rw [platforms00_eq_dedupe]
    unfold imagePlatforms legacyPlatforms
    rw [this, sections_compat_img, sections_img_of_view V, List.map_map]
    exact congrArg _ (congrArg _ (List.map_congr_left fun p hp => hok.2 p ((mem_sortKV _ _).mp hp)))
  have hts : Ini.hasOption (compatDoc d) sGeneral kTimestamp = true := by rw [gen_has V _ (by decide), gen_timestamp]; rfl
  rw [← hp] at hv ⊢
  exact deTreeL_00 fo _ _ _ n' (gen_get V gen_arch (by decide)) hcont hts (gen_get V gen_timestamp (by decide)) hfl hv

theorem deMediaL_ok : deMediaL true (compatDoc d) = .ok (none, none) := by
  refine deMediaL_00 _ none none ?_ closed_facts.media_none
  rw [gen_has V _ (by decide), gen_has V _ (by decide), gen_discnum, gen_totaldiscs]
  exact ⟨rfl, rfl⟩

theorem pathVals00_ok (c : VCtx) :
    pathVals00 c (compatDoc d) key key = .ok (legacyPathVals c key ((generalOpts t n key v).lookup kRepository)
      ((generalOpts t n key v).lookup kPackagedir)) := by
  refine pathVals00_general c _ key key (compat_noDefault d) (compat_novar d key key) _ _ (fun dflt => ?_) (fun dflt => ?_) ?_
  · rw [optionLookup_gen V _ _ _ (by decide)]
    cases (generalOpts t n key v).lookup kRepository <;> rfl
  · rw [optionLookup_gen V _ _ _ (by decide), gen_packages, optionLookup_gen V _ _ _ (by decide)]
    cases (generalOpts t n key v).lookup kPackagedir with
    | some x => rfl
    | none =>
      simp only
      rw [optionLookup_gen V _ _ _ (by decide), gen_packagedirs]; rfl
  · rw [optionLookup_gen V _ _ _ (by decide), gen_identity]; rfl

theorem readVariant_ok (c : VCtx) (f : Nat) (hk : key ≠ []) (hd : '-' ∉ key) (hr : rhel5Addons c key [] = []) :
    readVariant S00 c (compatDoc d) (f + 1) false key =
      .ok (.mk [] key key key tVariant (valsToPaths (legacyPathVals c key ((generalOpts t n key v).lookup kRepository)
        ((generalOpts t n key v).lookup kPackagedir))) []) := by
  have hid : (Str.splitOn '-' key).getLastD [] = key := by rw [C14.splitOn_of_not_mem hd]; rfl
  have hadd : Ini.hasOption (compatDoc d) sGeneral kAddons = false := by rw [gen_has V _ (by decide), gen_addons]; rfl
  have hpaths : dePathsL .v00 c (compatDoc d) key key tVariant = .ok (valsToPaths (legacyPathVals c key
      ((generalOpts t n key v).lookup kRepository) ((generalOpts t n key v).lookup kPackagedir))) := by
    unfold dePathsL
    simp only [pathVals00_ok V c, Except.map, ok_bind, closed_facts.variantPaths]
    rfl
  rw [readVariant_00 S00 rfl rfl c _ f false key hk (compat_noDefault d) (hid.symm ▸ compat_novar d key key) hadd hr, hid]
  exact congrArg (Except.map _) hpaths

theorem deTopsL_ok (c : VCtx) (hk : key ≠ []) (hd : '-' ∉ key) (hr : rhel5Addons c key [] = [])
    (hv1 : validateClass "treeinfo.Variant" (variantObj none key key key tVariant []) = .ok ())
    (hv2 : validateClass "treeinfo.Variants" (variantsObj [legacyVariant c key ((generalOpts t n key v).lookup kRepository)
      ((generalOpts t n key v).lookup kPackagedir)]) = .ok ()) :
    deTopsL S00 c (compatDoc d) = .ok [legacyVariant c key ((generalOpts t n key v).lookup kRepository)
      ((generalOpts t n key v).lookup kPackagedir)] := by
  have he : key.isEmpty = false := List.isEmpty_eq_false_iff.mpr hk
  have hids : topIds00 c (compatDoc d) = .ok [key] :=
    topIds00_variant c _ key (by rw [gen_has V _ (by decide), gen_variant]; rfl) (gen_get V gen_variant (by decide)) hk
  unfold legacyVariant at hv2 ⊢
  have hrv := readVariant_ok V c (compatDoc d).length hk hd hr
  have hloop : loopFile (fun u => (readVariant S00 c (compatDoc d) ((compatDoc d).length + 1) false u).bind fileTop) [key] []
      = .ok [.mk key key key key tVariant (valsToPaths (legacyPathVals c key ((generalOpts t n key v).lookup kRepository)
          ((generalOpts t n key v).lookup kPackagedir))) []] := by
    simp only [loopFile, hrv, Except.bind, fileTop, hv1, he, Bool.false_eq_true, if_false, addKid, List.any_nil,
      List.nil_append]
  unfold deTopsL
  exact Returns.ite_pos rfl <| Returns.bind hids <| Returns.bind hloop <| Returns.validated hv2

end general

/-- no absolute path among checksum paths, image paths, stage2 paths (an absolute path is cut by the 0.0 `_fix_path`) -/
structure RelPaths (t : TreeInfo) : Prop where
  checksums : ∀ c ∈ t.checksums, RelPath c.1
  images : ∀ p ∈ t.images, ∀ kv ∈ p.2, RelPath kv.2
  mainimage : ∀ p, t.mainimage = some p → RelPath p
  instimage : ∀ p, t.instimage = some p → RelPath p

/-- For the written document itself `C` is `True`, for the bytes read back it is `NoCommentKeys` (then `hCcs` / `hCimg` are
hypotheses on checksum paths and image names).  `V`, `hn` and (through `relPaths_of_written`) three of the four `hrel` come from the writer; `hk`, `hd`,
`harch`, `hr` and the fourth are `LegacyOK`; `hcs`, `himg` are C04's side conditions, `hfl` the float fact; `hvr`, `hv`: the result
passes the `validate()` calls the reader makes. -/
theorem legacy_of_view (fo : FloatOracle) (t : TreeInfo) (d : Ini) (n n' : Int) (key : Str) (chosen : Variant)
    (V : View C (docList t (generalOpts t n key chosen)) d)
    (hn : ((docList t (generalOpts t n key chosen)).map (·.1)).Nodup)
    (hfl : fo.intOfFloatStr (Str.intStr n) = .ok n')
    (hk : key ≠ []) (hd : '-' ∉ key) (harch : compatSec t.tree.arch = false)
    (hr : rhel5Addons (legacyCtx t) key [] = [])
    (hcs : ChecksumsOK t.checksums) (himg : ImagesOK t.tree.arch t.images) (hrel : RelPaths t)
    (hCcs : t.checksums.isEmpty = false → C (checksumOpts t.checksums)) (hCimg : ∀ p ∈ t.images, C (setsKV [] p.2))
    (hvr : validateClass "treeinfo.Release" (releaseObj (legacyRelease t) false) = .ok ())
    (hv : ReadValid (legacyTree t n' key chosen)) :
    Legacy.deserialize fo (compatDoc d) = .ok (legacyTree t n' key chosen) := by
  have e2 := deReleaseL_ok V hvr
  have e4 := deTreeL_ok V fo n' hfl harch himg hv.tree
  have hfor := hv.forest
  simp only [legacyTree, legacyVariant, ValidVs, ValidV] at hfor
  have e5 := deTopsL_ok V (legacyCtx t) hk hd hr hfor.1.1 (by
    have := hv.tops
    simp only [legacyTree] at this
    rw [gen_repository, gen_packagedir]
    exact this)
  rw [gen_repository, gen_packagedir] at e5
  have e6 := deChecksumsL_ok V hcs hCcs hrel.checksums hv.checksums
  have e7 := deImagesL_ok V hn ⟨t.tree.arch, .int n', legacyPlatforms t⟩ himg hCimg hrel.images hv.images
  have e8 := deStage2L_ok V hrel.mainimage hrel.instimage hv.stage2
  have e9 := deMediaL_ok V
  exact Legacy.deserialize_iff.mpr ⟨_, _, _, deHeaderL_compat d, header_00.2, selsOf_0_0, rfl, e2, rfl, e4, e5, e6, e7, e8, e9, closed_facts.treeinfo⟩

/-! The writer's own `validate()` calls already refuse absolute checksum paths, image paths and an absolute `mainimage`; only
`instimage` is not validated: of the four `RelPaths` conditions only that one is a hypothesis about the input. -/

theorem not_of_ite_error {c : Prop} [Decidable c] {e : Err}
    (h : (if c then (.error e : Except Err Unit) else .ok ()) = .ok ()) : ¬ c := fun hc => by
  rw [if_pos hc] at h
  cases h

theorem relPath_of_not {p : Str} (h : ¬ Str.startsWith p ['/'] = true) : RelPath p :=
  eq_false_of_ne_true h

theorem checksums_rel_of_valid (cs : List (Str × Str × Str))
    (h : validateClass "treeinfo.Checksums" (checksumsObj cs) = .ok ()) : ∀ c ∈ cs, RelPath c.1 := by
  have := check_of_rule closed_facts.checksumPaths h
  have g1 : (checksumsObj cs).get "checksums".toList = .dict (cs.map fun c => (c.1, .list [.str c.2.1, .str c.2.2])) := by rfl
  -- `rw`, not `simp`: unfolding `Rule.check` definitionally makes the kernel run the validator table, which is slow
  rw [Rule.check, customs_bound.checksumPaths, tiChecksumPaths, g1] at this
  intro c hcm
  refine relPath_of_not fun hs => not_of_ite_error this ?_
  simp only [List.any_map, List.any_eq_true]
  exact ⟨c, hcm, hs⟩

theorem images_rel_of_valid (images : List (Str × List (Str × Str))) (plats : List Str)
    (h : validateClass "treeinfo.Images" (imagesObj images plats) = .ok ()) : ∀ p ∈ images, ∀ kv ∈ p.2, RelPath kv.2 := by
  have := check_of_rule closed_facts.imagePaths h
  rw [Rule.check, customs_bound.imagePaths, imagePaths_eq] at this
  intro p hp kv hkv
  refine relPath_of_not fun hs => ?_
  rw [List.any_eq_true.mpr ⟨p, hp, List.any_eq_true.mpr ⟨kv, hkv, hs⟩⟩] at this
  cases this

theorem mainimage_rel_of_valid (m i : Option Str) (hon : optTruthy m = true)
    (h : validateClass "treeinfo.Stage2" (stage2Obj m i) = .ok ()) : ∀ p, m = some p → RelPath p := by
  intro p hp
  subst hp
  have g1 : (stage2Obj (some p) i).get "mainimage".toList = .str p := by rfl
  have hguard : (Cond.truthy "mainimage".toList).eval (stage2Obj (some p) i) = true := by
    rw [Cond.eval, g1]
    exact hon
  -- the guard `if self.mainimage:` holds, so the guarded `raise` did not fire
  have := (Rule.check_failIf_iff.mp ((Rule.check_guarded_iff.mp (check_of_rule closed_facts.mainimage h)).2 hguard)).2
  rw [Cond.eval_startsWith_str g1] at this
  refine relPath_of_not fun hs => ?_
  rw [hs] at this
  cases this

theorem relPaths_of_written {t : TreeInfo} (wv : WriteValid t) (hi : ∀ p, t.instimage = some p → RelPath p) : RelPaths t := by
  refine ⟨checksums_rel_of_valid _ wv.checksums, ?_, ?_, hi⟩
  · cases he : t.images.isEmpty
    · exact images_rel_of_valid _ _ (wv.images he)
    · intro p hp; simp at he; rw [he] at hp; cases hp
  · intro p hp
    cases hm : optTruthy t.mainimage
    · -- a falsy main image is the empty string
      rw [hp] at hm
      unfold RelPath
      have : p = [] := by simpa [optTruthy] using hm
      subst this; rfl
    · have hon : stage2On t.mainimage t.instimage = true := by unfold stage2On; simp [hm]
      exact mainimage_rel_of_valid _ _ hm (wv.stage2 hon) p hp

theorem splitCls_none (k : Cls) : ∀ s : Str, (∀ c ∈ s, k.mem c = false) → splitCls k s = [s]
  | [], _ => rfl
  | c :: cs, h => by
    have ih := splitCls_none k cs (fun x hx => h x (List.mem_cons_of_mem _ hx))
    simp only [splitCls, h c (List.mem_cons_self ..), Bool.false_eq_true, if_false, ih]

theorem legacyVersion_plain (version : Str) (h : ∀ c ∈ version, c ≠ '-' ∧ c ≠ '_') : legacyVersion version = version := by
  unfold legacyVersion
  rw [splitCls_none]
  · simp only [List.foldl_cons, List.foldl_nil]; split <;> rfl
  · intro c hc
    obtain ⟨h1, h2⟩ := h c hc
    have n1 : c.toNat ≠ 45 := fun e => h1 (Char.toNat_inj.mp (by rw [e]; rfl))
    have n2 : c.toNat ≠ 95 := fun e => h2 (Char.toNat_inj.mp (by rw [e]; rfl))
    simp only [Cls.mem, List.any_cons, List.any_nil, Bool.or_false]
    simp
    omega

theorem mem_foldl_dedupe (p : Str) : ∀ (l acc : List Str),
    p ∈ l.foldl (fun acc p => if acc.contains p then acc else acc ++ [p]) acc ↔ p ∈ acc ∨ p ∈ l
  | [], acc => by simp
  | x :: xs, acc => by
    rw [List.foldl_cons, mem_foldl_dedupe p xs, List.mem_cons]
    split
    · -- `x` is there already: `p = x` adds nothing
      have hx : x ∈ acc := by simpa using ‹acc.contains x = true›
      constructor
      · exact fun h => h.imp_right Or.inr
      · rintro (h | rfl | h)
        · exact Or.inl h
        · exact Or.inl hx
        · exact Or.inr h
    · rw [List.mem_append, List.mem_singleton, or_assoc]

theorem mem_dedupe (p : Str) (l : List Str) : p ∈ dedupe l ↔ p ∈ l := by
  unfold dedupe; rw [mem_foldl_dedupe]; simp

theorem mem_legacyPlatforms (t : TreeInfo) (p : Str) :
    p ∈ legacyPlatforms t ↔ p = t.tree.arch ∨ p ∈ t.images.map (·.1) := by
  unfold legacyPlatforms
  rw [mem_dedupe]
  simp only [List.singleton_append, List.mem_cons, List.mem_map, mem_sortKV]

end TI
end PM
