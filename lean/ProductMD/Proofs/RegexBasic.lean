import ProductMD.Model.Regex
/-! Unfolding lemmas for the matcher, and: groups do not change the search. -/
namespace PM

@[simp] theorem m_eps (f s) : m f .eps s = [s] := rfl
@[simp] theorem m_bol (f s) : m f .bol s = [s] := rfl
theorem m_eol (f s) : m f .eol s = if isEol s then [s] else [] := rfl
@[simp] theorem m_bad (f s) : m f .bad s = [] := rfl
@[simp] theorem m_cls_nil (f k) : m f (.cls k) [] = [] := rfl
theorem m_cls_cons (f k c cs) : m f (.cls k) (c :: cs) = if k.mem c then [cs] else [] := rfl
theorem m_cat (f a b s) : m f (.cat a b) s = (m f a s).flatMap (m f b) := rfl
theorem m_alt (f a b s) : m f (.alt a b) s = m f a s ++ m f b s := rfl
@[simp] theorem m_grp (f n a s) : m f (.grp n a) s = m f a s := rfl
theorem m_star (f a s) : m f (.star a) s = starAux (m f a) f s := rfl
@[simp] theorem starAux_zero (body s) : starAux body 0 s = [s] := rfl
theorem starAux_succ (body f s) : starAux body (f+1) s =
    ((body s).filter (fun s' => s'.length < s.length)).flatMap (starAux body f) ++ [s] := rfl

@[simp] theorem cost_eps (f s) : cost f .eps s = 1 := rfl
@[simp] theorem cost_bol (f s) : cost f .bol s = 1 := rfl
@[simp] theorem cost_eol (f s) : cost f .eol s = 1 := rfl
@[simp] theorem cost_bad (f s) : cost f .bad s = 1 := rfl
@[simp] theorem cost_cls (f k s) : cost f (.cls k) s = 1 := rfl
theorem cost_cat (f a b s) : cost f (.cat a b) s = 1 + cost f a s + ((m f a s).map (cost f b)).sum := rfl
theorem cost_alt (f a b s) : cost f (.alt a b) s = 1 + cost f a s + cost f b s := rfl
@[simp] theorem cost_grp (f n a s) : cost f (.grp n a) s = cost f a s := rfl
theorem cost_star (f a s) : cost f (.star a) s = starCost (m f a) (cost f a) f s := rfl
@[simp] theorem starCost_zero (body bc s) : starCost body bc 0 s = 1 := rfl
theorem starCost_succ (body bc f s) : starCost body bc (f+1) s = 1 + bc s +
    (((body s).filter (fun s' => s'.length < s.length)).map (starCost body bc f)).sum := rfl

theorem Cls.mem_lit (d c : Char) : (Cls.lit d).mem c = true ↔ c = d := by
  constructor
  · intro h
    have h1 : c.toNat = d.toNat := by
      simp [Cls.lit, Cls.mem] at h; omega
    exact Char.toNat_inj.mp h1
  · rintro rfl; simp [Cls.lit, Cls.mem]

theorem Cls.lit_self (d : Char) : (Cls.lit d).mem d = true := (Cls.mem_lit d d).mpr rfl

theorem Cls.lit_ne {d x : Char} (h : x ≠ d) : (Cls.lit d).mem x = false :=
  Bool.eq_false_iff.mpr fun hm => h ((Cls.mem_lit d x).mp hm)

theorem Cls.any_mem (c : Char) : Cls.any.mem c = true ↔ c ≠ '\n' := by
  rw [Ne, ← Char.toNat_inj]
  simp [Cls.mem, Cls.any]
  omega

/-- remove capture-group marks -/
def Re.strip : Re → Re
  | .cat a b => .cat a.strip b.strip
  | .alt a b => .alt a.strip b.strip
  | .star a => .star a.strip
  | .grp _ a => a.strip
  | r => r

theorem m_strip : ∀ (r : Re) (f : Nat) (s : Str), m f r.strip s = m f r s := by
  intro r
  induction r with
  | eps | bol | eol | bad | cls => intro f s; rfl
  | cat a b iha ihb =>
    intro f s
    simp only [Re.strip, m_cat, iha]
    congr 1; funext t; exact ihb f t
  | alt a b iha ihb => intro f s; simp only [Re.strip, m_alt, iha, ihb]
  | grp n a iha => intro f s; simp only [Re.strip, m_grp, iha]
  | star a iha =>
    intro f s
    simp only [Re.strip, m_star]
    have : m f a.strip = m f a := by funext t; exact iha f t
    rw [this]

theorem cost_strip : ∀ (r : Re) (f : Nat) (s : Str), cost f r.strip s = cost f r s := by
  intro r
  induction r with
  | eps | bol | eol | bad | cls => intro f s; rfl
  | cat a b iha ihb =>
    intro f s
    simp only [Re.strip, cost_cat, iha, m_strip]
    congr 3; funext t; exact ihb f t
  | alt a b iha ihb => intro f s; simp only [Re.strip, cost_alt, iha, ihb]
  | grp n a iha => intro f s; simp only [Re.strip, cost_grp, iha]
  | star a iha =>
    intro f s
    simp only [Re.strip, cost_star]
    have h1 : m f a.strip = m f a := by funext t; exact m_strip a f t
    have h2 : cost f a.strip = cost f a := by funext t; exact iha f t
    rw [h1, h2]

end PM
