import ProductMD.Spec.ReleaseNames
import ProductMD.Spec.StrWords
import ProductMD.Proofs.RegexAdequacy
import ProductMD.Proofs.C14Str
/-!
Exact languages of the release-name patterns, for every string (two group-free copies in `Spec/ReleaseNames.lean`: `shortRe`,
the pattern of short names and of types, and `versionRe`): the language of each is read off the expression with the
combinators of `Lang` (`Proofs/RegexAdequacy.lean`), as a head followed by separator-led segments, and that is compared
with the `splitOn`-based specification predicates (`pieces_iff`).
-/
namespace PM.C14
open PM PM.Str PM.Spec

theorem lowerC_mem (c : Char) : lowerC.mem c = isLower c := by
  simp [Spec.isLower, Cls.mem, Spec.lowerC, Char.le_def, UInt32.le_iff_toNat_le]
theorem alnumC_mem (c : Char) : alnumC.mem c = (isLower c || isDigit c) := by
  simp [Spec.isLower, Spec.isDigit, Cls.mem, Spec.alnumC, Char.le_def, UInt32.le_iff_toNat_le]
theorem digitC_mem (c : Char) : digitC.mem c = isDigit c := by
  simp [Spec.isDigit, Cls.mem, Spec.digitC, Char.le_def, UInt32.le_iff_toNat_le]
theorem nonDigitC_mem (c : Char) : nonDigitC.mem c = !isDigit c := by
  simp [Spec.isDigit, Cls.mem, Spec.nonDigitC, Char.le_def, UInt32.le_iff_toNat_le]

theorem joinWith_eq_segs (sep : Char) : ∀ (gs : List Str) (p : Str),
    joinWith sep (p :: gs) = p ++ segsStr sep gs := by
  intro gs
  induction gs with
  | nil => intro p; simp [joinWith, segsStr]
  | cons g r ih => intro p; rw [joinWith_cons_cons, ih g]; simp [segsStr]

theorem pieces_iff {sep : Char} {P : Str → Prop} (hP : ∀ g, P g → sep ∉ g) (s : Str) :
    (∀ g ∈ splitOn sep s, P g) ↔ Cc P (Segs sep P) s := by
  constructor
  · intro h
    obtain ⟨p, gs, e⟩ := splitOn_cons_shape sep s
    rw [e] at h
    obtain ⟨hp, hgs⟩ := List.forall_mem_cons.mp h
    exact ⟨p, _, by rw [← joinWith_eq_segs, (splitOn_eq_iff.mp e).2.2], hp, gs, hgs, rfl⟩
  · rintro ⟨p, _, rfl, hp, gs, hgs, rfl⟩
    have hall := List.forall_mem_cons.mpr ⟨hp, hgs⟩
    rwa [← joinWith_eq_segs, splitOn_eq_iff.mpr ⟨by simp, fun g hg => hP g (hall g hg), rfl⟩]

theorem lang_shortRe : Lang shortRe End (Cc (One lowerC) (Cc alnumC.All (Segs '-' (Run alnumC)))) :=
  .bolCat ((Lang.cls _).cat ((Lang.starCls _).cat (Lang.starSeg '-' alnumC).catEol))

theorem lang_versionRe : Lang versionRe End
    (fun w => Cc (One nonDigitC) Cls.any.All w ∨ Cc (Run digitC) (Segs '.' (Run digitC)) w) :=
  .bolCat (((Lang.cls _).cat (Lang.starCls _)).alt ((Lang.plusCls _).cat (Lang.starSeg '.' digitC))).catEol

theorem short_iff_spec (b : Str) : Cc (One lowerC) (Cc alnumC.All (Segs '-' (Run alnumC))) b ↔ SpecShort b := by
  have hsub : ∀ c, lowerC.mem c = true → alnumC.mem c = true := fun c h => by
    rw [lowerC_mem] at h
    rw [alnumC_mem, h]
    rfl
  have hr : SpecShort b ↔ headIs isLower b = true ∧ Cc (Run alnumC) (Segs '-' (Run alnumC)) b := by
    rw [← pieces_iff fun g => Run.not_mem (by decide)]
    simp only [SpecShort, SpecSeg, Run, Cls.All, alnumC_mem]
  rw [hr]
  -- `[a-z][a-z0-9]*` is the first piece: a non-empty alphanumeric run whose head is a letter
  constructor
  · intro h
    obtain ⟨c, _, hc, ⟨w, x, rfl, hw, hx⟩, rfl⟩ := Cc_One.mp h
    exact ⟨by simpa [headIs, lowerC_mem] using hc, c :: w, x, rfl, Run_iff.mpr ⟨c, w, hsub c hc, hw, rfl⟩, hx⟩
  · rintro ⟨hh, p, x, rfl, hp, hx⟩
    obtain ⟨c, w, _, hw, rfl⟩ := Run_iff.mp hp
    exact Cc_One.mpr ⟨c, _, by simpa [headIs, lowerC_mem] using hh, ⟨w, x, rfl, hw, hx⟩, rfl⟩

theorem pyMatches_shortRe (s : Str) :
    pyMatches shortRe s = true ↔ SpecShort s ∨ ∃ t, s = t ++ ['\n'] ∧ SpecShort t :=
  (lang_shortRe.congr short_iff_spec).pyMatches s

theorem free_iff_spec (b : Str) : Cc (One nonDigitC) Cls.any.All b ↔ SpecFree b ∧ '\n' ∉ b.tail := by
  unfold SpecFree
  constructor
  · intro h
    obtain ⟨c, w, hc, hw, rfl⟩ := Cc_One.mp h
    exact ⟨by simpa [headIs, nonDigitC_mem] using hc, Cls.any_All.mp hw⟩
  · rintro ⟨hh, ht⟩
    cases b with
    | nil => simp [headIs] at hh
    | cons c w => exact Cc_One.mpr ⟨c, w, by simpa [headIs, nonDigitC_mem] using hh, Cls.any_All.mpr ht, rfl⟩

theorem pyMatches_versionRe (s : Str) :
    pyMatches versionRe s = true ↔ VersionLine s ∨ ∃ t, s = t ++ ['\n'] ∧ VersionLine t := by
  refine (lang_versionRe.congr fun b => ?_).pyMatches s
  rw [free_iff_spec, ← pieces_iff fun g => Run.not_mem (by decide)]
  simp only [VersionLine, SpecNumeric, Run, Cls.All, digitC_mem]
  exact Or.comm

theorem or_nl_iff {L : Str → Prop} {s : Str} (h : '\n' ∉ s) : (L s ∨ ∃ t, s = t ++ ['\n'] ∧ L t) ↔ L s :=
  ⟨fun h' => h'.elim id fun ⟨t, e, _⟩ => absurd (by simp [e]) h, .inl⟩

theorem specShort_chars {s : Str} (h : SpecShort s) : ∀ c ∈ s, (isLower c || isDigit c) = true ∨ c = '-' := by
  intro c hc
  rcases mem_splitOn_of_mem (sep := '-') hc with rfl | ⟨g, hg, hcg⟩
  · exact .inr rfl
  · exact .inl ((h.2 g hg).2 c hcg)

theorem specShort_ne_nil {s : Str} (h : SpecShort s) : s ≠ [] := by
  intro e; subst e; simp [SpecShort, headIs] at h

theorem specShort_no_at {s : Str} (h : SpecShort s) : '@' ∉ s := fun hm => by
  rcases specShort_chars h _ hm with h1 | h1
  · revert h1; decide
  · revert h1; decide

theorem shortRe_ne_nil_no_at {s : Str} (h : pyMatches shortRe s = true) : s ≠ [] ∧ '@' ∉ s := by
  rcases (pyMatches_shortRe s).mp h with hs | ⟨t, rfl, hs⟩
  · exact ⟨specShort_ne_nil hs, specShort_no_at hs⟩
  · exact ⟨by simp, by simp [specShort_no_at hs]⟩

end PM.C14
