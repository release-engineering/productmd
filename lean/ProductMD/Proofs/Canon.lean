import ProductMD.Model.Py
import ProductMD.Proofs.SortK
/-!
Canonical JSON: `JsonText.dumps` is a function of the document modulo the order of dict entries (`dumps_dict_perm`; the C08 theorems
themselves compare documents by `JEq`, Proofs/JEq, which rests on the lemmas here).  `PyVal.sortKvs` is `sortK` (`sortKvs_eq`) and so has
its lemmas.  Also what sorting the keys leaves alone of a value: its type and its truth value.
-/
namespace PM
open PyVal

theorem insertKv_eq (kv : Str × PyVal) : ∀ l, insertKv kv l = insertK kv l
  | [] => rfl
  | x :: xs => by simp only [insertKv, insertK, insertKv_eq kv xs]

theorem sortKvs_eq (l : List (Str × PyVal)) : sortKvs l = sortK l := by
  unfold sortKvs sortK
  congr 1
  funext kv l
  exact insertKv_eq kv l

theorem sortKvs_perm (l : List (Str × PyVal)) : (sortKvs l).Perm l := sortKvs_eq l ▸ sortK_perm l

/-- `KeyLe (·.1)` at `PyVal`; `KeysSorted` of Properties/C08 is stated with it -/
def KLe (a b : Str × PyVal) : Prop := a.1 ≤ b.1

theorem sortKvs_sorted (l : List (Str × PyVal)) : (sortKvs l).Pairwise KLe := sortKvs_eq l ▸ sortK_sorted l

theorem sortKvs_perm_eq {l₁ l₂ : List (Str × PyVal)} (hp : l₁.Perm l₂) (hd : (l₁.map (·.1)).Nodup) :
    sortKvs l₁ = sortKvs l₂ := by
  rw [sortKvs_eq, sortKvs_eq, sortK_perm_eq hp hd]

theorem canonKvs_keys : ∀ l, (canonKvs l).map (·.1) = l.map (·.1) := by
  intro l
  induction l with
  | nil => simp [canonKvs]
  | cons x xs ih => obtain ⟨k, v⟩ := x; simp [canonKvs, ih]

theorem canonKvs_eq_map : ∀ l, canonKvs l = l.map (fun kv => (kv.1, canon kv.2)) := by
  intro l
  induction l with
  | nil => simp [canonKvs]
  | cons x xs ih => obtain ⟨k, v⟩ := x; simp [canonKvs, ih]

theorem canonList_eq_map : ∀ l, canonList l = l.map canon := by
  intro l
  induction l with
  | nil => simp [canonList]
  | cons x xs ih => simp [canonList, ih]

theorem canon_list (xs : List PyVal) : canon (.list xs) = .list (xs.map canon) := by
  rw [canon, canonList_eq_map]

theorem canon_dict (kvs : List (Str × PyVal)) : canon (.dict kvs) = .dict (sortKvs (kvs.map fun kv => (kv.1, canon kv.2))) := by
  rw [canon, canonKvs_eq_map]

theorem canon_dict_congr {l₁ l₂ : List (Str × PyVal)}
    (h : l₁.map (fun kv => (kv.1, canon kv.2)) = l₂.map (fun kv => (kv.1, canon kv.2))) :
    canon (.dict l₁) = canon (.dict l₂) := by
  simp only [canon, canonKvs_eq_map, h]

theorem canon_list_congr {l₁ l₂ : List PyVal} (h : l₁.map canon = l₂.map canon) :
    canon (.list l₁) = canon (.list l₂) := by
  simp only [canon, canonList_eq_map, h]

theorem canonKvs_perm {l₁ l₂ : List (Str × PyVal)} (hp : l₁.Perm l₂) : (canonKvs l₁).Perm (canonKvs l₂) := by
  rw [canonKvs_eq_map, canonKvs_eq_map]
  exact hp.map _

theorem canon_dict_perm {l₁ l₂ : List (Str × PyVal)} (hp : l₁.Perm l₂) (hd : (l₁.map (·.1)).Nodup) :
    canon (.dict l₁) = canon (.dict l₂) := by
  simp only [canon]
  congr 1
  exact sortKvs_perm_eq (canonKvs_perm hp) (by rw [canonKvs_keys]; exact hd)

theorem dumps_congr {a b : PyVal} (h : canon a = canon b) : JsonText.dumps a = JsonText.dumps b := by
  simp only [JsonText.dumps, h]

theorem dumps_dict_perm {l₁ l₂ : List (Str × PyVal)} (hp : l₁.Perm l₂) (hd : (l₁.map (·.1)).Nodup) :
    JsonText.dumps (.dict l₁) = JsonText.dumps (.dict l₂) := by
  simp only [JsonText.dumps, canon_dict_perm hp hd]

/-- structural induction on a value, the two containers through membership -/
theorem PyVal.induct {P : PyVal → Prop} (none : P .none) (bool : ∀ b, P (.bool b)) (int : ∀ n, P (.int n))
    (float : ∀ r, P (.float r)) (str : ∀ s, P (.str s)) (other : ∀ t, P (.other t))
    (list : ∀ xs, (∀ x ∈ xs, P x) → P (.list xs))
    (dict : ∀ kvs : List (Str × PyVal), (∀ kv ∈ kvs, P kv.2) → P (.dict kvs)) : ∀ v, P v :=
  PyVal.rec (motive_1 := P) (motive_2 := fun xs => ∀ x ∈ xs, P x) (motive_3 := fun kvs => ∀ kv ∈ kvs, P kv.2)
    (motive_4 := fun kv => P kv.2) none bool int float str list dict other
    (fun _ h => nomatch h) (fun _ _ h ih => List.forall_mem_cons.mpr ⟨h, ih⟩)
    (fun _ h => nomatch h) (fun _ _ h ih => List.forall_mem_cons.mpr ⟨h, ih⟩) (fun _ _ h => h)

theorem all_congr_mem {α} {l : List α} {f g : α → Bool} (h : ∀ x ∈ l, f x = g x) : l.all f = l.all g := by
  rw [Bool.eq_iff_iff, List.all_eq_true, List.all_eq_true]
  exact ⟨fun H x hx => h x hx ▸ H x hx, fun H x hx => (h x hx).symm ▸ H x hx⟩

namespace PyVal

theorem pyEq_str (a b : Str) : pyEq (.str a) (.str b) = (a == b) := rfl

theorem isinstance_canon (v : PyVal) (t : PyType) : (canon v).isinstance t = v.isinstance t := by
  cases v <;> cases t <;> rfl

theorem isBool_canon (v : PyVal) : (canon v).isBool = v.isBool := by
  cases v <;> rfl

theorem truthy_canon (v : PyVal) : (canon v).truthy = v.truthy := by
  cases v with
  | list xs => cases xs <;> simp [canon, truthy, canonList]
  | dict kvs =>
    simp only [canon, truthy, (PM.sortKvs_perm _).isEmpty_eq]
    cases kvs with
    | nil => rfl
    | cons a as => obtain ⟨k, x⟩ := a; simp [canonKvs]
  | _ => rfl

end PyVal

end PM
