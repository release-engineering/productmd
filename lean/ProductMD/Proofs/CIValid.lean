import ProductMD.Proofs.CIBasic
import ProductMD.Proofs.RuleCongr
import ProductMD.Proofs.GateLemmas
import ProductMD.Proofs.ExceptLemmas
/-!
What C01 needs to know about the validators, and the readers of the sections that are not trees.  The validator lemmas are
about the rule lists *generated from the source* (`Gen.rules_*`): if a validator the round trip relies on is removed or
weakened in `/repo`, the corresponding lemma stops compiling.
-/
namespace PM.CI
open PM

theorem pyEq_str (a b : Str) : PyVal.pyEq (.str a) (.str b) = true ↔ a = b := by
  rw [PyVal.pyEq_str, beq_iff_eq]

/-- `validateClass` at a composeinfo class is the run of that class's rules (each by `rfl`: the class lookup is evaluated here,
once).  Proofs rewrite with these equations: unfolding `validateClass` makes the kernel run the class lookup, which is slow.
The equation for `composeinfo.Compose` is `Mf.validateCompose_eq` (Proofs/RuleCongr.lean). -/
structure ValidateEqs : Prop where
  variant : ∀ o, validateClass "composeinfo.Variant" o = runRules customs o Gen.rules_composeinfo_Variant.flat
  release : ∀ o, validateClass "composeinfo.Release" o = runRules customs o Gen.rules_composeinfo_Release.flat
  base : ∀ o, validateClass "composeinfo.BaseProduct" o = runRules customs o Gen.rules_composeinfo_BaseProduct.flat

theorem validate_eqs : ValidateEqs := ⟨fun _ => rfl, fun _ => rfl, fun _ => rfl⟩

theorem validate_variant_iff (o : Obj) :
    validateClass "composeinfo.Variant" o = .ok () ↔ ∀ r ∈ Gen.rules_composeinfo_Variant.flat, r.check customs o = .ok () := by
  rw [validate_eqs.variant]; exact runRules_ok_iff customs o _

theorem validate_release_iff (o : Obj) :
    validateClass "composeinfo.Release" o = .ok () ↔ ∀ r ∈ Gen.rules_composeinfo_Release.flat, r.check customs o = .ok () := by
  rw [validate_eqs.release]; exact runRules_ok_iff customs o _

theorem uid_rule_mem : Rule.custom k%"composeinfo.Variant._validate_uid" ∈ Gen.rules_composeinfo_Variant.flat := by
  simp [Gen.rules_composeinfo_Variant, MethodRules.flat]

theorem parentArch_rule_mem : Rule.custom k%"composeinfo.Variant._validate_parent_arch" ∈ Gen.rules_composeinfo_Variant.flat := by
  simp [Gen.rules_composeinfo_Variant, MethodRules.flat]

/-- where `customTable` binds the two hand-written validators of `composeinfo.Variant`.  One kernel evaluation for both;
`customs n o = ciVariantUid o` by `rfl` would have the elaborator compare the decoded names of the table one by one. -/
theorem variant_customs_pos :
    (customTable.map (·.1)).idxOf k%"composeinfo.Variant._validate_parent_arch" = 1
    ∧ (customTable.map (·.1)).idxOf k%"composeinfo.Variant._validate_uid" = 2 := by
  decide +kernel

theorem customs_uid : customs k%"composeinfo.Variant._validate_uid" = ciVariantUid :=
  customs_eq_of_idxOf (by decide) variant_customs_pos.2

theorem customs_parentArch : customs k%"composeinfo.Variant._validate_parent_arch" = ciVariantParentArch :=
  customs_eq_of_idxOf (by decide) variant_customs_pos.1

theorem uid_of_valid_child (pu : Str) (pa : List Str) (v : Variant)
    (h : validateClass "composeinfo.Variant" (variantObj (some (pu, pa)) v) = .ok ()) : v.uid = pu ++ '-' :: v.id := by
  have h1 := (validate_variant_iff _).mp h _ uid_rule_mem
  cases v with
  | mk key id uid name type arches paths rel kids =>
  rw [Rule.check, customs_uid, ciVariantUid_child rfl rfl rfl rfl] at h1
  exact of_ite_ok h1

theorem id_of_valid_top (v : Variant)
    (h : validateClass "composeinfo.Variant" (variantObj none v) = .ok ()) : Str.removeChar '-' v.uid = v.id := by
  have h1 := (validate_variant_iff _).mp h _ uid_rule_mem
  cases v with
  | mk key id uid name type arches paths rel kids =>
  rw [Rule.check, customs_uid, ciVariantUid_top rfl rfl rfl] at h1
  exact of_ite_ok h1

theorem release_types_lower : ∀ t ∈ Gen.RELEASE_TYPES, Str.lowerAscii t = t := by decide

theorem release_valid_iff (r : Release) : validateClass "composeinfo.Release" (releaseObj r) = .ok () ↔
    r.type ∈ Gen.RELEASE_TYPES ∧
    ∀ ps, Rule.re k%"version" ps ∈ Gen.rules_composeinfo_Release.flat → ps.any (pyMatches · r.version) = true := by
  rw [validate_release_iff]
  simp [Gen.rules_composeinfo_Release, MethodRules.flat, Rule.check, releaseObj, Obj.get, PyVal.assertTypeOk,
    PyVal.isinstance, PyVal.isBool, Gen.RELEASE_TYPES, Decidable.or_iff_not_imp_left]

theorem base_valid_iff (b : BaseProduct) : validateClass "composeinfo.BaseProduct" (baseObj (some b)) = .ok () ↔
    b.type ∈ Gen.RELEASE_TYPES ∧
    ∀ ps, Rule.re k%"version" ps ∈ Gen.rules_composeinfo_BaseProduct.flat → ps.any (pyMatches · b.version) = true := by
  rw [validate_eqs.base, runRules_ok_iff]
  simp [Gen.rules_composeinfo_BaseProduct, MethodRules.flat, Rule.check, baseObj, Obj.get, PyVal.assertTypeOk,
    PyVal.isinstance, PyVal.isBool, Gen.RELEASE_TYPES, Decidable.or_iff_not_imp_left]

theorem release_ok_lower (r : Release) (h : validateClass "composeinfo.Release" (releaseObj r) = .ok ()) :
    Str.lowerAscii r.type = r.type :=
  release_types_lower _ ((release_valid_iff r).mp h).1

/-- a release nobody filled in is refused (so a written layered-product variant has one) -/
theorem blank_release_invalid : isOk (validateClass "composeinfo.Release" blankVariantReleaseObj) = false := by decide +kernel

/-- a base product nobody filled in is refused (so a written layered compose has one) -/
theorem blank_base_invalid : isOk (validateClass "composeinfo.BaseProduct" (baseObj none)) = false := by decide +kernel

/-! The compose section: the facts about its rule list are those of `Proofs/RuleCongr`, shared with the manifests;
here the keys are character lists. -/

theorem composeVal_norm (c : Compose) : composeVal c.norm = composeVal c := by
  obtain ⟨id, type, date, respin, label, final⟩ := c
  rcases label with _ | _ | _ <;> rfl

/-- What a write/read cycle makes of a valid compose section (an empty label is refused, `final` goes with an absent
label) is valid again. -/
theorem compose_norm_valid (c : Compose) (h : validateClass "composeinfo.Compose" (composeObj c) = .ok ()) :
    validateClass "composeinfo.Compose" (composeObj c.norm) = .ok () := by
  obtain ⟨id, type, date, respin, label, final⟩ := c
  rcases label with _ | _ | _
  · exact (Mf.validateCompose_setFinal _ _ _ _ _ (.bool final) (.bool false) rfl).symm.trans h
  · exact absurd h (Mf.validateCompose_empty_label rfl)
  · exact h

deriving instance DecidableEq for Except

theorem versionTuple_current : versionTuple currentVersion = .ok Gen.VERSION := by decide +kernel

theorem sub_of_get {l : List (Str × PyVal)} {k : Str} {v : PyVal} (h : PyVal.get? (.dict l) k = some v) :
    sub (.dict l) k = .ok v := by
  simp [sub, h]

theorem version_not_lt_1_1 : verLt Gen.VERSION (1, 1) = false := by decide
theorem version_not_lt_1_0 : verLt Gen.VERSION (1, 0) = false := by decide

theorem headerDe_ok (rest : List (Str × PyVal))
    (h : validateClass "common.Header" (headerObj (.str currentVersion)) = .ok ()) :
    headerDe (.dict ((k%"header", headerVal) :: rest)) = .ok Gen.VERSION := by
  simp [headerDe, sub, PyVal.get?, headerVal, h, asStr, versionTuple_current, headerTypeCheck, version_not_lt_1_1, pyEq_str]

theorem composeDe_ok (ver : Nat × Nat) (hv : verLt ver (0, 3) = false) (c : Compose) (rest : List (Str × PyVal))
    (h : validateClass "composeinfo.Compose" (composeObj c) = .ok ()) :
    composeDe ver (.dict ((k%"compose", composeVal c) :: rest)) = .ok c.norm := by
  have h' := compose_norm_valid c h
  obtain ⟨id, type, date, respin, label, final⟩ := c
  rcases label with _ | _ | _
  all_goals
    simp only [Compose.norm, composeObj, Option.isSome, Bool.false_and, Bool.true_and] at h'
    simp [composeDe, hv, sub, getD, PyVal.get?, composeVal, orNone, PyVal.truthy, h', asStr, asInt, Compose.norm]

theorem deserialize_iff {doc : PyVal} {ci : ComposeInfo} : deserialize doc = .ok ci ↔
    ∃ ver payload, headerDe doc = .ok ver ∧ sub doc k%"payload" = .ok payload ∧ composeDe ver payload = .ok ci.compose ∧
      releaseDe ver payload = .ok ci.release ∧ baseDeIf ci.release.isLayered payload = .ok ci.base ∧
      variantsDe ver payload = .ok ci.variants := by
  unfold deserialize
  constructor
  · intro h
    -- the body is a chain of `match`es with one path to `.ok`: splitting all of them leaves that path, with one hypothesis
    -- `reader … = .ok _` per `match` (picked up below by its statement), and the failing branches, where `h` is `error = ok`
    repeat' (first | split at h | dsimp only at h)
    all_goals first | (cases h; done) | skip
    cases h
    exact ⟨_, _, ‹headerDe _ = Except.ok _›, ‹sub _ _ = Except.ok _›, ‹composeDe _ _ = Except.ok _›, ‹releaseDe _ _ = Except.ok _›,
      ‹baseDeIf _ _ = Except.ok _›, ‹variantsDe _ _ = Except.ok _›⟩
  · rintro ⟨ver, payload, hh, hp, hc, hr, hb, hv⟩
    simp only [hh, hp, hc, hr, hb, hv]

end PM.CI
