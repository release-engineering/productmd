import ProductMD.Model.Validation
import ProductMD.Proofs.RulesEq
import ProductMD.Spec.Rules
import ProductMD.Proofs.ExceptLemmas
/-! Lemmas about `Model/Validation.lean` and about the predicates `Part.Violates` / `Part.Conforms` C06 is stated with
(`Spec/ValWords.lean`): `validate()` decides them as soon as the catalogue and the generated rules include each other. -/
namespace PM.Val
open PM

theorem runSteps_ok_iff (steps : List Step) : runSteps steps = .ok () ↔ ∀ s ∈ steps, s.run = .ok () := by
  induction steps with
  | nil => simp [runSteps]
  | cons s rest ih =>
    cases h : s.run with
    | ok u => cases u; simp [runSteps, h, ih]
    | error e => simp [runSteps, h]

theorem runSteps_error_of_mem (steps : List Step) (s : Step) (hs : s ∈ steps) (h : s.run ≠ .ok ()) :
    ∃ e, runSteps steps = .error e := by
  cases hr : runSteps steps with
  | error e => exact ⟨e, rfl⟩
  | ok u => cases u; exact absurd ((runSteps_ok_iff steps).mp hr s hs) h

theorem runSteps_error_src (steps : List Step) (e : Err) (h : runSteps steps = .error e) :
    ∃ s ∈ steps, s.run = .error e := by
  fun_induction runSteps steps with
  | case1 => cases h
  | case2 _ _ _ ih =>
    obtain ⟨t, ht, hte⟩ := ih h
    exact ⟨t, List.mem_cons_of_mem _ ht, hte⟩
  | case3 s _ _ hs => cases h; exact ⟨s, List.mem_cons_self, hs⟩

theorem mem_vstep_validate {flag : Bool} {cls : String} {o : Obj} {p : Part} :
    Step.validate p ∈ vstep flag cls o ↔ flag = true ∧ p = ⟨cls, o⟩ := by
  unfold vstep
  split <;> simp [*]

theorem mem_vstep {flag : Bool} (h : flag = true) (cls : String) (o : Obj) : Step.validate ⟨cls, o⟩ ∈ vstep flag cls o :=
  mem_vstep_validate.mpr ⟨h, rfl⟩

theorem mem_vstep_check {flag : Bool} {cls : String} {o : Obj} {r : Except Err Unit} : Step.check r ∉ vstep flag cls o := by
  unfold vstep
  split <;> simp

theorem Ev.exists {P : Ev → Prop} : (∃ ev, P ev) ↔ (∃ o rel, P (.enter o rel)) ∨ ∃ o, P (.exit o) := by
  constructor
  · rintro ⟨_ | _, h⟩
    · exact Or.inl ⟨_, _, h⟩
    · exact Or.inr ⟨_, h⟩
  · rintro (⟨_, _, h⟩ | ⟨_, h⟩) <;> exact ⟨_, h⟩

/-- `Spec.catalogue` and `genRules` are both lookups of a class name in a table of rule lists -/
theorem lookup_sub {α : Type} {table : List (String × α)} {f : α → List Rule} {target : String → List Rule}
    (h : ∀ e ∈ table, rulesSubset (f e.2) (target e.1) = true) (cls : String) :
    ∀ r ∈ ((table.find? (·.1 == cls)).map fun e => f e.2).getD [], r ∈ target cls := by
  intro r hr
  cases hf : table.find? (·.1 == cls) with
  | none => rw [hf] at hr; cases hr
  | some e =>
    rw [hf] at hr
    have hk : e.1 = cls := by simpa using List.find?_some hf
    exact hk ▸ rulesSubset_sound (h e (List.mem_of_find?_eq_some hf)) r hr

theorem validate2_conforms (henf : ∀ cls, ∀ r ∈ Spec.catalogue cls, r ∈ genRules cls) {p : Part}
    (hok : (Step.validate p).run = .ok ()) : p.Conforms := fun r hr =>
  (runRules_ok_iff customs2 p.obj (genRules p.cls)).mp hok r (henf p.cls r hr)

theorem validate2_rejects (henf : ∀ cls, ∀ r ∈ Spec.catalogue cls, r ∈ genRules cls) (p : Part) (hv : p.Violates) :
    (Step.validate p).run ≠ .ok () := by
  obtain ⟨r, hr, hbad⟩ := hv
  intro hok
  exact hbad (validate2_conforms henf hok r hr)

theorem validate2_accepts (hcomp : ∀ cls, ∀ r ∈ genRules cls, r ∈ Spec.catalogue cls) (p : Part) (hc : p.Conforms) :
    (Step.validate p).run = .ok () :=
  (runRules_ok_iff customs2 p.obj (genRules p.cls)).mpr fun r hr => hc r (hcomp p.cls r hr)

/-- TypeError or ValueError, the two exception classes C06 allows for a refused `validate()` -/
def TV (e : Err) : Prop := e = .typeError ∨ e = .valueError

theorem tv_type : TV .typeError := Or.inl rfl
theorem tv_value : TV .valueError := Or.inr rfl

theorem _root_.PM.Rule.check_errclass (cu : Str → Obj → Except Err Unit) (o : Obj) (r : Rule) :
    Fails (r.check cu o) fun e => TV e ∨ ∃ n ∈ Rule.customNamesIn r, cu n o = .error e := by
  induction r with
  | type f ts =>
    rw [Rule.check]
    exact .ite (fun _ => .ok) fun _ => .error (.inl tv_type)
  | value f t =>
    rw [Rule.check]
    split
    · exact .ite (fun _ => .ok) fun _ => .error (.inl tv_value)
    · exact .error (.inl tv_value)
  | notBlank f =>
    rw [Rule.check]
    exact .ite (fun _ => .ok) fun _ => .error (.inl tv_value)
  | re f ps =>
    rw [Rule.check]
    split
    · exact .ite (fun _ => .ok) fun _ => .error (.inl tv_value)
    · exact .error (.inl tv_type)
  | failIf c =>
    rw [Rule.check]
    exact .ite (fun _ => .error (.inl tv_type)) fun _ => .ite (fun _ => .error (.inl tv_value)) fun _ => .ok
  | guarded c r ih =>
    rw [Rule.check]
    exact .ite (fun _ => .error (.inl tv_type)) fun _ => .ite (fun _ => ih) fun _ => .ok
  | custom n => exact fun e h => .inr ⟨n, List.mem_singleton.mpr rfl, h⟩

theorem runRules_first_failure (cu : Str → Obj → Except Err Unit) (o : Obj) (rs : List Rule) (e : Err)
    (h : runRules cu o rs = .error e) :
    ∃ pre r post, rs = pre ++ r :: post ∧ (∀ q ∈ pre, q.check cu o = .ok ()) ∧ r.check cu o = .error e := by
  fun_induction runRules cu o rs with
  | case1 => cases h
  | case2 r _ hr ih =>
    obtain ⟨pre, q, post, hs, hpre, hq⟩ := ih h
    exact ⟨r :: pre, q, post, by rw [hs]; rfl, List.forall_mem_cons.mpr ⟨hr, hpre⟩, hq⟩
  | case3 r rs _ hr => cases h; exact ⟨[], r, rs, rfl, nofun, hr⟩

theorem runRules_errclass (cu : Str → Obj → Except Err Unit) (o : Obj) (rs : List Rule) (e : Err) (h : runRules cu o rs = .error e) :
    e = .typeError ∨ e = .valueError ∨ ∃ r ∈ rs, ∃ n ∈ Rule.customNamesIn r, cu n o = .error e := by
  obtain ⟨pre, r, post, hs, _, hr⟩ := runRules_first_failure cu o rs e h
  rcases (Rule.check_errclass cu o r).elim hr with (h1 | h1) | h1
  · exact Or.inl h1
  · exact Or.inr (Or.inl h1)
  · exact Or.inr (Or.inr ⟨r, by rw [hs]; exact List.mem_append_right _ List.mem_cons_self, h1⟩)

end PM.Val

namespace PM

def isOk {α} : Except Err α → Bool | .ok _ => true | .error _ => false

end PM
