import ProductMD.Proofs.TreeInfoText
import ProductMD.Model.TreeInfoLegacy
/-! For C17: the options of `[general]` one by one, options through the text reader, how `getItem` designates the main variant. -/
namespace PM
namespace TI
open Ini

section general
variable {t : TreeInfo} {n : Int} {key : Str} {v : Variant}

/-- the option names of `generalTable` (what `General.serialize` writes, the two `; WARNING` comment lines included), in its order -/
def generalNames : List Str :=
  [kWarn0, kWarn1, kName, kFamily, kVersion, kArch, kPlatforms, kTimestamp, kVariants, tVariant, kPackagedir, kRepository]

/-- what a pre-productmd reader also asks `[general]` for -/
def generalAbsent : List Str := [kAddons, Legacy.kPackages, Legacy.kPackagedirs, Legacy.kIdentity, kDiscnum, kTotaldiscs]

/-- the one finite fact behind every lookup in `[general]` -/
theorem generalAsked_nodup : (generalAbsent ++ generalNames).Nodup := by decide +kernel

theorem generalTable_names : (generalTable t n key v).map (·.1) = generalNames := by
  simp only [generalTable, generalNames, List.map_cons, List.map_nil]

theorem generalTable_nodup : ((generalTable t n key v).map (·.1)).Nodup :=
  generalTable_names ▸ (List.nodup_append.mp generalAsked_nodup).2.1

theorem gen_of_mem {k : Str} {x : Option Str} (h : (k, x) ∈ generalTable t n key v) : (generalOpts t n key v).lookup k = x := by
  rw [generalOpts_eq_table t n key v generalTable_nodup]
  exact Assoc.lookup_optsOf_of_mem generalTable_nodup h

theorem gen_absent {k : Str} (h : k ∈ generalAbsent) : (generalOpts t n key v).lookup k = none := by
  rw [generalOpts_eq_table t n key v generalTable_nodup]
  exact Assoc.lookup_none_iff.mpr fun hk => (List.nodup_append.mp generalAsked_nodup).2.2 k h k
    (generalTable_names ▸ (Assoc.optsOf_keys_sublist _).subset hk) rfl

/-- membership in the literal lists `generalTable` / `generalAbsent` -/
local macro "listed" : tactic => `(tactic| simp only [generalTable, generalAbsent, List.mem_cons, true_or, or_true])

theorem gen_family : (generalOpts t n key v).lookup kFamily = some t.release.name := gen_of_mem (by listed)
theorem gen_version : (generalOpts t n key v).lookup kVersion = some t.release.version := gen_of_mem (by listed)
theorem gen_name : (generalOpts t n key v).lookup kName = some (t.release.name ++ ' ' :: t.release.version) :=
  gen_of_mem (by listed)
theorem gen_arch : (generalOpts t n key v).lookup kArch = some t.tree.arch := gen_of_mem (by listed)
theorem gen_platforms : (generalOpts t n key v).lookup kPlatforms = some (platformsStr t.tree) := gen_of_mem (by listed)
theorem gen_timestamp : (generalOpts t n key v).lookup kTimestamp = some (Str.intStr n) := gen_of_mem (by listed)
theorem gen_variant : (generalOpts t n key v).lookup tVariant = some key := gen_of_mem (by listed)
theorem gen_variants : (generalOpts t n key v).lookup kVariants =
    some (Str.joinWith ',' (Ini.sortS (t.variants.map Variant.key))) := gen_of_mem (by listed)
theorem gen_repository : (generalOpts t n key v).lookup kRepository =
    generalPath t.tree.arch v.paths "repository".toList "source_repository".toList := gen_of_mem (by listed)
theorem gen_packagedir : (generalOpts t n key v).lookup kPackagedir =
    generalPath t.tree.arch v.paths "packages".toList "source_packages".toList := gen_of_mem (by listed)

theorem gen_addons : (generalOpts t n key v).lookup kAddons = none := gen_absent (by listed)
theorem gen_packages : (generalOpts t n key v).lookup Legacy.kPackages = none := gen_absent (by listed)
theorem gen_packagedirs : (generalOpts t n key v).lookup Legacy.kPackagedirs = none := gen_absent (by listed)
theorem gen_identity : (generalOpts t n key v).lookup Legacy.kIdentity = none := gen_absent (by listed)
theorem gen_discnum : (generalOpts t n key v).lookup kDiscnum = none := gen_absent (by listed)
theorem gen_totaldiscs : (generalOpts t n key v).lookup kTotaldiscs = none := gen_absent (by listed)

end general

theorem opt_readDoc (d : Ini) (s k : Str) (hk : nc k = true) : opt (readDoc d) s k = opt d s k := by
  unfold opt
  rw [readDoc_lookup]
  cases d.lookup s with
  | none => rfl
  | some o =>
    simp only [Option.map_some, Option.bind_some]
    rw [Assoc.lookup_filter_key (fun k => !IniText.isCommentName k) _ k hk, lookup_sortKV]

theorem getItem_error : ∀ (f : Nat) (vs : List Variant) (name : Str) (e : Err), name.length < f →
    getItem f vs name = .error e → e = .keyError
  | 0, _, _, _, h, _ => by omega
  | f + 1, vs, name, e, hf, h => by
    rw [getItem] at h
    split at h
    · -- a container key: found
      cases h
    · split at h
      · rename_i hdash
        split at h
        · -- a UID of the level: found
          cases h
        · split at h
          · rename_i head tail hs
            split at h
            · -- descent into the children of the variant with key `head`; `tail` is shorter than the name
              rename_i p _
              have hlen : tail.length < f := by
                have := split1_spec '-' name head tail hs
                rw [this] at hf
                simp at hf
                omega
              exact getItem_error f p.kids tail e hlen h
            · -- no variant with key `head`
              injection h with h
              exact h.symm
          · -- the one branch with another error: `split("-", 1)` of a name that contains a dash has two parts
            rename_i hne
            exfalso
            obtain ⟨a, b, hab⟩ := split1_of_mem '-' name (by simpa using hdash)
            exact hne a b hab
      · -- no key, no dash
        injection h with h
        exact h.symm

theorem getItem_designates : ∀ (f : Nat) (vs : List Variant) (name : Str) (v : Variant),
    getItem f vs name = .ok v → Designates vs name v
  | 0, _, _, _, h => by simp [getItem] at h
  | f + 1, vs, name, v, h => by
    rw [getItem] at h
    split at h
    · rename_i w hw
      injection h with h; subst h
      exact .key (List.mem_of_find?_eq_some hw) (by simpa using List.find?_some hw)
    · rename_i hnone
      have hk : ∀ w ∈ vs, w.key ≠ name := by
        intro w hw e
        have := List.find?_eq_none.mp hnone w hw
        simp [e] at this
      split at h
      · rename_i hdash
        split at h
        · rename_i w hw
          injection h with h; subst h
          exact .uid hdash hk (List.mem_of_find?_eq_some hw) (by simpa using List.find?_some hw)
        · rename_i hnone2
          have hu : ∀ w ∈ vs, w.uid ≠ name := by
            intro w hw e
            have := List.find?_eq_none.mp hnone2 w hw
            simp [e] at this
          split at h
          · rename_i head tail hs
            split at h
            · rename_i p hp
              exact .path (split1_spec '-' name head tail hs) hk hu (List.mem_of_find?_eq_some hp)
                (by simpa using List.find?_some hp) (getItem_designates f p.kids tail v h)
            · cases h
          · cases h
      · cases h

theorem getItem_dashless (f : Nat) (vs : List Variant) (name : Str) (v : Variant) (hd : name.contains '-' = false)
    (h : getItem (f + 1) vs name = .ok v) : v ∈ vs ∧ v.key = name := by
  cases getItem_designates _ _ _ _ h with
  | key hm hk => exact ⟨hm, hk⟩
  | uid hdash => rw [hd] at hdash; cases hdash
  | path hn => subst hn; simp at hd

theorem sortS_head_min (l : List Str) (k : Str) (r : List Str) (h : sortS l = k :: r) : k ∈ l ∧ ∀ k' ∈ l, k ≤ k' := by
  have hs : (sortS l).Pairwise (KeyLe id) := sortBy_sorted id l
  rw [h] at hs
  have hk : k ∈ l := (mem_sortS l k).mp (by rw [h]; exact List.mem_cons_self ..)
  refine ⟨hk, ?_⟩
  intro k' hk'
  have : k' ∈ k :: r := by rw [← h]; exact (mem_sortS l k').mpr hk'
  rcases List.mem_cons.mp this with e | e
  · subst e; exact List.le_refl _
  · exact (List.pairwise_cons.mp hs).1 k' e

end TI
end PM
