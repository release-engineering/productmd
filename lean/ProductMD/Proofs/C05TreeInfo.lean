import ProductMD.Model.TreeInfoLegacy
import ProductMD.Proofs.TreeInfoReader
import ProductMD.Proofs.GateLemmas
/-!
C05, treeinfo: which readers the generated gates select for which versions; what every section reader has established of its
result (its last step is the class's `validate()`); that a legacy section reader is the current one wherever `_fix_path` changes
no path it reads (it only touches paths that start with `/`); what a load consists of, for the legacy-aware reader (any header
version or none) and for the current one (the two `deserialize_iff`); that the current section readers see a file only through
its lookups (`*_congr`).
-/
namespace PM.TI.Legacy
open PM PM.TI PM.Ini

/-- Each treeinfo gate (`Generated/Gates.lean`) compares the version with `(0, 0)`, `(0, 3)` or `(1, 1)`, so three comparisons
decide all eleven selections. -/
theorem selsOf_eq (v : Nat × Nat) : selsOf v = .ok
    (let is00 : Bool := v == (0, 0)
     let sel : Sel := if is00 then .v00 else if PM.verLe v (0, 3) then .v03 else .v10
     { headerTyped := PM.verLe (1, 1) v, release := sel, tree00 := is00, variants00 := is00, paths := sel,
       addonFallback := PM.verLt (0, 3) v, variant := sel, fixImages := is00, fixStage2 := is00, fixChecksums := is00,
       media00 := is00 }) := by
  simp only [selsOf, sel2, gateB, Gate.eval?, Gen.gate_treeinfo_Header_deserialize_0, Gen.gate_treeinfo_Release_deserialize_0,
    Gen.gate_treeinfo_Release_deserialize_1, Gen.gate_treeinfo_Tree_deserialize_0, Gen.gate_treeinfo_Variants_deserialize_0,
    Gen.gate_treeinfo_VariantPaths_deserialize_0, Gen.gate_treeinfo_VariantPaths_deserialize_1, Gen.gate_treeinfo_Variant_deserialize_0,
    Gen.gate_treeinfo_Variant_deserialize_1, Gen.gate_treeinfo_Variant_deserialize_2, Gen.gate_treeinfo_Images__fix_path_0,
    Gen.gate_treeinfo_Stage2__fix_path_0, Gen.gate_treeinfo_Checksums__fix_path_0, Gen.gate_treeinfo_Media_deserialize_0,
    bind, Except.bind, pure, Except.pure]
  cases v == (0, 0) <;> cases PM.verLe v (0, 3) <;> rfl

/-- what the gates select at 0.0 (a file without `[header]`): every class its pre-productmd reader, every path fix-up on -/
def S00 : Sels :=
  { headerTyped := false, release := .v00, tree00 := true, variants00 := true, paths := .v00, addonFallback := false,
    variant := .v00, fixImages := true, fixStage2 := true, fixChecksums := true, media00 := true }

theorem selsOf_0_0 : selsOf (0, 0) = .ok S00 := rfl

theorem selsOf_le_0_3 (v : Nat × Nat) (h0 : (v == (0, 0)) = false) (h3 : PM.verLe v (0, 3) = true) : selsOf v = .ok
    { headerTyped := false, release := .v03, tree00 := false, variants00 := false, paths := .v03, addonFallback := false,
      variant := .v03, fixImages := false, fixStage2 := false, fixChecksums := false, media00 := false } := by
  have h11 : PM.verLe (1, 1) v = false := verLe_false_of_verLt (verLt_of_verLe_of_verLt h3 (by decide))
  have hgt : PM.verLt (0, 3) v = false := verLt_false_of_verLe h3
  rw [selsOf_eq, h0, h3, h11, hgt]
  rfl

theorem deRelease_valid (d : Ini) :
    Post (deRelease .v1_0 d) fun r => validateClass "treeinfo.Release" (releaseObj r.1 r.2) = .ok () := by
  unfold deRelease
  exact .bind fun _ => .bind fun _ => .ite_bind fun _ => .ite_bind fun _ => .validated id

theorem deReleaseL_valid (s : Sel) (d : Ini) :
    Post (deReleaseL s d) fun r => validateClass "treeinfo.Release" (releaseObj r.1 r.2) = .ok () := by
  unfold deReleaseL
  cases s with
  | v10 => exact deRelease_valid d
  | v03 => exact .bind fun _ => .bind fun _ => .bind fun _ => .ite_bind fun _ => .validated id
  | v00 => exact .bind fun _ => .bind fun _ => .bind fun _ => .validated id

theorem deTreeL_post (fo : FloatOracle) (old : Bool) (d : Ini) :
    Post (deTreeL fo old d) fun t => (∃ n, t.ts = .int n) ∧ validateClass "treeinfo.Tree" (treeObj t) = .ok () := by
  unfold deTreeL deTree
  exact .ite (.bind fun _ => .bind fun _ => .ite_bind fun ts => .validated fun h => ⟨⟨ts, rfl⟩, h⟩)
    (.bind fun _ => .ite_bind fun _ => .ite_bind fun ts => .validated fun h => ⟨⟨ts, rfl⟩, h⟩)

theorem deStage2L_valid (fix : Bool) (d : Ini) :
    Post (deStage2L fix d) fun r => validateClass "treeinfo.Stage2" (stage2Obj r.1 r.2) = .ok () := by
  unfold deStage2L
  exact .ite_bind fun _ => .ite_bind fun _ => .validated id

theorem deChecksumsL_post (fix : Bool) (d : Ini) :
    Post (deChecksumsL fix d) fun cs =>
      (if hasSection d sChecksums then (items d sChecksums).bind fun its => deChecksumItemsL fix its [] else pure []) = .ok cs
      ∧ validateClass "treeinfo.Checksums" (checksumsObj cs) = .ok () := by
  unfold deChecksumsL
  exact .ite_bind' fun _ hx => .validated fun h => ⟨hx, h⟩

theorem deImagesL_post (fix : Bool) (d : Ini) (tree : Tree) :
    Post (deImagesL fix d tree) fun im => deImageSectionsL fix d tree.arch (sections d) [] = .ok im
      ∧ validateClass "treeinfo.Images" (imagesObj im tree.platforms) = .ok () := by
  unfold deImagesL
  exact .bind' fun _ hx => .validated fun h => ⟨hx, h⟩

theorem deMediaL_valid (old : Bool) (d : Ini) :
    Post (deMediaL old d) fun r => validateClass "treeinfo.Media" (mediaObj r.1 r.2) = .ok () := by
  unfold deMediaL deMedia
  dsimp only
  exact .ite (.ite (.bind fun _ => .bind fun _ => .bind fun _ => .validated id) (.bind fun _ => .validated id))
    (.ite (.ite_bind fun _ => .ite_bind fun _ => .bind fun _ => .validated id) (.bind fun _ => .validated id))

theorem deTopsL_post (S : Sels) (c : VCtx) (d : Ini) :
    Post (deTopsL S c d) fun tops =>
      (∃ uids, loopFile (fun u => (readVariant S c d (d.length + 1) false u).bind fileTop) uids [] = .ok tops)
      ∧ validateClass "treeinfo.Variants" (variantsObj tops) = .ok () := by
  unfold deTopsL
  exact .ite (.bind fun uids => .bind' fun _ hl => .validated fun h => ⟨⟨uids, hl⟩, h⟩)
    (.ite_bind fun uids => .bind' fun _ hl => .validated fun h => ⟨⟨uids, hl⟩, h⟩)

theorem fixPath_false (p : Str) : fixPath false p = p := by simp [fixPath]

theorem fixPath_relative (on : Bool) (p : Str) (h : Str.startsWith p ['/'] = false) : fixPath on p = p := by
  simp [fixPath, h]

theorem deChecksumItemsL_eq (fix : Bool) : ∀ (its : List (Str × Str)) (acc : List (Str × Str × Str)),
    (∀ kv ∈ its, fixPath fix kv.1 = kv.1) → deChecksumItemsL fix its acc = deChecksumItems its acc
  | [], _, _ => rfl
  | kv :: rest, acc, h => by
    simp only [deChecksumItemsL, deChecksumItems, h kv (List.mem_cons_self ..)]
    cases checksumOf kv.2 with
    | error e => rfl
    | ok tv => exact deChecksumItemsL_eq fix rest _ (fun x hx => h x (List.mem_cons_of_mem _ hx))

theorem deChecksumsL_eq (fix : Bool) (d : Ini) (h : ∀ its, items d sChecksums = .ok its → ∀ kv ∈ its, fixPath fix kv.1 = kv.1) :
    deChecksumsL fix d = deChecksums d := by
  unfold deChecksumsL deChecksums
  cases hi : items d sChecksums with
  | error e => rfl
  | ok its => simp only [Except.bind, deChecksumItemsL_eq fix its [] (h its hi)]

theorem foldl_fixPath (fix : Bool) : ∀ (its m : List (Str × Str)), (∀ kv ∈ its, fixPath fix kv.2 = kv.2) →
    its.foldl (fun m kv => setKV kv.1 (fixPath fix kv.2) m) m = its.foldl (fun m kv => setKV kv.1 kv.2 m) m
  | [], _, _ => rfl
  | kv :: its, m, h => by
    simp only [List.foldl_cons, h kv (List.mem_cons_self ..)]
    exact foldl_fixPath fix its _ (fun x hx => h x (List.mem_cons_of_mem _ hx))

theorem deImageSectionsL_eq (fix : Bool) (d : Ini) (arch : Str) : ∀ (ss : List Str) (acc : List (Str × List (Str × Str))),
    (∀ s ∈ ss, Str.startsWith s pImages = true → ∀ its, items d s = .ok its → ∀ kv ∈ its, fixPath fix kv.2 = kv.2) →
    deImageSectionsL fix d arch ss acc = deImageSections d arch ss acc
  | [], _, _ => rfl
  | s :: ss, acc, h => by
    have ih := fun acc => deImageSectionsL_eq fix d arch ss acc (fun x hx => h x (List.mem_cons_of_mem _ hx))
    simp only [deImageSectionsL, deImageSections]
    split
    · rename_i hs
      cases hi : items d s with
      | error e => rfl
      | ok its =>
        simp only
        rw [foldl_fixPath fix its [] (h s (List.mem_cons_self ..) hs its hi)]
        exact ih _
    · exact ih _

theorem deImagesL_eq (fix : Bool) (d : Ini) (tree : Tree)
    (h : ∀ s ∈ sections d, Str.startsWith s pImages = true → ∀ its, items d s = .ok its → ∀ kv ∈ its, fixPath fix kv.2 = kv.2) :
    deImagesL fix d tree = deImages d tree := by
  unfold deImagesL deImages
  rw [deImageSectionsL_eq fix d tree.arch _ _ h]

theorem deStage2L_eq (fix : Bool) (d : Ini) (hm : ∀ p, Ini.get d sStage2 kMainimage = .ok p → fixPath fix p = p)
    (hi : ∀ p, Ini.get d sStage2 kInstimage = .ok p → fixPath fix p = p) : deStage2L fix d = deStage2 d := by
  have e : ∀ k, (∀ p, Ini.get d sStage2 k = .ok p → fixPath fix p = p) →
      (Ini.get d sStage2 k).map (some ∘ fixPath fix) = (Ini.get d sStage2 k).map some := by
    intro k hk
    cases hg : Ini.get d sStage2 k with
    | error e => rfl
    | ok p => simp [Except.map, hk p hg]
  unfold deStage2L deStage2
  rw [e _ hm, e _ hi]

theorem deserialize_iff {fo : FloatOracle} {d : Ini} {t : TreeInfo} :
    deserialize fo d = .ok t ↔ ∃ version vt S,
      deHeaderL d = .ok version ∧ versionTuple version = .ok vt ∧ selsOf vt = .ok S ∧ t.headerVersion = currentVersion
      ∧ deReleaseL S.release d = .ok (t.release, t.isLayered)
      ∧ (if t.isLayered then (deBase d).map some else pure none) = .ok t.baseProduct ∧ deTreeL fo S.tree00 d = .ok t.tree
      ∧ deTopsL S ⟨t.release.name, t.release.short, t.release.version, t.tree.arch⟩ d = .ok t.variants
      ∧ deChecksumsL S.fixChecksums d = .ok t.checksums ∧ deImagesL S.fixImages d t.tree = .ok t.images
      ∧ deStage2L S.fixStage2 d = .ok (t.mainimage, t.instimage) ∧ deMediaL S.media00 d = .ok (t.discnum, t.totaldiscs)
      ∧ validateClass "treeinfo.TreeInfo" [] = .ok () := by
  unfold deserialize
  simp only [ite_bind_eq, bind_eq_ok, pure_eq_ok]
  constructor
  · rintro ⟨v, hv, vt, hvt, S, hS, rl, hr, bp, hb, tree, ht, tops, hto, cs, hc, im, hi, mi, hs, ab, hm, u, hu, rfl⟩
    exact ⟨v, vt, S, hv, hvt, hS, rfl, hr, hb, ht, hto, hc, hi, hs, hm, hu⟩
  · rintro ⟨v, vt, S, hv, hvt, hS, hh, hr, hb, ht, hto, hc, hi, hs, hm, hu⟩
    cases t
    cases hh
    exact ⟨v, hv, vt, hvt, S, hS, _, hr, _, hb, _, ht, _, hto, _, hc, _, hi, _, hs, _, hm, (), hu, rfl⟩

end PM.TI.Legacy

namespace PM.TI
open Ini

theorem deserialize_iff {fo : FloatOracle} {d : Ini} {x : TreeInfo} :
    deserialize fo d = .ok x ↔ ∃ v vt,
      deHeader d = .ok v ∧ versionTuple v = .ok vt ∧ x.headerVersion = currentVersion ∧ deRelease (gateOf vt) d = .ok (x.release, x.isLayered)
      ∧ (if x.isLayered then (deBase d).map some else pure none) = .ok x.baseProduct ∧ deTree fo (gateOf vt) d = .ok x.tree
      ∧ deTops (gateOf vt) d = .ok x.variants ∧ deChecksums d = .ok x.checksums ∧ deImages d x.tree = .ok x.images
      ∧ deStage2 d = .ok (x.mainimage, x.instimage) ∧ deMedia (gateOf vt) d = .ok (x.discnum, x.totaldiscs)
      ∧ validateClass "treeinfo.TreeInfo" [] = .ok () := by
  unfold deserialize
  simp only [ite_bind_eq, bind_eq_ok, pure_eq_ok]
  constructor
  · rintro ⟨v, hv, vt, hvt, rl, hr, bp, hb, tree, ht, tops, hto, cs, hc, im, hi, mi, hs, ab, hm, u, hu, rfl⟩
    exact ⟨v, vt, hv, hvt, rfl, hr, hb, ht, hto, hc, hi, hs, hm, hu⟩
  · rintro ⟨v, vt, hv, hvt, hh, hr, hb, ht, hto, hc, hi, hs, hm, hu⟩
    cases x
    cases hh
    exact ⟨v, hv, vt, hvt, _, hr, _, hb, _, ht, _, hto, _, hc, _, hi, _, hs, _, hm, (), hu, rfl⟩

theorem deRelease_gate {g : Gate} {d : Ini} {rl : Product × Bool} (h : deRelease g d = .ok rl) : g = .v1_0 := by
  cases g <;> first | rfl | cases h

theorem ne_of_pred {p : Str → Bool} {s c : Str} (hs : p s = true) (hc : p c = false) : s ≠ c :=
  fun e => Bool.noConfusion ((e ▸ hs).symm.trans hc)

section congr
variable {d d' : Ini}

theorem deRelease_congr (h : d'.lookup sRelease = d.lookup sRelease) (h0 : d'.lookup DEFAULT = d.lookup DEFAULT) :
    deRelease .v1_0 d' = deRelease .v1_0 d := by
  unfold deRelease; simp only [get_congr h h0, hasOption_congr h h0, getBoolean]

theorem deBase_congr (h : d'.lookup sBase = d.lookup sBase) (h0 : d'.lookup DEFAULT = d.lookup DEFAULT) : deBase d' = deBase d := by
  unfold deBase; simp only [get_congr h h0]

theorem deTree_congr (fo : FloatOracle) (h : d'.lookup sTree = d.lookup sTree) (hg : d'.lookup sGeneral = d.lookup sGeneral)
    (h0 : d'.lookup DEFAULT = d.lookup DEFAULT) : deTree fo .v1_0 d' = deTree fo .v1_0 d := by
  unfold deTree
  simp only [hasSection_congr h]
  split <;> simp only [get_congr h h0, get_congr hg h0]

theorem deChecksums_congr (h : d'.lookup sChecksums = d.lookup sChecksums) (h0 : d'.lookup DEFAULT = d.lookup DEFAULT) :
    deChecksums d' = deChecksums d := by
  unfold deChecksums; simp only [hasSection_congr h, items_congr h h0]

theorem deStage2_congr (h : d'.lookup sStage2 = d.lookup sStage2) (h0 : d'.lookup DEFAULT = d.lookup DEFAULT) :
    deStage2 d' = deStage2 d := by
  unfold deStage2; simp only [hasOption_congr h h0, get_congr h h0]

theorem deMedia_congr (h : d'.lookup sMedia = d.lookup sMedia) (h0 : d'.lookup DEFAULT = d.lookup DEFAULT) :
    deMedia .v1_0 d' = deMedia .v1_0 d := by
  unfold deMedia; simp only [hasSection_congr h, get_congr h h0]

theorem sections_img_of_names (h : (d'.map (·.1)).filter isImg = (d.map (·.1)).filter isImg) :
    (sections d').filter isImg = (sections d).filter isImg := by
  have e : ∀ l : List Str, (l.filter (· != DEFAULT)).filter isImg = l.filter isImg := by
    intro l
    rw [List.filter_filter]
    refine List.filter_congr fun s _ => ?_
    cases hs : isImg s
    · rfl
    · exact (Bool.true_and _).trans (bne_iff_ne.mpr (ne_of_pred hs (by decide)))
  unfold sections sortS
  rw [sortBy_filter, sortBy_filter, e, e, h]

theorem deImageSections_congr (arch : Str) (h0 : d'.lookup DEFAULT = d.lookup DEFAULT) :
    ∀ (ss : List Str) (acc : List (Str × List (Str × Str))), (∀ s ∈ ss, isImg s = true → d'.lookup s = d.lookup s) →
      deImageSections d' arch ss acc = deImageSections d arch ss acc
  | [], _, _ => rfl
  | s :: ss, acc, h => by
    have ih := fun acc => deImageSections_congr arch h0 ss acc (fun x hx => h x (List.mem_cons_of_mem _ hx))
    simp only [deImageSections]
    split
    · rename_i hs
      rw [items_congr (h s (List.mem_cons_self ..) hs) h0]
      cases items d s with
      | error e => rfl
      | ok its => exact ih _
    · exact ih _

theorem deImages_congr (tree : Tree) (h0 : d'.lookup DEFAULT = d.lookup DEFAULT)
    (h : ∀ s, isImg s = true → d'.lookup s = d.lookup s) (hn : (sections d').filter isImg = (sections d).filter isImg) :
    deImages d' tree = deImages d tree := by
  unfold deImages
  rw [deImageSections_filter d', deImageSections_filter d, hn, deImageSections_congr tree.arch h0 _ _ (fun s _ hs => h s hs)]
end congr

end PM.TI
