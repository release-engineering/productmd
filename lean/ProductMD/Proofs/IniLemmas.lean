import ProductMD.Model.Ini
import ProductMD.Proofs.Assoc
/-!
Get/set algebra of INI documents: what `get` / `has_option` / `has_section` / `items` answer given what `lookup` finds, what
`add_section` / `set` do to the document and what `setKV` / `setsKV` do to later lookups.  A document is only ever observed
through `lookup` (and `sections`).
-/
namespace PM
namespace Ini

section getters
variable {d : Ini} {s : Str} {o : IniSec}

theorem ne_default_of_lookup (h0 : d.lookup DEFAULT = none) (hs : d.lookup s = some o) : (s == DEFAULT) = false :=
  beq_eq_false_iff_ne.mpr fun e => by
    rw [e, h0] at hs
    cases hs

theorem hasOption_nosec (h0 : d.lookup DEFAULT = none) (hs : d.lookup s = none) (k : Str) : hasOption d s k = false := by
  unfold hasOption defaults
  simp [h0, hs]

theorem hasOption_sec (h0 : d.lookup DEFAULT = none) (hs : d.lookup s = some o) (h1 : s.isEmpty = false) (k : Str) :
    hasOption d s k = (o.lookup k).isSome := by
  unfold hasOption defaults
  simp [h0, hs, h1, ne_default_of_lookup h0 hs]

theorem get_sec (hs : d.lookup s = some o) {k v : Str} (hk : o.lookup k = some v) : Ini.get d s k = .ok v := by
  unfold Ini.get; simp [hs, hk]

theorem hasOption_of_lookup (hs : d.lookup s = some o) {k v : Str} (hk : o.lookup k = some v) (h1 : s.isEmpty = false)
    (h2 : (s == DEFAULT) = false) : hasOption d s k = true := by
  unfold hasOption
  simp [hs, hk, h1, h2]

theorem get_inv (h0 : d.lookup DEFAULT = none) (hs : d.lookup s = some o) {k v : Str} (h : Ini.get d s k = .ok v) :
    o.lookup k = some v := by
  unfold Ini.get defaults at h
  rw [hs, h0] at h
  cases hk : o.lookup k with
  | none => simp only [hk] at h; cases h
  | some x => simp only [hk] at h; exact congrArg some (Except.ok.inj h)

theorem get_nosec (h0 : d.lookup DEFAULT = none) (hs : d.lookup s = none) (k : Str) : Ini.get d s k = .error .parserError := by
  unfold Ini.get defaults
  rw [hs, h0]
  cases s == DEFAULT <;> rfl

theorem items_nosec (hs : d.lookup s = none) (h2 : (s == DEFAULT) = false) : items d s = .error .parserError := by
  unfold items
  simp [hs, h2]

theorem hasSection_sec (h0 : d.lookup DEFAULT = none) : hasSection d s = (d.lookup s).isSome := by
  unfold hasSection
  cases hs : d.lookup s with
  | none => exact Bool.and_false _
  | some o => rw [bne, ne_default_of_lookup h0 hs]; rfl

theorem items_sec (h0 : d.lookup DEFAULT = none) (hs : d.lookup s = some o) : items d s = .ok (sortKV o) := by
  unfold items defaults
  simp [h0, hs, ne_default_of_lookup h0 hs]

theorem optionLookup_nosec (h0 : d.lookup DEFAULT = none) (hs : d.lookup s = none) (k : Str) (rest : List (Str × Str))
    (dflt : Option Str) : optionLookup d ((s, k) :: rest) dflt = optionLookup d rest dflt := by
  simp only [optionLookup, hasOption_nosec h0 hs, Bool.false_eq_true, if_false]

end getters

section congr
variable {d d' : Ini} {s : Str}

theorem get_congr (h : d'.lookup s = d.lookup s) (h0 : d'.lookup DEFAULT = d.lookup DEFAULT) (k : Str) :
    Ini.get d' s k = Ini.get d s k := by
  unfold Ini.get defaults; rw [h, h0]

theorem hasOption_congr (h : d'.lookup s = d.lookup s) (h0 : d'.lookup DEFAULT = d.lookup DEFAULT) (k : Str) :
    hasOption d' s k = hasOption d s k := by
  unfold hasOption defaults; rw [h, h0]

theorem hasSection_congr (h : d'.lookup s = d.lookup s) : hasSection d' s = hasSection d s := by
  unfold hasSection; rw [h]

theorem items_congr (h : d'.lookup s = d.lookup s) (h0 : d'.lookup DEFAULT = d.lookup DEFAULT) : items d' s = items d s := by
  unfold items defaults; rw [h, h0]

end congr

theorem lookup_setKV {α} (k k' : Str) (v : α) (l : List (Str × α)) :
    (setKV k v l).lookup k' = if k = k' then some v else l.lookup k' := by
  induction l with
  | nil => simp [setKV, lookup_cons_eq]
  | cons x xs ih =>
    obtain ⟨xk, xv⟩ := x
    by_cases hx : xk = k
    · subst hx
      by_cases h1 : xk = k' <;> simp [setKV, lookup_cons_eq, h1]
    · have hb : (xk == k) = false := by simp [hx]
      by_cases h1 : xk = k'
      · subst h1
        have : ¬ k = xk := fun h => hx h.symm
        simp [setKV, hb, this]
      · simp [setKV, hb, lookup_cons_eq, h1, ih]

theorem mem_setKV {α} (k : Str) (v : α) : ∀ (l : List (Str × α)) (x : Str × α), x ∈ setKV k v l → x = (k, v) ∨ x ∈ l
  | [], x, h => by
    simp only [setKV, List.mem_singleton] at h
    exact Or.inl h
  | y :: ys, x, h => by
    simp only [setKV] at h
    split at h
    · rcases List.mem_cons.mp h with h | h
      · exact Or.inl h
      · exact Or.inr (List.mem_cons_of_mem _ h)
    · rcases List.mem_cons.mp h with h | h
      · exact Or.inr (h ▸ List.mem_cons_self ..)
      · exact (mem_setKV k v ys x h).imp id (List.mem_cons_of_mem _)

theorem keys_setKV_of_mem {α} (k : Str) (v : α) (l : List (Str × α)) (h : (l.lookup k).isSome) :
    (setKV k v l).map (·.1) = l.map (·.1) := by
  induction l with
  | nil => simp [List.lookup] at h
  | cons x xs ih =>
    obtain ⟨xk, xv⟩ := x
    by_cases hx : xk = k
    · subst hx; simp [setKV]
    · have hb : (xk == k) = false := by simp [hx]
      rw [lookup_cons_eq] at h
      simp only [hx, if_false] at h
      simp [setKV, hb, ih h]

theorem length_setKV_of_mem {α} (k : Str) (v : α) (l : List (Str × α)) (h : (l.lookup k).isSome) :
    (setKV k v l).length = l.length := by
  have := congrArg List.length (keys_setKV_of_mem k v l h)
  simpa using this

theorem setKV_append_of_not_mem {α} (k : Str) (v : α) (l1 l2 : List (Str × α)) (h : k ∉ l1.map (·.1)) :
    setKV k v (l1 ++ l2) = l1 ++ setKV k v l2 := by
  induction l1 with
  | nil => rfl
  | cons x xs ih =>
    simp only [List.map_cons, List.mem_cons, not_or] at h
    have hb : (x.1 == k) = false := by
      simp only [beq_eq_false_iff_ne, ne_eq]; exact fun e => h.1 e.symm
    simp [setKV, hb, ih h.2]

theorem setKV_append_fresh {α} (k : Str) (v : α) (l : List (Str × α)) (h : k ∉ l.map (·.1)) : setKV k v l = l ++ [(k, v)] := by
  have := setKV_append_of_not_mem k v l [] h
  rwa [List.append_nil] at this

theorem addSection_iff {d d' : Ini} {s : Str} :
    addSection d s = .ok d' ↔ (d.lookup s = none ∧ s ≠ DEFAULT) ∧ d' = d ++ [(s, [])] := by
  unfold addSection
  by_cases h1 : s = DEFAULT
  · rw [if_pos (beq_iff_eq.mpr h1)]
    exact ⟨fun h => (nomatch h), fun h => absurd h1 h.1.2⟩
  · rw [if_neg (fun h => h1 (beq_iff_eq.mp h))]
    cases h2 : d.lookup s with
    | some o => exact ⟨fun h => (nomatch h), fun h => (nomatch h.1.1)⟩
    | none => exact ⟨fun h => ⟨⟨rfl, h1⟩, (Except.ok.inj h).symm⟩, fun h => congrArg Except.ok h.2.symm⟩

theorem set_mid {d K : Ini} {s k v : Str} {o : IniSec} (h : d.lookup s = none) :
    Ini.set (d ++ (s, o) :: K) s k v = .ok (d ++ (s, setKV k v o) :: K) := by
  rw [Ini.set, List.lookup_append, h, lookup_cons_eq, if_pos rfl]
  show Except.ok (setKV s _ (d ++ (s, o) :: K)) = _
  rw [setKV_append_of_not_mem _ _ _ _ (Assoc.lookup_none_iff.mp h)]
  simp [setKV]

/-- the options a run of `set` calls leaves in a section -/
def setsKV (o : IniSec) (kvs : List (Str × Str)) : IniSec := kvs.foldl (fun o kv => setKV kv.1 kv.2 o) o

theorem setsKV_cons (o : IniSec) (kv : Str × Str) (rest : List (Str × Str)) :
    setsKV o (kv :: rest) = setsKV (setKV kv.1 kv.2 o) rest := rfl

theorem lookup_setsKV (kvs : List (Str × Str)) (o : IniSec) (k : Str) :
    (setsKV o kvs).lookup k = match (kvs.reverse).lookup k with | some v => some v | none => o.lookup k := by
  induction kvs generalizing o with
  | nil => simp [setsKV]
  | cons kv rest ih =>
    obtain ⟨a, b⟩ := kv
    rw [setsKV_cons, ih]
    simp only [List.reverse_cons]
    cases hr : rest.reverse.lookup k with
    | some v =>
      have : (rest.reverse ++ [(a, b)]).lookup k = some v := by
        rw [List.lookup_append]; simp [hr]
      simp [this]
    | none =>
      have : (rest.reverse ++ [(a, b)]).lookup k = if a = k then some b else none := by
        rw [List.lookup_append]
        by_cases h : a = k
        · subst h; simp [hr]
        · have h' : ¬ k = a := fun e => h e.symm
          simp [hr, h, h']
      rw [this, lookup_setKV]
      by_cases h : a = k <;> simp [h]

theorem fresh_of_nodup_append {α β} {f : α → β} {acc l : List α} {x : α} (h : ((acc ++ x :: l).map f).Nodup) :
    f x ∉ acc.map f := by
  intro hm
  rw [List.map_append, List.nodup_append] at h
  exact h.2.2 _ hm _ (List.mem_map.mpr ⟨x, List.mem_cons_self .., rfl⟩) rfl

theorem setsKV_append_nodup (o kvs : IniSec) (h : ((o ++ kvs).map (·.1)).Nodup) : setsKV o kvs = o ++ kvs := by
  induction kvs generalizing o with
  | nil => simp [setsKV]
  | cons kv rest ih =>
    rw [setsKV_cons, setKV_append_fresh _ _ _ (fresh_of_nodup_append h), ih]
    · simp
    · simpa using h

theorem setsKV_nil_nodup (kvs : IniSec) (h : (kvs.map (·.1)).Nodup) : setsKV [] kvs = kvs := by
  have := setsKV_append_nodup [] kvs (by simpa using h)
  simpa using this

end Ini
end PM
