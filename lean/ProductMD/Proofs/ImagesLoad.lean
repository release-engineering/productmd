import ProductMD.Proofs.ImagesAdd
import ProductMD.Proofs.ExceptLemmas
/-!
Invariants carried through the loops of `Images.deserialize`.  Every image enters through `add` under the document's header version, so
a property of the cells that no such `add` can destroy — accepted or refused — holds of the object a load leaves behind, whether it
returned or raised (`AddStable`, `loadsInto_inv`, `readWith_inv`).  The loops exist twice in the model.  The invariant is carried
through the loops that return the surviving object (`addPyT … loadVariantsT`; each is a recursive definition of its own, so each has
its own induction), and the `Except` loops are their successful outcome (`… = okOf …`).  The readers of the model share one skeleton
(`readWith`).
-/
namespace PM.Img
open PM PM.PyOps PM.Spec

/-- `P` (of the cells) survives every `add`, accepted or refused, of an image read under `ver` to an object whose header carries `ver` -/
def AddStable (ver : PyVal) (P : Cells → Prop) : Prop :=
  ∀ s v a id img d, Image.deserialize ver d = .ok img → s.version = ver → P s.cells → P (add s v a id img).1.cells

/-- it is enough to look at accepted adds: a refused one changes nothing -/
theorem AddStable.of_ok {ver : PyVal} {P : Cells → Prop}
    (h : ∀ (s : ImgState) v a id img d, Image.deserialize ver d = .ok img → s.version = ver → P s.cells → C10.Admissible a →
      (Enforces ver → conflict s.cells img = false) → P (cellsAdd s.cells v a id img)) :
    AddStable ver P := by
  intro s v a id img d hd hs hp
  rcases add_state s v a id img with ⟨h', _⟩ | ⟨h', ha, hc⟩
  · rw [h']
    exact hp
  · rw [h']
    exact h s v a id img d hd hs hp ha (hs ▸ hc)

/-- what the loops keep of the object `s0` they start from: header and compose section, and `P` of the cells -/
structure LoadInv (s0 : ImgState) (P : Cells → Prop) (s : ImgState) : Prop where
  version : s.version = s0.version
  compose : s.compose = s0.compose
  cells : P s.cells

section
variable {s0 : ImgState} {P : Cells → Prop}

theorem addPyT_inv (hP : AddStable s0.version P) {s : ImgState} (variant arch : PyVal) (id : Nat) {img : Image} {d : PyVal}
    (hd : Image.deserialize s0.version d = .ok img) (hi : LoadInv s0 P s) : LoadInv s0 P (addPyT s variant arch id img).1 := by
  unfold addPyT
  split
  · split
    · exact ⟨(add_frame s _ _ id img).1.trans hi.version, (add_frame s _ _ id img).2.trans hi.compose,
        hP s _ _ id img d hd hi.version hi.cells⟩
    · exact hi
  · exact hi

theorem refileT_inv (hP : AddStable s0.version P) (variant : PyVal) (id : Nat) {img : Image} {d : PyVal}
    (hd : Image.deserialize s0.version d = .ok img) :
    ∀ (l : List PyVal) (s : ImgState), LoadInv s0 P s → LoadInv s0 P (refileT s variant id img l).1
  | [], _, hi => hi
  | va :: rest, s, hi => by
    unfold refileT
    split
    · exact refileT_inv hP variant id hd rest s hi
    · have h1 := addPyT_inv hP variant va id hd hi
      -- a step that raised ends the loop with the object it leaves; after one that returned the loop goes on from that object
      generalize addPyT s variant va id img = r at h1 ⊢
      obtain ⟨acc', _ | ⟨⟨⟩⟩⟩ := r
      · exact h1
      · exact refileT_inv hP variant id hd rest _ h1

theorem fileLoadedT_inv (hP : AddStable s0.version P) (old : Bool) (s : ImgState) (images variant arch : PyVal) (n : Nat) {img : Image}
    {d : PyVal} (hd : Image.deserialize s0.version d = .ok img) (hi : LoadInv s0 P s) :
    LoadInv s0 P (fileLoadedT old s images variant arch n img).1 := by
  unfold fileLoadedT
  split
  · split
    · split
      · exact refileT_inv hP variant n hd _ s hi
      · exact hi
    · exact addPyT_inv hP variant arch n hd hi
  · exact addPyT_inv hP variant arch n hd hi

theorem readLoaded_ok (ver d : PyVal) : Post (readLoaded ver d) fun r => Image.deserialize ver d = .ok r.1 := by
  unfold readLoaded
  exact .bind' fun _ h1 => .bind fun _ => .bind fun _ => .pure h1

theorem loadCellT_inv (hP : AddStable s0.version P) (images variant arch : PyVal) :
    ∀ (l : List PyVal) (acc : ImgState × Nat), LoadInv s0 P acc.1 → LoadInv s0 P (loadCellT s0.version images variant arch l acc).1.1
  | [], _, hi => hi
  | d :: rest, (s, n), hi => by
    unfold loadCellT
    split
    · exact hi
    · rename_i img old hrd
      have h1 := fileLoadedT_inv hP old s images variant arch n ((readLoaded_ok _ _).elim hrd) hi
      generalize fileLoadedT old s images variant arch n img = r at h1 ⊢
      obtain ⟨acc', _ | ⟨⟨⟩⟩⟩ := r
      · exact h1
      · exact loadCellT_inv hP images variant arch rest _ h1

theorem loadArchesT_inv (hP : AddStable s0.version P) (images variant archs : PyVal) :
    ∀ (l : List PyVal) (acc : ImgState × Nat), LoadInv s0 P acc.1 → LoadInv s0 P (loadArchesT s0.version images variant archs l acc).1.1
  | [], _, hi => hi
  | a :: rest, acc, hi => by
    unfold loadArchesT
    split
    · exact hi
    · rename_i cell _
      have h1 := loadCellT_inv hP images variant a cell acc hi
      generalize loadCellT s0.version images variant a cell acc = r at h1 ⊢
      obtain ⟨acc', _ | ⟨⟨⟩⟩⟩ := r
      · exact h1
      · exact loadArchesT_inv hP images variant archs rest _ h1

theorem loadVariantsT_inv (hP : AddStable s0.version P) (images : PyVal) :
    ∀ (l : List PyVal) (acc : ImgState × Nat), LoadInv s0 P acc.1 → LoadInv s0 P (loadVariantsT s0.version images l acc).1.1
  | [], _, hi => hi
  | v :: rest, acc, hi => by
    unfold loadVariantsT
    split
    · exact hi
    · rename_i archs keys _
      have h1 := loadArchesT_inv hP images v archs keys acc hi
      generalize loadArchesT s0.version images v archs keys acc = r at h1 ⊢
      obtain ⟨acc', _ | ⟨⟨⟩⟩⟩ := r
      · exact h1
      · exact loadVariantsT_inv hP images rest _ h1

end

theorem addPy_okOf (s : ImgState) (variant arch : PyVal) (id : Nat) (img : Image) :
    addPy s variant arch id img = okOf (addPyT s variant arch id img) := by
  unfold addPy addPyT
  split
  · split
    · rcases add s _ _ id img with ⟨s', _ | ⟨⟨⟩⟩⟩ <;> rfl
    · split <;> rfl
  · rfl

theorem refile_okOf (variant : PyVal) (id : Nat) (img : Image) :
    ∀ (l : List PyVal) (s : ImgState), refile s variant id img l = okOf (refileT s variant id img l)
  | [], _ => rfl
  | va :: rest, s => by
    unfold refile refileT
    split
    · exact refile_okOf variant id img rest s
    · rw [addPy_okOf]
      rcases addPyT s variant va id img with ⟨s', _ | ⟨⟨⟩⟩⟩
      · rfl
      · exact refile_okOf variant id img rest s'

theorem fileLoaded_okOf (old : Bool) (s : ImgState) (images variant arch : PyVal) (n : Nat) (img : Image) :
    fileLoaded old s images variant arch n img = okOf (fileLoadedT old s images variant arch n img) := by
  unfold fileLoaded fileLoadedT
  split
  · split
    · cases (subscript images variant).bind iter with
      | error e => rfl
      | ok archs => exact refile_okOf variant n img archs s
    · exact addPy_okOf ..
  · exact addPy_okOf ..

theorem loadCell_okOf (ver images variant arch : PyVal) :
    ∀ (l : List PyVal) (acc : ImgState × Nat), loadCell ver images variant arch l acc = okOf (loadCellT ver images variant arch l acc)
  | [], _ => rfl
  | d :: rest, (s, n) => by
    unfold loadCell loadCellT readLoaded
    cases Image.deserialize ver d with
    | error e => rfl
    | ok img =>
      simp only [ok_bind]
      cases versionTuple ver with
      | error e => rfl
      | ok vt =>
        simp only [ok_bind]
        cases gateEval Gen.gate_images_Images_deserialize_0 vt with
        | error e => rfl
        | ok old =>
          simp only [ok_bind, fileLoaded_okOf]
          rcases fileLoadedT old s images variant arch n img with ⟨s', _ | ⟨⟨⟩⟩⟩
          · rfl
          · exact loadCell_okOf ver images variant arch rest (s', n + 1)

theorem loadArches_okOf (ver images variant archs : PyVal) :
    ∀ (l : List PyVal) (acc : ImgState × Nat), loadArches ver images variant archs l acc = okOf (loadArchesT ver images variant archs l acc)
  | [], _ => rfl
  | a :: rest, acc => by
    unfold loadArches loadArchesT
    cases (subscript archs a).bind iter with
    | error e => rfl
    | ok cell =>
      simp only [ok_bind, loadCell_okOf]
      rcases loadCellT ver images variant a cell acc with ⟨acc', _ | ⟨⟨⟩⟩⟩
      · rfl
      · exact loadArches_okOf ver images variant archs rest acc'

theorem loadVariants_okOf (ver images : PyVal) :
    ∀ (l : List PyVal) (acc : ImgState × Nat), loadVariants ver images l acc = okOf (loadVariantsT ver images l acc)
  | [], _ => rfl
  | v :: rest, acc => by
    unfold loadVariants loadVariantsT
    cases subscript images v with
    | error e => rfl
    | ok archs =>
      simp only [ok_bind, ok_bind']
      cases iter archs with
      | error e => rfl
      | ok keys =>
        simp only [ok_bind, loadArches_okOf, Except.map]
        rcases loadArchesT ver images v archs keys acc with ⟨acc', _ | ⟨⟨⟩⟩⟩
        · rfl
        · exact loadVariants_okOf ver images rest acc'

theorem loadVariants_inv {s0 : ImgState} {P : Cells → Prop} (hP : AddStable s0.version P) (images : PyVal) (l : List PyVal) (n : Nat)
    (r : ImgState × Nat) (h0 : P s0.cells) (h : loadVariants s0.version images l (s0, n) = .ok r) : LoadInv s0 P r.1 := by
  have := loadVariantsT_inv hP images l (s0, n) ⟨rfl, rfl, h0⟩
  rwa [okOf_ok ((loadVariants_okOf s0.version images l (s0, n)).symm.trans h)] at this

/-- the readers of the model (`deserialize`, `deserializeInto`, the legacy-aware `deserializeL`) differ in the reader of the compose
section and in the cells and the object counter they start from; each is an instance of `readWith` by `rfl` -/
def readWith (compR : PyVal → PyVal → Except Err Compose) (cells0 : Cells) (n0 : Nat) (doc : PyVal) : Except Err ImgState := do
  let ver ← headerDeserialize doc
  let payload ← item doc (L "payload")
  let comp ← compR ver payload
  let images ← item payload (L "images")
  let vs ← iter images
  let (s, _) ← loadVariants ver images vs ({ version := ver, compose := comp, cells := cells0 }, n0)
  .ok { s with version := .str currentVersion }

theorem deserialize_eq_readWith (doc : PyVal) : deserialize doc = readWith Compose.deserialize [] 0 doc := rfl

theorem deserializeInto_eq_readWith (s0 : ImgState) (n0 : Nat) (doc : PyVal) :
    deserializeInto s0 n0 doc = readWith Compose.deserialize s0.cells n0 doc := rfl

theorem deserialize_eq_into (doc : PyVal) : deserialize doc = deserializeInto {} 0 doc := rfl

theorem readWith_ok {compR : PyVal → PyVal → Except Err Compose} {cells0 : Cells} {n0 : Nat} {doc : PyVal} {s : ImgState}
    (h : readWith compR cells0 n0 doc = .ok s) :
    ∃ ver payload comp images vs r, headerDeserialize doc = .ok ver ∧ item doc (L "payload") = .ok payload
      ∧ compR ver payload = .ok comp ∧ item payload (L "images") = .ok images ∧ iter images = .ok vs
      ∧ loadVariants ver images vs ({ version := ver, compose := comp, cells := cells0 }, n0) = .ok r
      ∧ s = { r.1 with version := .str currentVersion } := by
  unfold readWith at h
  obtain ⟨ver, h1, h⟩ := bind_ok h
  obtain ⟨payload, h2, h⟩ := bind_ok h
  obtain ⟨comp, h3, h⟩ := bind_ok h
  obtain ⟨images, h4, h⟩ := bind_ok h
  obtain ⟨vs, h5, h⟩ := bind_ok h
  obtain ⟨r, h6, h⟩ := bind_ok h
  injection h with h
  exact ⟨ver, payload, comp, images, vs, r, h1, h2, h3, h4, h5, h6, h.symm⟩

theorem readWith_inv {compR : PyVal → PyVal → Except Err Compose} {cells0 : Cells} {n0 : Nat} {doc : PyVal} {s : ImgState}
    {P : Cells → Prop} (hP : ∀ ver, headerDeserialize doc = .ok ver → AddStable ver P) (h0 : P cells0)
    (h : readWith compR cells0 n0 doc = .ok s) : P s.cells := by
  obtain ⟨ver, _, comp, images, vs, r, hver, _, _, _, _, h6, rfl⟩ := readWith_ok h
  exact (loadVariants_inv (s0 := { version := ver, compose := comp, cells := cells0 }) (hP ver hver) images vs n0 r h0 h6).cells

theorem headerDeserialize_reads (doc : PyVal) :
    Post (headerDeserialize doc) fun w => (item doc (L "header")).bind (fun hdr => item hdr (L "version")) = .ok w := by
  unfold headerDeserialize
  refine .bind' fun hdr h1 => .bind' fun w h2 => .bind fun _ => .bind fun _ => ?_
  have leaf : (item doc (L "header")).bind (fun hdr => item hdr (L "version")) = .ok w := by rw [h1, Except.bind, h2]
  dsimp only
  -- the type check (from 1.1 on) raises or falls through to the last two statements
  exact .ite (.bind fun _ => .ite (.bind fun _ => .validated_ok fun _ => leaf) (.validated_ok fun _ => leaf))
    (.validated_ok fun _ => leaf)

theorem headerDeserializeInto_iff {v0 doc ver : PyVal} :
    headerDeserializeInto v0 doc = (ver, .ok ()) ↔ headerDeserialize doc = .ok ver := by
  unfold headerDeserializeInto
  constructor
  · intro h
    split at h
    · cases (Prod.mk.inj h).2
    · rename_i ver' hv
      obtain ⟨rfl, h2⟩ := Prod.mk.inj h
      cases hd : headerDeserialize doc with
      | error e => rw [hd] at h2; cases h2
      | ok w => rw [Except.ok.inj (hv.symm.trans ((headerDeserialize_reads _).elim hd))]
  · intro h
    rw [(headerDeserialize_reads _).elim h, h]
    rfl

/-- **total load**: `P` holds of the cells `loads` leaves behind, whether it returned or raised, and wherever it raised -/
theorem loadsInto_inv (doc : PyVal) (s0 : ImgState) (n0 : Nat) {P : Cells → Prop}
    (hP : ∀ ver, headerDeserialize doc = .ok ver → AddStable ver P) (h0 : P s0.cells) : P (loadsInto s0 n0 doc).1.cells := by
  unfold loadsInto
  -- the exits in front of the loops (header, `payload`, compose section, `images`) leave the cells as they were
  split
  · exact h0
  · rename_i ver hh
    have hver := headerDeserializeInto_iff.mp hh
    simp only
    split
    · exact h0
    · split
      · exact h0
      · split
        · exact h0
        · rename_i c _ _ images vs _
          -- the loops ran, under the document's version; raised or returned, the cells are those they leave
          have := loadVariantsT_inv (s0 := { version := ver, compose := c, cells := s0.cells }) (hP ver hver) images vs (_, n0)
            ⟨rfl, rfl, h0⟩
          generalize loadVariantsT ver images vs (_, n0) = r at this ⊢
          obtain ⟨acc, _ | ⟨⟨⟩⟩⟩ := r
          · exact this.cells
          · exact this.cells

end PM.Img
