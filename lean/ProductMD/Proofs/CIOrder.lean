import ProductMD.Proofs.CIValid
import ProductMD.Proofs.JsonRoundTrip
import ProductMD.Proofs.RulesJEq
/-!
C01/C08: the composeinfo reader does not depend on the order of the entries of any dict of the document it is given.

`JEq a b` (Proofs/JEq): the same content up to the order of the entries of every dict.  Every reader below the top-level
container reaches into the document by key only (`JEq.get?`), so it returns the same result on two documents of the same
content, error branches included.  The one place that iterates a dict is `Variants.deserialize` (the set of child UIDs and
the list of top-level UIDs): both are used as sets / sorted, so on a document the reader accepts the result is the same;
only which error is reported first can depend on the order.  The key-sorted document `PyVal.canon doc` (what `json.load`
returns for the written text) is of the same content as `doc` when `jsonRep doc`, in particular no dict binds a key twice
(`Img.jeq_canon`).
-/
namespace PM.CI
open PM PM.Mf PM.JsonParse

theorem asStr_jeq {a b : PyVal} (h : JEq a b) : asStr a = asStr b := by cases h <;> rfl
theorem asInt_jeq {a b : PyVal} (h : JEq a b) : asInt a = asInt b := by cases h <;> rfl
theorem lowerVal_jeq {a b : PyVal} (h : JEq a b) : lowerVal a = lowerVal b := by cases h <;> rfl

theorem orNone_jeq {a b : PyVal} (h : JEq a b) : JEq (orNone a) (orNone b) := by
  unfold orNone
  rw [h.truthy_eq]
  split
  · exact h
  · exact .refl _

theorem asStr'_jeqL : ∀ {xs ys : List PyVal}, JEqL xs ys → xs.map asStr' = ys.map asStr'
  | _, _, .nil => rfl
  | _, _, .cons hx t => by
    simp only [List.map_cons, asStr'_jeqL t]
    cases hx <;> rfl

theorem asStrList_jeq {a b : PyVal} (h : JEq a b) : asStrList a = asStrList b := by
  cases h with
  | refl => rfl
  | dict _ _ => rfl
  | list hl => simp only [asStrList, asStr'_jeqL hl]

/-- Stated with the readers' own `match`, so that it applies to their bodies as they stand. -/
theorem sub_jeq_bind {β} {v v' : PyVal} (h : JEq v v') (k : Str) (f g : PyVal → Except Err β)
    (hfg : ∀ x x', JEq x x' → f x = g x') :
    ((match sub v k with | .error e => .error e | .ok x => f x) : Except Err β)
      = (match sub v' k with | .error e => .error e | .ok x => g x) := by
  have hg := h.get? k
  cases h with
  | refl =>
    cases sub v k with
    | error e => rfl
    | ok x => exact hfg x x (.refl x)
  | list _ => rfl
  | dict hd hn =>
    unfold sub
    revert hg
    cases PyVal.get? (.dict _) k <;> cases PyVal.get? (.dict _) k <;> intro hg
    · rfl
    · exact hg.elim
    · exact hg.elim
    · exact hfg _ _ hg

theorem getD_jeq_bind {β} {v v' : PyVal} (h : JEq v v') (k : Str) (d : PyVal) (f g : PyVal → Except Err β)
    (hfg : ∀ x x', JEq x x' → f x = g x') :
    ((match getD v k d with | .error e => .error e | .ok x => f x) : Except Err β)
      = (match getD v' k d with | .error e => .error e | .ok x => g x) := by
  have hg := (h.get? k).getD d
  cases h with
  | refl =>
    cases getD v k d with
    | error e => rfl
    | ok x => exact hfg x x (.refl x)
  | list _ => rfl
  | dict hd hn => exact hfg _ _ hg

theorem sub_jeq_ok {v v' : PyVal} (h : JEq v v') {k : Str} {x : PyVal} (hs : sub v k = .ok x) :
    ∃ x', sub v' k = .ok x' ∧ JEq x x' := by
  have hg := h.get? k
  cases h with
  | refl => exact ⟨x, hs, .refl x⟩
  | list _ => cases hs
  | dict hd hn =>
    unfold sub at hs ⊢
    revert hs hg
    cases PyVal.get? (.dict _) k <;> cases PyVal.get? (.dict _) k <;> intro hs hg
    · cases hs
    · exact hg.elim
    · exact hg.elim
    · cases hs
      exact ⟨_, rfl, hg⟩

theorem objEq_cons (k : Str) {a b : PyVal} (h : JEq a b) {o o' : Obj} (t : ObjEq o o') : ObjEq ((k, a) :: o) ((k, b) :: o') :=
  .cons ⟨rfl, h⟩ t

theorem objEq_sim {o o' : Obj} (h : ObjEq o o') (f : Str) : VSim (o.get f) (o'.get f) := .of_jeq (h.get f)

theorem verifyLabel_sim {a b : PyVal} (h : VSim a b) : verifyLabel a = verifyLabel b := by
  rcases h.elim with rfl | ⟨ha, hb⟩
  · rfl
  · -- neither is a string, and `None` or not is the same for both: `verifyLabel` asks nothing else
    have hnone := h.inst .none
    cases a <;> cases b <;> simp_all [verifyLabel, PyVal.isinstance]

/-- the classes the composeinfo reader validates that have no hand-bound rule (evaluated together: the class names are string
literals); `composeinfo.Compose` has one, `verifyLabel` -/
structure NoCustoms : Prop where
  header : classCustoms "common.Header" = []
  release : classCustoms "composeinfo.Release" = []
  base : classCustoms "composeinfo.BaseProduct" = []

theorem no_customs : NoCustoms := by
  suffices h : _ ∧ _ ∧ _ from ⟨h.1, h.2.1, h.2.2⟩
  decide +kernel

theorem validateClass_sim_of_no_customs {cls : String} (hc : classCustoms cls = []) {o o' : Obj}
    (h : ∀ f, VSim (o.get f) (o'.get f)) : validateClass cls o = validateClass cls o' :=
  validateClass_sim cls (fun f _ => h f) (by rw [hc]; exact fun _ hn => nomatch hn)

theorem validate_compose_sim {o o' : Obj} (h : ∀ f, VSim (o.get f) (o'.get f)) :
    validateClass "composeinfo.Compose" o = validateClass "composeinfo.Compose" o' := by
  rw [Mf.validateCompose_eq, Mf.validateCompose_eq]
  refine runRules_sim customs _ (fun _ _ f _ => h f) fun r hr n hn => ?_
  rw [Mf.compose_customNames hr hn, Mf.customs_label, Mf.customs_label]
  exact verifyLabel_sim (h _)

theorem headerTypeCheck_jeq (ver : Nat × Nat) {h h' : PyVal} (hj : JEq h h') : headerTypeCheck ver h = headerTypeCheck ver h' := by
  unfold headerTypeCheck
  split
  · refine sub_jeq_bind hj _ _ _ fun t t' ht => ?_
    rw [ht.pyEq_left]
  · rfl

theorem headerDe_jeq {doc doc' : PyVal} (hj : JEq doc doc') : headerDe doc = headerDe doc' := by
  unfold headerDe
  refine sub_jeq_bind hj _ _ _ fun h h' hh => ?_
  refine sub_jeq_bind hh _ _ _ fun v v' hv => ?_
  rw [validateClass_sim_of_no_customs no_customs.header (o := headerObj v) (o' := headerObj v')
    (objEq_sim (objEq_cons _ hv (ObjEq.refl []))), asStr_jeq hv]
  simp only [headerTypeCheck_jeq _ hh]

theorem composeDe_jeq (ver : Nat × Nat) {p p' : PyVal} (hj : JEq p p') : composeDe ver p = composeDe ver p' := by
  unfold composeDe
  split
  · rfl
  refine sub_jeq_bind hj _ _ _ fun s s' hs => ?_
  refine sub_jeq_bind hs _ _ _ fun id id' hid => ?_
  refine getD_jeq_bind hs _ _ _ _ fun lab0 lab0' hlab => ?_
  refine sub_jeq_bind hs _ _ _ fun type type' htype => ?_
  refine sub_jeq_bind hs _ _ _ fun date date' hdate => ?_
  refine sub_jeq_bind hs _ _ _ fun respin respin' hrespin => ?_
  refine getD_jeq_bind hs _ _ _ _ fun fin0 fin0' hfin => ?_
  have hl := orNone_jeq hlab
  dsimp only
  generalize orNone lab0 = l at hl ⊢
  generalize orNone lab0' = l' at hl ⊢
  rw [hfin.truthy_eq, asStr_jeq hid, asStr_jeq htype, asStr_jeq hdate, asInt_jeq hrespin,
    validate_compose_sim (objEq_sim (objEq_cons _ hid (objEq_cons _ htype (objEq_cons _ hdate (objEq_cons _ hrespin
      (objEq_cons _ hl (ObjEq.refl _)))))))]
  cases hl <;> rfl

theorem releaseDe_jeq (ver : Nat × Nat) {a b : PyVal} (hj : JEq a b) : releaseDe ver a = releaseDe ver b := by
  unfold releaseDe
  split
  · rfl
  refine sub_jeq_bind hj _ _ _ fun s s' hs => ?_
  refine sub_jeq_bind hs _ _ _ fun name name' hn => ?_
  refine sub_jeq_bind hs _ _ _ fun version version' hv => ?_
  refine sub_jeq_bind hs _ _ _ fun short short' hsh => ?_
  refine getD_jeq_bind hs _ _ _ _ fun type0 type0' ht => ?_
  rw [lowerVal_jeq ht]
  cases lowerVal type0' with
  | error e => rfl
  | ok type =>
    dsimp only
    refine getD_jeq_bind hs _ _ _ _ fun lay lay' hl => ?_
    refine getD_jeq_bind hs _ _ _ _ fun int int' hi => ?_
    rw [hl.truthy_eq, hi.truthy_eq, asStr_jeq hn, asStr_jeq hsh, asStr_jeq hv,
      validateClass_sim_of_no_customs no_customs.release
        (objEq_sim (objEq_cons _ hn (objEq_cons _ hsh (objEq_cons _ hv (ObjEq.refl _)))))]

theorem baseDe_jeq {p p' : PyVal} (hj : JEq p p') : baseDe p = baseDe p' := by
  unfold baseDe
  refine sub_jeq_bind hj _ _ _ fun s s' hs => ?_
  refine sub_jeq_bind hs _ _ _ fun name name' hn => ?_
  refine sub_jeq_bind hs _ _ _ fun version version' hv => ?_
  refine sub_jeq_bind hs _ _ _ fun short short' hsh => ?_
  refine getD_jeq_bind hs _ _ _ _ fun type type' ht => ?_
  rw [asStr_jeq hn, asStr_jeq hsh, asStr_jeq hv, asStr_jeq ht,
    validateClass_sim_of_no_customs no_customs.base
      (objEq_sim (objEq_cons _ hn (objEq_cons _ hsh (objEq_cons _ hv (objEq_cons _ ht (ObjEq.refl []))))))]

theorem baseDeIf_jeq (b : Bool) {p p' : PyVal} (hj : JEq p p') : baseDeIf b p = baseDeIf b p' := by
  unfold baseDeIf
  rw [baseDe_jeq hj]

theorem cellDe_jeq {t t' : PyVal} (hj : JEq t t') (a : Str) : cellDe t a = cellDe t' a := by
  have hg := hj.get? a
  cases hj with
  | refl => rfl
  | list _ => rfl
  | dict hd hn =>
    unfold cellDe
    revert hg
    cases PyVal.get? (.dict _) a <;> cases PyVal.get? (.dict _) a <;> intro hg
    · rfl
    · exact hg.elim
    · exact hg.elim
    · dsimp only
      rw [JEq.truthy_eq hg]
      split
      · rfl
      · cases hg <;> rfl

theorem pathsDe_jeq (A : List Str) {p p' : PyVal} (hj : JEq p p') : pathsDe A p = pathsDe A p' := by
  have hg := fun cat => (hj.get? cat).getD (.dict [])
  cases hj with
  | refl => rfl
  | list _ => rfl
  | dict hd hn =>
    unfold pathsDe archTableDe
    simp only [fun cat => List.map_congr_left (l := A) fun a _ => cellDe_jeq (hg cat) a]

theorem kidIdsOf_jeq (ver : Nat × Nat) {d d' : PyVal} (hj : JEq d d') : kidIdsOf ver d = kidIdsOf ver d' := by
  have hg := hj.get? k%"variants"
  unfold kidIdsOf
  revert hg
  cases d.get? k%"variants" <;> cases d'.get? k%"variants" <;> intro hg
  · rfl
  · exact hg.elim
  · exact hg.elim
  · simp only [asStrList_jeq hg]

theorem variantReleaseDe_jeq (ver : Nat × Nat) {t t' d d' : PyVal} (ht : JEq t t') (hd : JEq d d') :
    variantReleaseDe ver t d = variantReleaseDe ver t' d' := by
  unfold variantReleaseDe
  rw [ht.pyEq_left, releaseDe_jeq ver hd]

theorem build_jeq (ver : Nat × Nat) {full full' : PyVal} (hj : JEq full full') :
    ∀ (fuel : Nat) (ctx : Ctx) (u : Str), Variant.build ver full fuel ctx u = Variant.build ver full' fuel ctx u
  | 0, _, _ => rfl
  | fuel + 1, ctx, u => by
    unfold Variant.build
    refine sub_jeq_bind hj _ _ _ fun data data' hd => ?_
    refine sub_jeq_bind hd _ _ _ fun id0 id0' hid => ?_
    refine sub_jeq_bind hd _ _ _ fun uid0 uid0' huid => ?_
    refine sub_jeq_bind hd _ _ _ fun name0 name0' hname => ?_
    refine sub_jeq_bind hd _ _ _ fun type0 type0' htype => ?_
    refine sub_jeq_bind hd _ _ _ fun arches0 arches0' harch => ?_
    rw [asStrList_jeq harch, variantReleaseDe_jeq ver htype hd]
    cases asStrList arches0' with
    | error e => rfl
    | ok archesL =>
      dsimp only
      cases variantReleaseDe ver type0' data' with
      | error e => rfl
      | ok rel =>
        dsimp only
        refine sub_jeq_bind hd _ _ _ fun paths0 paths0' hpaths => ?_
        rw [pathsDe_jeq _ hpaths, asStr_jeq huid, kidIdsOf_jeq ver hd, asStr_jeq hid, asStr_jeq hname, asStr_jeq htype]
        simp only [build_jeq ver hj fuel]

theorem refsOfVal_jeq {v v' : PyVal} (hj : JEq v v') : refsOfVal v = refsOfVal v' := by
  unfold refsOfVal
  refine getD_jeq_bind hj _ _ _ _ fun kv kv' hkv => ?_
  rw [asStrList_jeq hkv]
  cases asStrList kv' with
  | error e => rfl
  | ok ids =>
    cases ids with
    | nil => rfl
    | cons i is =>
      dsimp only
      refine sub_jeq_bind hj _ _ _ fun u u' hu => ?_
      rw [asStr_jeq hu]

theorem childUids_cons {k : Str} {v : PyVal} {l : List (Str × PyVal)} {cs : List Str} :
    childUids ((k, v) :: l) = .ok cs ↔ ∃ r rs, refsOfVal v = .ok r ∧ childUids l = .ok rs ∧ cs = r ++ rs := by
  simp only [childUids]
  cases refsOfVal v with
  | error e => simp
  | ok r => cases childUids l <;> simp [eq_comm]

/-- only for a scan that succeeds, and only the same set: which error comes first, and the order of the UIDs found, depend on
the order of the entries -/
theorem childUids_jeqD : ∀ {l l' : List (Str × PyVal)}, JEqD l l' → ∀ {cs : List Str}, childUids l = .ok cs →
    ∃ cs', childUids l' = .ok cs' ∧ ∀ x, x ∈ cs' ↔ x ∈ cs
  | _, _, .nil, cs, h => ⟨cs, h, fun _ => Iff.rfl⟩
  | _, _, .cons k hvw t, cs, h => by
    obtain ⟨r, rs, hr, hrs, rfl⟩ := childUids_cons.mp h
    obtain ⟨rs', hrs', hm⟩ := childUids_jeqD t hrs
    exact ⟨r ++ rs', childUids_cons.mpr ⟨r, rs', refsOfVal_jeq hvw ▸ hr, hrs', rfl⟩, fun x => by simp [hm x]⟩
  | _, _, .swap a b l, cs, h => by
    obtain ⟨ra, _, hra, h', rfl⟩ := childUids_cons.mp h
    obtain ⟨rb, r, hrb, hr, rfl⟩ := childUids_cons.mp h'
    exact ⟨rb ++ (ra ++ r), childUids_cons.mpr ⟨rb, _, hrb, childUids_cons.mpr ⟨ra, r, hra, hr, rfl⟩, rfl⟩,
      fun x => by simp [or_left_comm]⟩
  | _, _, .trans h1 h2, cs, h => by
    obtain ⟨c1, hc1, m1⟩ := childUids_jeqD h1 h
    obtain ⟨c2, hc2, m2⟩ := childUids_jeqD h2 hc1
    exact ⟨c2, hc2, fun x => (m2 x).trans (m1 x)⟩

theorem variantsDe_jeq (ver : Nat × Nat) {p p' : PyVal} (hj : JEq p p') (vs : List Variant)
    (h : variantsDe ver p = .ok vs) : variantsDe ver p' = .ok vs := by
  unfold variantsDe at h ⊢
  cases hf : sub p k%"variants" with
  | error e => rw [hf] at h; cases h
  | ok full =>
    obtain ⟨full', hf', hfj⟩ := sub_jeq_ok hj hf
    rw [hf] at h
    rw [hf']
    cases hfj with
    | refl => exact h
    | list _ => exact h
    | @dict e e' hd hn =>
      dsimp only at h ⊢
      split at h
      · cases h
      · rename_i hv
        split at h
        · cases h
        · rename_i cs hcs
          obtain ⟨cs', hcs', hsame⟩ := childUids_jeqD hd hcs
          have htops : Str.sortDedup ((e'.map (·.1)).filter fun u => !cs'.contains u)
              = Str.sortDedup ((e.map (·.1)).filter fun u => !cs.contains u) := by
            apply sortDedup_congr
            intro x
            simp only [List.mem_filter, hd.keys_perm.symm.mem_iff, Bool.not_eq_true', ← Bool.not_eq_true, List.contains_iff_mem, hsame x]
          have hlen : e'.length = e.length := by
            simpa only [List.length_map] using hd.keys_perm.length_eq.symm
          simp only [hv, hcs', htops, hlen, ← build_jeq ver (.dict hd hn)]
          exact h

theorem deserialize_jeq {doc doc' : PyVal} (hj : JEq doc doc') (ci : ComposeInfo)
    (h : deserialize doc = .ok ci) : deserialize doc' = .ok ci := by
  obtain ⟨ver, payload, hh, hp, hc, hr, hb, hv⟩ := deserialize_iff.mp h
  obtain ⟨payload', hp', hpj⟩ := sub_jeq_ok hj hp
  exact deserialize_iff.mpr ⟨ver, payload', headerDe_jeq hj ▸ hh, hp', composeDe_jeq ver hpj ▸ hc, releaseDe_jeq ver hpj ▸ hr,
    baseDeIf_jeq _ hpj ▸ hb, variantsDe_jeq ver hpj _ hv⟩

theorem loadsDoc_jeq {doc doc' : PyVal} (hj : JEq doc doc') (ci : ComposeInfo)
    (h : loadsDoc doc = .ok ci) : loadsDoc doc' = .ok ci := by
  unfold loadsDoc at h ⊢
  cases hd : deserialize doc with
  | error e => rw [hd] at h; cases h
  | ok c =>
    rw [hd] at h
    rw [deserialize_jeq hj c hd]
    exact h

/-! The lookups and the validators at the key-sorted document itself.  `deserialize_jeq` does not go through them: for it the
key-sorted document is one document of the same content among others. -/

theorem canon_str (s : Str) : PyVal.canon (.str s) = .str s := rfl

theorem jsonRep_get {v : PyVal} {k : Str} {x : PyVal} (hr : jsonRep v = true) (h : v.get? k = some x) : jsonRep x = true := by
  cases v with
  | dict kvs =>
    simp only [jsonRep] at hr
    rw [get?_dict] at h
    exact jsonRep_of_lookup kvs k x hr h
  | _ => simp [PyVal.get?] at h

theorem canon_isDict (v : PyVal) : (∃ l, v = .dict l) → ∃ l', PyVal.canon v = .dict l' := by
  rintro ⟨l, rfl⟩; exact ⟨_, rfl⟩

theorem sub_canon {v : PyVal} {k : Str} {x : PyVal} (hr : jsonRep v = true) (h : sub v k = .ok x) :
    sub (PyVal.canon v) k = .ok (PyVal.canon x) := by
  cases v with
  | dict l =>
    have hg := get?_canon (.dict l) k hr
    unfold sub at h ⊢
    simp only [PyVal.canon] at hg ⊢
    rw [hg]
    cases hl : PyVal.get? (.dict l) k with
    | none => rw [hl] at h; cases h
    | some y => rw [hl] at h; cases h; rfl
  | _ => cases h

theorem getD_ok {v : PyVal} {k : Str} {d x : PyVal} (h : getD v k d = .ok x) : (∃ l, v = .dict l) ∧ x = (v.get? k).getD d := by
  unfold getD at h
  cases v with
  | dict l => simp only at h; cases h; exact ⟨⟨l, rfl⟩, rfl⟩
  | _ => cases h

theorem getD_canon {v : PyVal} {k : Str} {d x : PyVal} (hr : jsonRep v = true) (hd : PyVal.canon d = d) (h : getD v k d = .ok x) :
    getD (PyVal.canon v) k d = .ok (PyVal.canon x) := by
  obtain ⟨⟨l, rfl⟩, rfl⟩ := getD_ok h
  have hg := get?_canon (.dict l) k hr
  unfold getD
  simp only [PyVal.canon] at hg ⊢
  rw [hg]
  cases PyVal.get? (.dict l) k with
  | none => simp [hd]
  | some y => rfl

theorem jsonRep_getD {v : PyVal} {k : Str} {d x : PyVal} (hr : jsonRep v = true) (hd : jsonRep d = true) (h : getD v k d = .ok x) :
    jsonRep x = true := by
  obtain ⟨_, hx⟩ := getD_ok h
  rw [hx]
  cases hg : v.get? k with
  | none => exact hd
  | some y => exact jsonRep_get hr hg

def canonObj (o : Obj) : Obj := o.map fun p => (p.1, PyVal.canon p.2)

theorem get_canonObj (o : Obj) (f : Str) : (canonObj o).get f = PyVal.canon (o.get f) := by
  unfold Obj.get canonObj
  rw [Assoc.find?_fst, Assoc.find?_fst, Assoc.lookup_map]
  cases List.lookup f o <;> rfl

theorem canonObj_sim (o : Obj) (f : Str) : VSim ((canonObj o).get f) (o.get f) := by
  rw [get_canonObj]
  exact VSim.canon _

theorem validate_header_canon (o : Obj) : validateClass "common.Header" (canonObj o) = validateClass "common.Header" o :=
  validateClass_sim_of_no_customs no_customs.header (canonObj_sim o)

theorem validate_release_canon (o : Obj) :
    validateClass "composeinfo.Release" (canonObj o) = validateClass "composeinfo.Release" o :=
  validateClass_sim_of_no_customs no_customs.release (canonObj_sim o)

theorem validate_base_canon (o : Obj) :
    validateClass "composeinfo.BaseProduct" (canonObj o) = validateClass "composeinfo.BaseProduct" o :=
  validateClass_sim_of_no_customs no_customs.base (canonObj_sim o)

theorem validate_compose_canon (o : Obj) :
    validateClass "composeinfo.Compose" (canonObj o) = validateClass "composeinfo.Compose" o :=
  validate_compose_sim (canonObj_sim o)

theorem collect_congr {α} : ∀ (l₁ l₂ : List (Except Err α)), l₁ = l₂ → collect l₁ = collect l₂ := by
  intro _ _ h; rw [h]

theorem collect_map_congr_ok {α β} (f g : α → Except Err β) :
    ∀ (l : List α), (∀ a ∈ l, f a = g a) → collect (l.map f) = collect (l.map g) := by
  intro l h
  rw [List.map_congr_left h]

end PM.CI
