import ProductMD.Proofs.TreeInfoOpts
import ProductMD.Proofs.TreeInfoStr
/-!
The current-format treeinfo reader, section by section, against what a reader can observe of a document that carries
the sections `L` (name ↦ options): `View C L d`.
Both the document the writer builds and the document the text reader returns for its rendering (sections and
options sorted, comment-named options gone) are views of the same `L`, so every reader lemma is proved once,
against the view.
-/
namespace PM
namespace TI
open Ini

/-- `View C L d`: a reader of `d` sees what the sections `L` hold; `items()` of a section with options `o` is `sortKV o` only under the
condition `C o` (always, for the written document; "no comment-named option" for the document read back from text).  Only the checksums
and images readers call `items()`. -/
structure View (C : IniSec → Prop) (L : List (Str × IniSec)) (d : Ini) : Prop where
  noDefault : d.lookup DEFAULT = none
  sec : ∀ s o, L.lookup s = some o → ∃ o', d.lookup s = some o' ∧ (∀ k, nc k = true → o'.lookup k = o.lookup k) ∧
    (C o → sortKV o' = sortKV o)
  nosec : ∀ s, L.lookup s = none → d.lookup s = none
  names : (d.map (·.1)).Perm (L.map (·.1))

section view
variable {C : IniSec → Prop} {L : List (Str × IniSec)} {d : Ini}

theorem View.defaults (V : View C L d) : Ini.defaults d = [] := by
  unfold Ini.defaults; rw [V.noDefault]; rfl

theorem View.get_of (V : View C L d) {s k v : Str} {o : IniSec} (hs : L.lookup s = some o) (hk : o.lookup k = some v)
    (hnc : nc k = true) : Ini.get d s k = .ok v := by
  obtain ⟨o', ho', hl, _⟩ := V.sec s o hs
  exact get_sec ho' ((hl k hnc).trans hk)

theorem View.get_inv (V : View C L d) {s k v : Str} {o : IniSec} (hs : L.lookup s = some o) (hnc : nc k = true)
    (h : Ini.get d s k = .ok v) : o.lookup k = some v := by
  obtain ⟨o', ho', hl, _⟩ := V.sec s o hs
  exact (hl k hnc).symm.trans (Ini.get_inv V.noDefault ho' h)

theorem View.get_nosec (V : View C L d) {s k : Str} (hs : L.lookup s = none) : Ini.get d s k = .error .parserError :=
  Ini.get_nosec V.noDefault (V.nosec s hs) k

theorem View.hasOption_of (V : View C L d) {s k : Str} {o : IniSec} (hs : L.lookup s = some o) (hnc : nc k = true)
    (h1 : s.isEmpty = false) : Ini.hasOption d s k = (o.lookup k).isSome := by
  obtain ⟨o', ho', hl, _⟩ := V.sec s o hs
  rw [hasOption_sec V.noDefault ho' h1, hl k hnc]

theorem View.hasOption_nosec (V : View C L d) {s k : Str} (hs : L.lookup s = none) : Ini.hasOption d s k = false :=
  Ini.hasOption_nosec V.noDefault (V.nosec s hs) k

theorem View.hasSection_of (V : View C L d) {s : Str} : Ini.hasSection d s = (L.lookup s).isSome := by
  rw [hasSection_sec V.noDefault]
  cases hl : L.lookup s with
  | none => rw [V.nosec s hl]
  | some o =>
    obtain ⟨o', ho', _⟩ := V.sec s o hl
    rw [ho']; rfl

theorem View.items_of (V : View C L d) {s : Str} {o : IniSec} (hs : L.lookup s = some o) (hnc : C o) :
    Ini.items d s = .ok (sortKV o) := by
  obtain ⟨o', ho', _, hsort⟩ := V.sec s o hs
  rw [items_sec V.noDefault ho', hsort hnc]

theorem View.length (V : View C L d) : d.length = L.length := by
  have := V.names.length_eq
  simpa using this

theorem View.sections (V : View C L d) : Ini.sections d = sortS ((L.map (·.1)).filter (· != DEFAULT)) := by
  unfold Ini.sections
  exact sortS_perm_eq (V.names.filter _)

theorem Written.view {t : TreeInfo} {mv : Option Str} {d : Ini} {n key chosen} (w : Written t mv d n key chosen) :
    View (fun _ => True) (docList t (generalOpts t n key chosen)) d := by
  refine ⟨?_, ?_, ?_, w.names⟩
  · rw [w.look]
    exact Assoc.lookup_none_iff.mpr (default_not_mem_docList t _)
  · intro s o hs
    exact ⟨o, by rw [w.look, hs], fun _ _ => rfl, fun _ => rfl⟩
  · intro s hs
    rw [w.look, hs]

end view

variable {C : IniSec → Prop} {t : TreeInfo} {g : IniSec} {d : Ini}

/-! The section readers are read forwards, statement by statement, with the `Returns` rules (or, around a loop, `rw` and `ok_bind`), and end
with `Returns.validated`: reducing a term `validateClass … >>= …` makes the kernel run the validator table, which is slow. -/

theorem type_gate_current : tupleLe (1, 1) Gen.VERSION = true := by decide

theorem headerOpts_lookup : headerOpts.lookup kVersion = some currentVersion ∧
    headerOpts.lookup kType = some Gen.HEADER_TYPE_TreeInfo := by
  decide

theorem deHeader_ok {L : List (Str × IniSec)} (V : View C L d) (hL : L.lookup sHeader = some headerOpts) :
    deHeader d = .ok currentVersion := by
  have h1 : hasOption d sHeader kVersion = true := by
    rw [V.hasOption_of hL (by decide) (by decide), headerOpts_lookup.1]; rfl
  exact Returns.ite_pos h1 <| Returns.bind (V.get_of hL headerOpts_lookup.1 (by decide)) <| Returns.bind closed_facts.versionTuple <|
    Returns.ite_pos type_gate_current <| Returns.bind (V.get_of hL headerOpts_lookup.2 (by decide)) <|
    Returns.ite_neg (by decide) <| Returns.bind rfl <| Returns.validated closed_facts.header

theorem releaseOpts_lookup (p : Product) (l : Bool) :
    (releaseOpts p l).lookup kName = some p.name ∧ (releaseOpts p l).lookup kVersion = some p.version ∧
    (releaseOpts p l).lookup kShort = some p.short ∧
    (releaseOpts p l).lookup kIsLayered = if l then some ['t', 'r', 'u', 'e'] else none := by
  cases l <;> simp (decide := true) [releaseOpts, lookup_setsKV, lookup_cons_eq]

theorem product_eta (p : Product) : ({ name := p.name, short := p.short, version := p.version } : Product) = p := by
  cases p; rfl

theorem deRelease_ok {L : List (Str × IniSec)} (V : View C L d) (p : Product) (l : Bool)
    (hL : L.lookup sRelease = some (releaseOpts p l)) (hv : validateClass "treeinfo.Release" (releaseObj p l) = .ok ()) :
    deRelease .v1_0 d = .ok (p, l) := by
  obtain ⟨l1, l2, l3, l4⟩ := releaseOpts_lookup p l
  have ho : ∀ k, nc k = true → hasOption d sRelease k = _ := fun k hk => V.hasOption_of hL hk (by decide)
  refine Returns.bind (V.get_of hL l1 (by decide)) <| Returns.bind (V.get_of hL l2 (by decide)) <|
    Returns.ite_bind (Returns.ite_pos (by rw [ho _ (by decide), l3]; rfl) (V.get_of hL l3 (by decide))) <|
    Returns.ite_bind (a := l) ?_ (Returns.validated hv)
  rw [ho _ (by decide), l4]
  cases l
  · rfl
  · exact Returns.bind (V.get_of hL l4 (by decide)) rfl

theorem baseOpts'_lookup (p : Product) :
    (baseOpts' p).lookup kName = some p.name ∧ (baseOpts' p).lookup kVersion = some p.version ∧
    (baseOpts' p).lookup kShort = some p.short := by
  simp (decide := true) [baseOpts', lookup_setsKV, lookup_cons_eq]

theorem deBase_ok {L : List (Str × IniSec)} (V : View C L d) {p : Product} (hL : L.lookup sBase = some (baseOpts' p))
    (hv : validateClass "treeinfo.BaseProduct" (productObj p) = .ok ()) : deBase d = .ok p :=
  have ⟨l1, l2, l3⟩ := baseOpts'_lookup p
  Returns.bind (V.get_of hL l1 (by decide)) <| Returns.bind (V.get_of hL l2 (by decide)) <| Returns.bind (V.get_of hL l3 (by decide)) <|
    Returns.validated hv

theorem treeOptsFull_lookup (t : TreeInfo) :
    (treeOptsFull t).lookup kArch = some t.tree.arch ∧ (treeOptsFull t).lookup kPlatforms = some (platformsStr t.tree) ∧
    (treeOptsFull t).lookup kBuildTs = some t.tree.ts.str ∧
    (treeOptsFull t).lookup kVariants = some (Str.joinWith ',' (sortS (t.variants.map Variant.uid))) := by
  simp (decide := true) [treeOptsFull, treeOpts, lookup_setKV, lookup_setsKV, lookup_cons_eq]

theorem platforms_read (tr : Tree) (h : PlatformsOK tr) :
    splitNonEmpty (platformsStr tr) = Str.sortDedup (tr.platforms ++ [tr.arch]) := by
  unfold platformsStr
  apply splitNonEmpty_join
  · intro x hx; exact (h x (Str.mem_sortDedup.mp hx)).1
  · intro x hx; exact (h x (Str.mem_sortDedup.mp hx)).2

theorem deTree_ok {L : List (Str × IniSec)} (fo : FloatOracle) (V : View C L d) (hL : L.lookup sTree = some (treeOptsFull t))
    (n : Int) (hts : t.tree.ts = .int n)
    (hfl : fo.intOfFloatStr (Str.intStr n) = .ok n) (hp : PlatformsOK t.tree)
    (hv : validateClass "treeinfo.Tree" (treeObj ⟨t.tree.arch, .int n, Str.sortDedup (t.tree.platforms ++ [t.tree.arch])⟩) = .ok ()) :
    deTree fo .v1_0 d = .ok ⟨t.tree.arch, .int n, Str.sortDedup (t.tree.platforms ++ [t.tree.arch])⟩ := by
  obtain ⟨l1, l2, l3, _⟩ := treeOptsFull_lookup t
  have hs : hasSection d sTree = true := by rw [V.hasSection_of, hL]; rfl
  unfold deTree
  rw [hs, if_pos rfl]
  refine Returns.bind (V.get_of hL l1 (by decide)) <| Returns.bind (V.get_of hL l2 (by decide)) <|
    Returns.bind (Returns.bind (V.get_of hL l3 (by decide)) (by rw [hts]; exact hfl)) ?_
  rw [platforms_read _ hp]
  exact Returns.validated hv

/-- how an option of `[stage2]` comes back: a falsy value (`None`, `""`) is not written and reads as `None` (the `mainimage` / `instimage`
fields of `norm`) -/
def normOpt (m : Option Str) : Option Str := if optTruthy m then m else none

theorem optTruthy_normOpt (m : Option Str) : optTruthy (normOpt m) = optTruthy m := by
  unfold normOpt
  cases h : optTruthy m
  · rfl
  · rw [if_pos rfl, h]

theorem stage2Opts_eq_table (m i : Option Str) : stage2Opts m i = Assoc.optsOf [(kMainimage, normOpt m), (kInstimage, normOpt i)] := by
  unfold stage2Opts normOpt Assoc.optsOf
  cases m with
  | none => cases i with
    | none => rfl
    | some b => cases hb : optTruthy (some b) <;> rfl
  | some a => cases i with
    | none => cases ha : optTruthy (some a) <;> rfl
    | some b => cases ha : optTruthy (some a) <;> cases hb : optTruthy (some b) <;> rfl

theorem stage2Opts_lookup (m i : Option Str) :
    (stage2Opts m i).lookup kMainimage = normOpt m ∧ (stage2Opts m i).lookup kInstimage = normOpt i := by
  have hn : ([(kMainimage, normOpt m), (kInstimage, normOpt i)].map (·.1)).Nodup := by
    show [kMainimage, kInstimage].Nodup
    decide
  rw [stage2Opts_eq_table]
  exact ⟨Assoc.lookup_optsOf_of_mem hn (List.mem_cons_self ..), Assoc.lookup_optsOf_of_mem hn (List.mem_cons_of_mem _ (List.mem_cons_self ..))⟩

theorem View.readOpt {L : List (Str × IniSec)} (V : View C L d) {s k : Str} {o : IniSec} (hL : L.lookup s = some o) (hnc : nc k = true)
    (h1 : s.isEmpty = false) :
    (if hasOption d s k then (Ini.get d s k).map some else pure none : Except Err (Option Str)) = .ok (o.lookup k) := by
  rw [V.hasOption_of hL hnc h1]
  cases hk : o.lookup k with
  | none => rfl
  | some v => simp [V.get_of hL hk hnc, Except.map]

theorem readOpt (V : View C (docList t g) d) {s k : Str} {o : IniSec} (hL : (docList t g).lookup s = some o) (hnc : nc k = true)
    (h1 : s.isEmpty = false) (h2 : (s == DEFAULT) = false) :
    (if hasOption d s k then (Ini.get d s k).map some else pure none : Except Err (Option Str)) = .ok (o.lookup k) :=
  V.readOpt hL hnc h1

theorem deStage2_ok {L : List (Str × IniSec)} (V : View C L d) (m i : Option Str)
    (hL : L.lookup sStage2 = if stage2On m i then some (stage2Opts m i) else none)
    (hv : validateClass "treeinfo.Stage2" (stage2Obj (normOpt m) (normOpt i)) = .ok ()) :
    deStage2 d = .ok (normOpt m, normOpt i) := by
  -- an option reads as `x` when the section, if written, holds `x` under it, and `x` is `none` if no section was written
  have rd : ∀ (k : Str) (x : Option Str), nc k = true → (stage2Opts m i).lookup k = x → (stage2On m i = false → x = none) →
      (if hasOption d sStage2 k then (Ini.get d sStage2 k).map some else pure none : Except Err (Option Str)) = .ok x := by
    intro k x hnc hon hoff
    cases hs : stage2On m i
    · rw [hs] at hL
      rw [V.hasOption_nosec hL, hoff hs]; rfl
    · rw [hs] at hL
      rw [V.readOpt hL hnc (by decide), hon]
  obtain ⟨l1, l2⟩ := stage2Opts_lookup m i
  exact Returns.ite_bind (rd kMainimage (normOpt m) (by decide) l1 fun h => by rw [normOpt, (Bool.or_eq_false_iff.mp h).1]; rfl) <|
    Returns.ite_bind (rd kInstimage (normOpt i) (by decide) l2 fun h => by rw [normOpt, (Bool.or_eq_false_iff.mp h).2]; rfl) <|
    Returns.validated hv

theorem mediaOpts_lookup (a b : Option Int) :
    (mediaOpts a b).lookup kDiscnum = some (Str.intStr (a.getD 0)) ∧ (mediaOpts a b).lookup kTotaldiscs = some (Str.intStr (b.getD 0)) := by
  simp (decide := true) [mediaOpts, lookup_setsKV, lookup_cons_eq]

theorem deMedia_ok {L : List (Str × IniSec)} (V : View C L d)
    (hL : L.lookup sMedia = if mediaOn t.discnum t.totaldiscs then some (mediaOpts t.discnum t.totaldiscs) else none)
    (hsome : mediaOn t.discnum t.totaldiscs = true → t.discnum.isSome ∧ t.totaldiscs.isSome)
    (hv : validateClass "treeinfo.Media" (mediaObj (norm t).discnum (norm t).totaldiscs) = .ok ()) :
    deMedia .v1_0 d = .ok ((norm t).discnum, (norm t).totaldiscs) := by
  have hs : hasSection d sMedia = mediaOn t.discnum t.totaldiscs := by
    rw [V.hasSection_of, hL]; cases mediaOn t.discnum t.totaldiscs <;> rfl
  unfold deMedia
  revert hv
  simp only [norm]
  rw [hs, media_gate]
  cases hon : mediaOn t.discnum t.totaldiscs
  · intro hv
    exact Returns.ite_neg Bool.false_ne_true <| Returns.bind rfl <| Returns.validated hv
  · intro hv
    rw [hon, if_pos rfl] at hL
    obtain ⟨l1, l2⟩ := mediaOpts_lookup t.discnum t.totaldiscs
    obtain ⟨ha, hb⟩ := hsome hon
    obtain ⟨x, hx⟩ := Option.isSome_iff_exists.mp ha
    obtain ⟨y, hy⟩ := Option.isSome_iff_exists.mp hb
    rw [hx, hy] at l1 l2 hL hv ⊢
    exact Returns.ite_pos rfl <| Returns.bind (Returns.bind (V.get_of hL l1 (by decide)) (pyInt_intStr x)) <|
      Returns.bind (Returns.bind (V.get_of hL l2 (by decide)) (pyInt_intStr y)) <| Returns.bind rfl <| Returns.validated hv

def csOpt (c : Str × Str × Str) : Str × Str := (c.1, c.2.1 ++ ':' :: c.2.2)

theorem checksumOf_typed (ty v : Str) (h1 : ':' ∉ ty) (h2 : ':' ∉ v) : checksumOf (ty ++ ':' :: v) = .ok (ty, v) := by
  unfold checksumOf
  simp [C14.splitOn_pair_iff.mpr ⟨rfl, h1, h2⟩]

theorem deChecksumItems_ok : ∀ (l acc : List (Str × Str × Str)), (∀ c ∈ l, ':' ∉ c.2.1 ∧ ':' ∉ c.2.2) →
    ((acc ++ l).map (·.1)).Nodup → deChecksumItems (l.map csOpt) acc = .ok (acc ++ l)
  | [], acc, _, _ => by simp [deChecksumItems]
  | c :: l, acc, h, hn => by
    have hc := h c (List.mem_cons_self ..)
    simp only [List.map_cons, deChecksumItems, csOpt, checksumOf_typed _ _ hc.1 hc.2]
    rw [setKV_append_fresh _ _ _ (fresh_of_nodup_append hn)]
    have := deChecksumItems_ok l (acc ++ [(c.1, c.2.1, c.2.2)]) (fun x hx => h x (List.mem_cons_of_mem _ hx))
      (by simpa using hn)
    simpa [csOpt] using this

theorem checksumOpts_eq (cs : List (Str × Str × Str)) (hn : (cs.map (·.1)).Nodup) : checksumOpts cs = cs.map csOpt := by
  unfold checksumOpts
  apply setsKV_nil_nodup
  simpa [List.map_map, Function.comp_def, csOpt] using hn

theorem deChecksums_ok {L : List (Str × IniSec)} (V : View C L d) (cs : List (Str × Str × Str))
    (hL : L.lookup sChecksums = if cs.isEmpty then none else some (checksumOpts cs))
    (hok : ChecksumsOK cs) (hC : cs.isEmpty = false → C (checksumOpts cs))
    (hv : validateClass "treeinfo.Checksums" (checksumsObj (sortKV cs)) = .ok ()) :
    deChecksums d = .ok (sortKV cs) := by
  unfold deChecksums
  cases he : cs.isEmpty
  · rw [he] at hL
    have hs : hasSection d sChecksums = true := by rw [V.hasSection_of, hL]; rfl
    have hit := V.items_of hL (hC he)
    rw [checksumOpts_eq _ hok.1, sortKV_map_same csOpt (fun _ => rfl)] at hit
    have hfold := deChecksumItems_ok (sortKV cs) [] (fun c hc => hok.2 c ((mem_sortKV _ _).mp hc))
      (by simpa using nodup_keys_sortKV cs hok.1)
    exact Returns.ite_bind (Returns.ite_pos hs (Returns.bind hit hfold)) (Returns.validated hv)
  · rw [he] at hL
    have hs : hasSection d sChecksums = false := by rw [V.hasSection_of, hL]; rfl
    rw [List.isEmpty_iff.mp he, sortKV_nil] at hv ⊢
    exact Returns.ite_bind (Returns.ite_neg (hs ▸ Bool.false_ne_true) rfl) (Returns.validated hv)

theorem isImg_prefix (x : Str) : isImg (pImages ++ x) = true := by
  unfold isImg Str.startsWith
  rw [pImages_eq]; simp [List.isPrefixOf]

theorem isImg_head {s : Str} (h : isImg s = true) : s.head? = some 'i' := by
  unfold isImg Str.startsWith at h
  rw [pImages_eq] at h
  cases s with
  | nil => simp [List.isPrefixOf] at h
  | cons c cs => simp [List.isPrefixOf] at h; simp [h.1.symm]

theorem deImageSections_filter (d : Ini) (arch : Str) : ∀ (ss : List Str) (acc : List (Str × List (Str × Str))),
    deImageSections d arch ss acc = deImageSections d arch (ss.filter isImg) acc
  | [], _ => rfl
  | s :: ss, acc => by
    cases h : isImg s
    · have : Str.startsWith s pImages = false := h
      simp only [deImageSections, this, List.filter_cons, h]
      exact deImageSections_filter d arch ss acc
    · have h' : Str.startsWith s pImages = true := h
      simp only [deImageSections, h', List.filter_cons, h, if_true]
      cases items d s with
      | error e => rfl
      | ok its => exact deImageSections_filter d arch ss _

/-- the `images-*` sections among all sections of the written document (up to order: `sections()` sorts) -/
theorem names_filter_img (t : TreeInfo) (g : IniSec) :
    ((((docList t g).map (·.1)).filter (· != DEFAULT)).filter isImg).Perm ((imgFlat t.images).map (·.1)) := by
  have not_img : ∀ l : List Str, (∀ s ∈ l, s.head? ≠ some 'i') → (l.filter (· != DEFAULT)).filter isImg = [] := by
    intro l h
    rw [List.filter_filter]
    exact List.filter_eq_nil_iff.mpr fun s hs hb => h s hs (isImg_head (Bool.and_eq_true_iff.mp hb).1)
  have all_img : (((imgFlat t.images).map (·.1)).filter (· != DEFAULT)).filter isImg = (imgFlat t.images).map (·.1) := by
    rw [List.filter_filter]
    refine List.filter_eq_self.mpr fun s hs => Bool.and_eq_true_iff.mpr ⟨?_, ?_⟩
    · rw [imgFlat_keys, List.mem_reverse] at hs
      obtain ⟨p, _, rfl⟩ := List.mem_map.mp hs
      exact isImg_prefix _
    · refine bne_iff_ne.mpr fun e => ?_
      have h := imgFlat_keys_head _ s hs
      rw [e] at h
      revert h
      decide
  refine ((((docList_perm t g).map (·.1)).filter _).filter _).trans ?_
  rw [List.map_append, List.map_append, List.filter_append, List.filter_append, List.filter_append, List.filter_append, all_img,
    not_img _ fun s hs => (fixedNames_plain s (mem_keys_fixedList hs)).2,
    not_img _ fun s hs hi => by rcases flatVs_keys_headAV _ _ s hs with h | h <;> rw [h] at hi <;> cases hi]
  simp

def imgNorm (p : Str × List (Str × Str)) : Str × List (Str × Str) := (p.1, sortKV p.2)

theorem deImageSections_ok {L : List (Str × IniSec)} (V : View C L d) (images : List (Str × List (Str × Str))) (arch : Str)
    (hL : ∀ p ∈ images, L.lookup (pImages ++ p.1) = some (setsKV [] p.2))
    (hok : ImagesOK arch images) (hC : ∀ p ∈ images, C (setsKV [] p.2)) :
    ∀ (ps acc : List (Str × List (Str × Str))), (∀ p ∈ ps, p ∈ images) → ((acc ++ ps).map (·.1)).Nodup →
      deImageSections d arch (ps.map fun p => pImages ++ p.1) acc = .ok (acc ++ ps.map imgNorm)
  | [], acc, _, _ => by simp [deImageSections]
  | p :: ps, acc, hsub, hnd => by
    have hp := hsub p (List.mem_cons_self ..)
    have hit := V.items_of (hL p hp) (hC p hp)
    rw [setsKV_nil_nodup _ (hok.1 p hp)] at hit
    have hfold : (sortKV p.2).foldl (fun m kv => setKV kv.1 kv.2 m) [] = sortKV p.2 :=
      setsKV_nil_nodup _ (nodup_keys_sortKV _ (hok.1 p hp))
    have hstart : Str.startsWith (pImages ++ p.1) pImages = true := isImg_prefix p.1
    simp only [List.map_cons, deImageSections, hstart, if_true, hit, hfold, hok.2 p hp]
    rw [setKV_append_fresh _ _ _ (fresh_of_nodup_append hnd)]
    have := deImageSections_ok V images arch hL hok hC ps (acc ++ [(p.1, sortKV p.2)])
      (fun q hq => hsub q (List.mem_cons_of_mem _ hq)) (by simpa using hnd)
    simpa [imgNorm] using this

theorem imagePlatforms_nodup {t : TreeInfo} {g : IniSec} (hn : ((docList t g).map (·.1)).Nodup) : (t.images.map (·.1)).Nodup := by
  have h3 : ((t.images.map (·.1)).map (pImages ++ ·)).Nodup := by
    simpa [List.map_map, Function.comp_def] using nodup_image_names hn
  exact nodup_of_map _ _ h3

theorem sections_img_of_view (V : View C (docList t g) d) :
    (Ini.sections d).filter isImg = (sortKV t.images).map fun p => pImages ++ p.1 := by
  have hperm : ((((docList t g).map (·.1)).filter (· != DEFAULT)).filter isImg).Perm ((t.images.map (·.1)).map (pImages ++ ·)) := by
    refine (names_filter_img t g).trans ?_
    rw [imgFlat_keys, List.map_map]
    exact List.reverse_perm _
  calc (Ini.sections d).filter isImg
      = sortS ((((docList t g).map (·.1)).filter (· != DEFAULT)).filter isImg) := by
        rw [V.sections]
        exact sortBy_filter id isImg _
    _ = sortS ((t.images.map (·.1)).map (pImages ++ ·)) := sortS_perm_eq hperm
    _ = ((sortKV t.images).map (·.1)).map (pImages ++ ·) := by
        rw [sortS_map_prefix, sortS_map_key]
        rfl
    _ = _ := List.map_map

theorem deImages_ok {L : List (Str × IniSec)} (V : View C L d) (images : List (Str × List (Str × Str))) (tree' : Tree)
    (hL : ∀ p ∈ images, L.lookup (pImages ++ p.1) = some (setsKV [] p.2))
    (hnames : (Ini.sections d).filter isImg = (sortKV images).map fun p => pImages ++ p.1)
    (hnd : (images.map (·.1)).Nodup)
    (hok : ImagesOK tree'.arch images) (hC : ∀ p ∈ images, C (setsKV [] p.2))
    (hv : validateClass "treeinfo.Images" (imagesObj (sortKV (images.map imgNorm)) tree'.platforms) = .ok ()) :
    deImages d tree' = .ok (sortKV (images.map imgNorm)) := by
  have hloop := deImageSections_ok V images tree'.arch hL hok hC (sortKV images) []
    (fun p hp => (mem_sortKV _ _).mp hp) (by simpa using nodup_keys_sortKV _ hnd)
  have hres : (sortKV images).map imgNorm = sortKV (images.map imgNorm) := (sortKV_map_same imgNorm (fun _ => rfl) _).symm
  unfold deImages
  rw [deImageSections_filter, hnames, hloop, List.nil_append, hres, ok_bind]
  exact Returns.validated hv

end TI
end PM
