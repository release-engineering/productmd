import ProductMD.Model.Customs
import ProductMD.Proofs.Canon
/-!
What the translated validator idiom can see.  `VSim a b`: the idiom cannot tell `a` from `b` (same types, same truth value, the
same string if it is one); equal values, values of the same content (`JEq`, Proofs/RulesJEq) and a value and its key-sorted form
are such pairs.  The verdict of a rule list on two objects is the same when every field some rule reads is `VSim` in the two and
every hand-bound (`custom`) rule of the list gives the same verdict on both (`Cond.sim`, `Rule.check_sim`, `runRules_sim`).
For a generated class (`classRules`: the rules its `validate()` runs) the sets of fields / custom names are COMPUTED from the
generated rule lists (`classReads`, `classCustoms`), so a validator that starts reading another field changes them and the
`decide`d side conditions of the users stop holding.
-/
namespace PM

def Cond.reads : Cond → List Str
  | .tt => []
  | .truthy f | .notNone f | .reMatch _ f | .startsWith f _ | .contains f _ => [f]
  | .not c => c.reads
  | .and a b => a.reads ++ b.reads

def Rule.reads : Rule → List Str
  | .type f _ | .value f _ | .notBlank f | .re f _ => [f]
  | .failIf c => c.reads
  | .guarded c r => c.reads ++ r.reads
  | .custom _ => []

def Rule.customNames : Rule → List Str
  | .custom n => [n]
  | .guarded _ r => r.customNames
  | _ => []

/-- all the validator idiom can see of a value: its type, whether it is a bool, its truth value, and which string it is.
`str` is stated from left to right only; with `inst` at `.str` it gives the other direction (`VSim.elim`), so the relation is
symmetric although no field says so. -/
structure VSim (a b : PyVal) : Prop where
  inst : ∀ t, a.isinstance t = b.isinstance t
  isBool : a.isBool = b.isBool
  truthy : a.truthy = b.truthy
  str : ∀ s, a = .str s → b = .str s

theorem VSim.of_eq {a b : PyVal} (h : a = b) : VSim a b := h ▸ ⟨fun _ => rfl, rfl, rfl, fun _ e => e⟩

theorem VSim.canon (v : PyVal) : VSim (PyVal.canon v) v :=
  ⟨PyVal.isinstance_canon v, PyVal.isBool_canon v, PyVal.truthy_canon v, fun s e => by cases v <;> first | exact e | cases e⟩

theorem VSim.elim {a b : PyVal} (h : VSim a b) : a = b ∨ (a.isinstance .str = false ∧ b.isinstance .str = false) := by
  cases hs : a.isinstance .str with
  | false => exact .inr ⟨rfl, (h.inst .str).symm.trans hs⟩
  | true =>
    cases a <;> first | exact .inl (h.str _ rfl).symm | cases hs

theorem VSim.assertTypeOk_eq {a b : PyVal} (h : VSim a b) (strict : Bool) (ts : List PyType) :
    a.assertTypeOk strict ts = b.assertTypeOk strict ts := by
  have : ∀ t, a.isinstance t = b.isinstance t := h.inst
  simp only [PyVal.assertTypeOk, h.isBool, this]

/-! The five places where the interpreter matches on `.str s`: on a non-string each takes its default branch. -/

theorem Cond.eval_reMatch_notStr {o : Obj} {p : Re} {f : Str} (h : (o.get f).isinstance .str = false) :
    (Cond.reMatch p f).eval o = false := by
  simp only [Cond.eval]
  revert h
  generalize o.get f = a
  intro h
  cases a <;> first | rfl | cases h

theorem Cond.eval_startsWith_notStr {o : Obj} {f pre : Str} (h : (o.get f).isinstance .str = false) :
    (Cond.startsWith f pre).eval o = false := by
  simp only [Cond.eval]
  revert h
  generalize o.get f = a
  intro h
  cases a <;> first | rfl | cases h

theorem Cond.eval_contains_notStr {o : Obj} {f c : Str} (h : (o.get f).isinstance .str = false) :
    (Cond.contains f c).eval o = false := by
  simp only [Cond.eval]
  revert h
  generalize o.get f = a
  intro h
  cases a <;> first | rfl | cases h

theorem Rule.check_value_notStr {cu : Str → Obj → Except Err Unit} {o : Obj} {f : Str} {tb : List Str}
    (h : (o.get f).isinstance .str = false) : (Rule.value f tb).check cu o = .error .valueError := by
  simp only [Rule.check]
  revert h
  generalize o.get f = a
  intro h
  cases a <;> first | rfl | cases h

theorem Rule.check_re_notStr {cu : Str → Obj → Except Err Unit} {o : Obj} {f : Str} {ps : List Re}
    (h : (o.get f).isinstance .str = false) : (Rule.re f ps).check cu o = .error .typeError := by
  simp only [Rule.check]
  revert h
  generalize o.get f = a
  intro h
  cases a <;> first | rfl | cases h

theorem Cond.eval_startsWith_str {o : Obj} {f pre s : Str} (h : o.get f = .str s) :
    (Cond.startsWith f pre).eval o = Str.startsWith s pre := by
  rw [Cond.eval, h]

theorem Cond.sim {o o' : Obj} : ∀ c : Cond, (∀ f ∈ c.reads, VSim (o.get f) (o'.get f)) →
    c.eval o = c.eval o' ∧ c.wellTyped o = c.wellTyped o'
  | .tt, _ => ⟨rfl, rfl⟩
  | .truthy f, h => by simp [Cond.eval, Cond.wellTyped, (h f (by simp [Cond.reads])).truthy]
  | .notNone f, h => by simp [Cond.eval, Cond.wellTyped, (h f (by simp [Cond.reads])).inst]
  | .reMatch p f, h => by
    have hv := h f (by simp [Cond.reads])
    refine ⟨?_, by simp only [Cond.wellTyped, hv.inst]⟩
    rcases hv.elim with e | ⟨ha, hb⟩
    · simp only [Cond.eval, e]
    · rw [Cond.eval_reMatch_notStr ha, Cond.eval_reMatch_notStr hb]
  | .startsWith f pre, h => by
    have hv := h f (by simp [Cond.reads])
    refine ⟨?_, by simp only [Cond.wellTyped, hv.inst]⟩
    rcases hv.elim with e | ⟨ha, hb⟩
    · simp only [Cond.eval, e]
    · rw [Cond.eval_startsWith_notStr ha, Cond.eval_startsWith_notStr hb]
  | .contains f c, h => by
    have hv := h f (by simp [Cond.reads])
    refine ⟨?_, by simp only [Cond.wellTyped, hv.inst]⟩
    rcases hv.elim with e | ⟨ha, hb⟩
    · simp only [Cond.eval, e]
    · rw [Cond.eval_contains_notStr ha, Cond.eval_contains_notStr hb]
  | .not c, h => by
    have := Cond.sim c (fun f hf => h f (by simpa [Cond.reads] using hf))
    simp [Cond.eval, Cond.wellTyped, this.1, this.2]
  | .and a b, h => by
    have ha := Cond.sim a (fun f hf => h f (by simp [Cond.reads, hf]))
    have hb := Cond.sim b (fun f hf => h f (by simp [Cond.reads, hf]))
    simp [Cond.eval, Cond.wellTyped, ha.1, ha.2, hb.1, hb.2]

theorem Cond.agree {o o' : Obj} (c : Cond) (h : ∀ f ∈ c.reads, o.get f = o'.get f) :
    c.eval o = c.eval o' ∧ c.wellTyped o = c.wellTyped o' :=
  Cond.sim c fun f hf => .of_eq (h f hf)

theorem Rule.check_sim (cu : Str → Obj → Except Err Unit) {o o' : Obj} : ∀ r : Rule,
    (∀ f ∈ r.reads, VSim (o.get f) (o'.get f)) → (∀ n ∈ r.customNames, cu n o = cu n o') → r.check cu o = r.check cu o'
  | .type f ts, h, _ => by
    simp only [Rule.check]
    rw [(h f (by simp [Rule.reads])).assertTypeOk_eq]
  | .value f tb, h, _ => by
    rcases (h f (by simp [Rule.reads])).elim with e | ⟨ha, hb⟩
    · simp only [Rule.check, e]
    · rw [Rule.check_value_notStr ha, Rule.check_value_notStr hb]
  | .notBlank f, h, _ => by simp only [Rule.check, (h f (by simp [Rule.reads])).truthy]
  | .re f ps, h, _ => by
    rcases (h f (by simp [Rule.reads])).elim with e | ⟨ha, hb⟩
    · simp only [Rule.check, e]
    · rw [Rule.check_re_notStr ha, Rule.check_re_notStr hb]
  | .failIf c, h, _ => by
    have := Cond.sim c (fun f hf => h f (by simpa [Rule.reads] using hf))
    simp only [Rule.check, this.1, this.2]
  | .guarded c r, h, hc => by
    have hcd := Cond.sim c (fun f hf => h f (by simp [Rule.reads, hf]))
    have hr := Rule.check_sim cu r (fun f hf => h f (by simp [Rule.reads, hf]))
      (fun n hn => hc n (by simpa [Rule.customNames] using hn))
    simp only [Rule.check, hcd.1, hcd.2, hr]
  | .custom n, _, hc => by
    simp only [Rule.check]
    exact hc n (by simp [Rule.customNames])

theorem runRules_congr (cu : Str → Obj → Except Err Unit) (o1 o2 : Obj) (rs : List Rule)
    (h : ∀ r ∈ rs, r.check cu o1 = r.check cu o2) : runRules cu o1 rs = runRules cu o2 rs := by
  induction rs with
  | nil => rfl
  | cons r rs ih =>
    simp only [runRules, h r (List.mem_cons_self)]
    rw [ih (fun r' hr' => h r' (List.mem_cons_of_mem _ hr'))]

theorem runRules_sim (cu : Str → Obj → Except Err Unit) {o o' : Obj} (rs : List Rule)
    (h : ∀ r ∈ rs, ∀ f ∈ r.reads, VSim (o.get f) (o'.get f)) (hc : ∀ r ∈ rs, ∀ n ∈ r.customNames, cu n o = cu n o') :
    runRules cu o rs = runRules cu o' rs :=
  runRules_congr cu o o' rs fun r hr => Rule.check_sim cu r (h r hr) (hc r hr)

/-- the rules `validate()` of a generated class runs -/
def classRules (cls : String) : List Rule :=
  match Gen.allClasses.find? (·.1 == cls) with
  | some (_, ms) => ms.flat
  | none => []

/-- `hne`: an unknown class name has no rules, and `validateClass` refuses every object then -/
theorem validateClass_eq_runRules {cls : String} (o : Obj) (hne : classRules cls ≠ []) :
    validateClass cls o = runRules customs o (classRules cls) := by
  unfold classRules at hne ⊢
  unfold validateClass
  cases hf : Gen.allClasses.find? (·.1 == cls) with
  | none => rw [hf] at hne; exact absurd rfl hne
  | some p =>
    obtain ⟨c, ms⟩ := p
    rfl

theorem check_of_rule {cls : String} {r : Rule} {o : Obj} (hr : r ∈ classRules cls) (h : validateClass cls o = .ok ()) :
    r.check customs o = .ok () :=
  (runRules_ok_iff customs _ _).mp (validateClass_eq_runRules o (List.ne_nil_of_mem hr) ▸ h) _ hr

theorem validateClass_ok_iff {cls : String} (o : Obj) (hne : classRules cls ≠ []) :
    validateClass cls o = .ok () ↔ ∀ r ∈ classRules cls, r.check customs o = .ok () :=
  validateClass_eq_runRules o hne ▸ runRules_ok_iff customs _ _

/-- the fields the validators of a generated class read through the translated idiom -/
def classReads (cls : String) : List Str :=
  match Gen.allClasses.find? (·.1 == cls) with
  | some (_, ms) => ms.flat.flatMap Rule.reads
  | none => []

/-- the hand-bound rules of a generated class -/
def classCustoms (cls : String) : List Str :=
  match Gen.allClasses.find? (·.1 == cls) with
  | some (_, ms) => ms.flat.flatMap Rule.customNames
  | none => []

theorem validateClass_sim (cls : String) {o o' : Obj} (h : ∀ f ∈ classReads cls, VSim (o.get f) (o'.get f))
    (hc : ∀ n ∈ classCustoms cls, customs n o = customs n o') : validateClass cls o = validateClass cls o' := by
  unfold validateClass
  unfold classReads at h
  unfold classCustoms at hc
  cases hf : Gen.allClasses.find? (·.1 == cls) with
  | none => rfl
  | some p =>
    obtain ⟨c, ms⟩ := p
    rw [hf] at h hc
    exact runRules_sim customs ms.flat (fun r hr f hf => h f (List.mem_flatMap.mpr ⟨r, hr, hf⟩))
      (fun r hr n hn => hc n (List.mem_flatMap.mpr ⟨r, hr, hn⟩))

theorem validateClass_agree (cls : String) {o o' : Obj} (h : ∀ f ∈ classReads cls, o.get f = o'.get f)
    (hc : ∀ n ∈ classCustoms cls, customs n o = customs n o') : validateClass cls o = validateClass cls o' :=
  validateClass_sim cls (fun f hf => .of_eq (h f hf)) hc

/-! Which rule a name is bound to: looked up by POSITION.  The position of a name in `customTable` is a `Nat` that `decide +kernel`
finds, and the entry at a position is read off without looking at any name (the names are long string literals, which the
elaborator is slow to decode). -/

theorem find?_fst_of_idxOf {β : Type} (n : Str) : ∀ (l : List (Str × β)) (i : Nat) (hi : i < l.length),
    (l.map (·.1)).idxOf n = i → l.find? (·.1 == n) = some l[i]
  | [], _, hi, _ => absurd hi (Nat.not_lt_zero _)
  | e :: l, i, hi, h => by
    rw [List.map_cons, List.idxOf_cons] at h
    rw [List.find?_cons]
    cases he : e.1 == n
    · rw [he] at h
      simp only [cond_false] at h
      subst h
      exact find?_fst_of_idxOf n l _ (Nat.lt_of_succ_lt_succ hi) rfl
    · rw [he] at h
      simp only [cond_true] at h
      subst h
      rfl

theorem customs_eq_of_idxOf {n : Str} {i : Nat} (hi : i < customTable.length) (h : (customTable.map (·.1)).idxOf n = i) :
    customs n = customTable[i].2 := by
  funext o
  unfold customs
  rw [find?_fst_of_idxOf n customTable i hi h]

/-- `uid == "%s-%s" % (parent.uid, id)`: treeinfo `Variant._validate_uid` on a variant with a parent -/
theorem tiVariantUid_child {o : Obj} {kvs : List (Str × PyVal)} {p i u : Str}
    (hpar : o.get "parent".toList = .dict kvs) (hpu : (PyVal.dict kvs).get? "uid".toList = some (.str p))
    (hi : o.get "id".toList = .str i) (hu : o.get "uid".toList = .str u) :
    tiVariantUid o = if u = p ++ '-' :: i then .ok () else .error .valueError := by
  rw [tiVariantUid, hpar]
  simp only [hpu, hi, hu, Option.getD_some, pyFormat, PyVal.pyEq_str, beq_iff_eq]

/-- the composeinfo validator is the same code once there is a parent and the uid is a string -/
theorem ciVariantUid_child {o : Obj} {kvs : List (Str × PyVal)} {p i u : Str}
    (hpar : o.get "parent".toList = .dict kvs) (hpu : (PyVal.dict kvs).get? "uid".toList = some (.str p))
    (hi : o.get "id".toList = .str i) (hu : o.get "uid".toList = .str u) :
    ciVariantUid o = if u = p ++ '-' :: i then .ok () else .error .valueError := by
  rw [← tiVariantUid_child hpar hpu hi hu, ciVariantUid, tiVariantUid, hpar, hu]
  rfl

/-- `uid.replace("-", "") == id`: composeinfo `Variant._validate_uid` on a top-level variant -/
theorem ciVariantUid_top {o : Obj} {i u : Str} (hpar : o.get "parent".toList = .none)
    (hi : o.get "id".toList = .str i) (hu : o.get "uid".toList = .str u) :
    ciVariantUid o = if Str.removeChar '-' u = i then .ok () else .error .valueError := by
  rw [ciVariantUid, hpar, hu, hi]
  simp only [PyVal.pyEq_str, beq_iff_eq]
  rfl

end PM
