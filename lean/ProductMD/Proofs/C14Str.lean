import ProductMD.Model.Str
/-!
Lemmas about the string functions of `Model/Str.lean` (python `split`, `rsplit(sep, n)`, `join`, `count`, `endswith`, slicing);
nothing in them is special to C14, whose namespace most of them carry.  Those about `split(sep, 1)` and the removal of a
character stand in `PM`.
-/
namespace PM.C14
open PM PM.Str

theorem splitOn_cons_shape (sep : Char) (s : Str) : ∃ h t, splitOn sep s = h :: t := by
  induction s with
  | nil => exact ⟨[], [], rfl⟩
  | cons c cs ih =>
    obtain ⟨h, t, e⟩ := ih
    by_cases hc : c = sep
    · exact ⟨[], splitOn sep cs, by simp [splitOn, hc]⟩
    · exact ⟨c :: h, t, by simp [splitOn, hc, e]⟩

theorem splitOn_ne_nil (sep : Char) (s : Str) : splitOn sep s ≠ [] := by
  obtain ⟨h, t, e⟩ := splitOn_cons_shape sep s
  simp [e]

theorem splitOn_cons_sep (sep : Char) (cs : Str) : splitOn sep (sep :: cs) = [] :: splitOn sep cs := by
  simp [splitOn]

theorem splitOn_cons_ne {sep c : Char} (hc : c ≠ sep) {cs h : Str} {t : List Str}
    (e : splitOn sep cs = h :: t) : splitOn sep (c :: cs) = (c :: h) :: t := by
  simp [splitOn, hc, e]

theorem splitOn_of_not_mem {sep : Char} {s : Str} (h : sep ∉ s) : splitOn sep s = [s] := by
  induction s with
  | nil => rfl
  | cons c cs ih =>
    have hc : c ≠ sep := fun e => h (by simp [e])
    have := ih (fun hm => h (List.mem_cons_of_mem _ hm))
    exact splitOn_cons_ne hc this

theorem splitOn_append_sep {sep : Char} {a : Str} (b : Str) (h : sep ∉ a) :
    splitOn sep (a ++ sep :: b) = a :: splitOn sep b := by
  induction a with
  | nil => exact splitOn_cons_sep sep b
  | cons c cs ih =>
    have hc : c ≠ sep := fun e => h (by simp [e])
    have := ih (fun hm => h (List.mem_cons_of_mem _ hm))
    exact splitOn_cons_ne hc this

theorem splitOn_append_sep_right {sep : Char} (a : Str) {b : Str} (h : sep ∉ b) :
    splitOn sep (a ++ sep :: b) = splitOn sep a ++ [b] := by
  induction a with
  | nil => simp [splitOn_cons_sep, splitOn_of_not_mem h, splitOn]
  | cons c cs ih =>
    by_cases hc : c = sep
    · subst hc
      simp only [List.cons_append, splitOn_cons_sep, ih]
    · obtain ⟨x, t, e⟩ := splitOn_cons_shape sep cs
      have e2 : splitOn sep (cs ++ sep :: b) = x :: (t ++ [b]) := by rw [ih, e]; rfl
      rw [List.cons_append, splitOn_cons_ne hc e2, splitOn_cons_ne hc e]; rfl

theorem joinWith_cons_cons (sep : Char) (x y : Str) (r : List Str) :
    joinWith sep (x :: y :: r) = x ++ sep :: joinWith sep (y :: r) := rfl

theorem joinWith_splitOn (sep : Char) (s : Str) : joinWith sep (splitOn sep s) = s := by
  induction s with
  | nil => rfl
  | cons c cs ih =>
    obtain ⟨h, t, e⟩ := splitOn_cons_shape sep cs
    by_cases hc : c = sep
    · subst hc
      rw [splitOn_cons_sep, e, joinWith_cons_cons, ← e, ih]; rfl
    · rw [splitOn_cons_ne hc e]
      rw [e] at ih
      cases t with
      | nil => simp [joinWith] at ih ⊢; exact ih
      | cons y r =>
        rw [joinWith_cons_cons] at ih ⊢
        simp [← ih]

theorem not_mem_of_mem_splitOn {sep : Char} {s g : Str} (hg : g ∈ splitOn sep s) : sep ∉ g := by
  induction s generalizing g with
  | nil => rw [List.mem_singleton.mp hg]; exact List.not_mem_nil
  | cons c cs ih =>
    obtain ⟨h, t, e⟩ := splitOn_cons_shape sep cs
    rw [e] at ih
    by_cases hc : c = sep
    · subst hc
      rw [splitOn_cons_sep, e] at hg
      rcases List.mem_cons.mp hg with rfl | hg
      · exact List.not_mem_nil
      · exact ih hg
    · rw [splitOn_cons_ne hc e] at hg
      rcases List.mem_cons.mp hg with rfl | hg
      · exact List.not_mem_cons_of_ne_of_not_mem (Ne.symm hc) (ih List.mem_cons_self)
      · exact ih (List.mem_cons_of_mem _ hg)

theorem splitOn_joinWith (sep : Char) : ∀ l : List Str, l ≠ [] → (∀ x ∈ l, sep ∉ x) → splitOn sep (joinWith sep l) = l
  | [], h, _ => absurd rfl h
  | [x], _, h => splitOn_of_not_mem (h x (by simp))
  | x :: y :: r, _, h => by
    rw [joinWith_cons_cons, splitOn_append_sep _ (h x (by simp)),
      splitOn_joinWith sep (y :: r) (by simp) fun z hz => h z (List.mem_cons_of_mem _ hz)]

theorem splitOn_eq_iff {sep : Char} {s : Str} {l : List Str} :
    splitOn sep s = l ↔ l ≠ [] ∧ (∀ g ∈ l, sep ∉ g) ∧ joinWith sep l = s :=
  ⟨fun h => h ▸ ⟨splitOn_ne_nil sep s, fun _ hg => not_mem_of_mem_splitOn hg, joinWith_splitOn sep s⟩,
   fun ⟨h1, h2, h3⟩ => h3 ▸ splitOn_joinWith sep l h1 h2⟩

/-- `a, b = s.split(sep)` -/
theorem splitOn_pair_iff {sep : Char} {s a b : Str} :
    splitOn sep s = [a, b] ↔ s = a ++ sep :: b ∧ sep ∉ a ∧ sep ∉ b := by
  rw [splitOn_eq_iff]
  simp only [List.mem_cons, List.not_mem_nil, or_false, forall_eq_or_imp, forall_eq, joinWith, ne_eq,
    List.cons_ne_nil, not_false_eq_true, true_and]
  exact ⟨fun ⟨⟨ha, hb⟩, e⟩ => ⟨e.symm, ha, hb⟩, fun ⟨e, ha, hb⟩ => ⟨⟨ha, hb⟩, e.symm⟩⟩

theorem mem_joinWith {sep c : Char} : ∀ {l : List Str}, c ∈ joinWith sep l → c = sep ∨ ∃ g ∈ l, c ∈ g
  | [], h => by cases h
  | [x], h => .inr ⟨x, List.mem_singleton.mpr rfl, h⟩
  | x :: y :: r, h => by
    rw [joinWith_cons_cons] at h
    rcases List.mem_append.mp h with h | h
    · exact .inr ⟨x, List.mem_cons_self, h⟩
    · rcases List.mem_cons.mp h with h | h
      · exact .inl h
      · rcases mem_joinWith h with h | ⟨g, hg, hc⟩
        · exact .inl h
        · exact .inr ⟨g, List.mem_cons_of_mem _ hg, hc⟩

theorem mem_joinWith_of_mem {sep c : Char} : ∀ {l : List Str} {g : Str}, g ∈ l → c ∈ g → c ∈ joinWith sep l
  | [], _, hg, _ => by cases hg
  | [x], g, hg, hc => by rw [List.mem_singleton.mp hg] at hc; exact hc
  | x :: y :: r, g, hg, hc => by
    rw [joinWith_cons_cons]
    rcases List.mem_cons.mp hg with rfl | hg
    · exact List.mem_append_left _ hc
    · exact List.mem_append_right _ (List.mem_cons_of_mem _ (mem_joinWith_of_mem hg hc))

theorem mem_splitOn_of_mem {sep : Char} {s : Str} {c : Char} (hc : c ∈ s) :
    c = sep ∨ ∃ g ∈ splitOn sep s, c ∈ g :=
  mem_joinWith (by rwa [joinWith_splitOn])

theorem mem_of_mem_splitOn {sep : Char} {s g : Str} {c : Char} (hg : g ∈ splitOn sep s) (hc : c ∈ g) : c ∈ s :=
  joinWith_splitOn sep s ▸ mem_joinWith_of_mem hg hc

theorem count_nil (c : Char) : count c [] = 0 := rfl
theorem count_append (c : Char) (a b : Str) : count c (a ++ b) = count c a + count c b := by
  simp [count, List.filter_append]
theorem count_cons_self (c : Char) (s : Str) : count c (c :: s) = count c s + 1 := by
  simp [count]
theorem count_eq_zero {c : Char} {s : Str} : count c s = 0 ↔ c ∉ s := by
  induction s with
  | nil => simp [count]
  | cons d ds ih =>
    by_cases h : d = c
    · subst h; simp [count]
    · have h' : ¬ c = d := fun e => h e.symm
      simp [count, h, h'] at ih ⊢
      exact ih

theorem splitOn_length (sep : Char) (s : Str) : (splitOn sep s).length = count sep s + 1 := by
  induction s with
  | nil => rfl
  | cons c cs ih =>
    obtain ⟨h, t, e⟩ := splitOn_cons_shape sep cs
    by_cases hc : c = sep
    · subst hc; rw [splitOn_cons_sep, count_cons_self]; simp [ih]
    · rw [splitOn_cons_ne hc e]
      have : count sep (c :: cs) = count sep cs := by simp [count, hc]
      rw [this, ← ih, e]; rfl

theorem rsplitN_zero (sep : Char) (s : Str) : rsplitN sep 0 s = [s] := rfl

theorem rsplitN_succ_append {sep : Char} (n : Nat) (a : Str) {b : Str} (h : sep ∉ b) :
    rsplitN sep (n + 1) (a ++ sep :: b) = rsplitN sep n a ++ [b] := by
  have e := splitOn_append_sep_right a h
  have hne := splitOn_ne_nil sep a
  have hlen : ¬ (splitOn sep a ++ [b]).length ≤ 1 := by
    cases hs : splitOn sep a with
    | nil => exact absurd hs hne
    | cons x t => simp
  simp only [rsplitN, e, hlen, if_false, List.dropLast_concat, joinWith_splitOn]
  congr 1
  simp [List.getLast!_eq_getLast?_getD]

theorem rsplitN_of_not_mem {sep : Char} (n : Nat) {s : Str} (h : sep ∉ s) : rsplitN sep n s = [s] := by
  cases n with
  | zero => rfl
  | succ n => simp [rsplitN, splitOn_of_not_mem h]

theorem exists_last_sep {sep : Char} {s : Str} (h : sep ∈ s) : ∃ a b, s = a ++ sep :: b ∧ sep ∉ b := by
  induction s with
  | nil => cases h
  | cons c cs ih =>
    by_cases hcs : sep ∈ cs
    · obtain ⟨a, b, e, hb⟩ := ih hcs
      exact ⟨c :: a, b, by simp [e], hb⟩
    · rcases List.mem_cons.mp h with rfl | h
      · exact ⟨[], cs, rfl, hcs⟩
      · exact absurd h hcs

theorem joinWith_concat (sep : Char) (x : Str) (r : List Str) (y : Str) :
    joinWith sep (x :: r ++ [y]) = joinWith sep (x :: r) ++ sep :: y := by
  induction r generalizing x with
  | nil => rfl
  | cons z r ih =>
    rw [List.cons_append, List.cons_append, joinWith_cons_cons, ← List.cons_append, ih z, joinWith_cons_cons,
      List.append_assoc, List.cons_append]

theorem rsplitN_succ (sep : Char) (n : Nat) (s : Str) :
    (sep ∉ s ∧ rsplitN sep (n + 1) s = [s]) ∨
      ∃ a b, s = a ++ sep :: b ∧ sep ∉ b ∧ rsplitN sep (n + 1) s = rsplitN sep n a ++ [b] := by
  by_cases hs : sep ∈ s
  · obtain ⟨a, b, rfl, hb⟩ := exists_last_sep hs
    exact .inr ⟨a, b, rfl, hb, rsplitN_succ_append n a hb⟩
  · exact .inl ⟨hs, rsplitN_of_not_mem _ hs⟩

/-- `a, b, c = s.rsplit(sep, 2)` -/
theorem rsplitN_triple_iff {sep : Char} {s a b c : Str} :
    rsplitN sep 2 s = [a, b, c] ↔ s = a ++ sep :: b ++ sep :: c ∧ sep ∉ b ∧ sep ∉ c := by
  constructor
  · intro h
    rcases rsplitN_succ sep 1 s with ⟨_, e⟩ | ⟨a', c', rfl, hc, e⟩
    · cases e.symm.trans h
    · rcases rsplitN_succ sep 0 a' with ⟨_, e'⟩ | ⟨a'', b', rfl, hb, e'⟩
      · rw [e, e'] at h
        cases h
      · rw [e, e', rsplitN_zero] at h
        cases h
        exact ⟨rfl, hb, hc⟩
  · rintro ⟨rfl, hb, hc⟩
    rw [rsplitN_succ_append 1 _ hc, rsplitN_succ_append 0 _ hb, rsplitN_zero]
    rfl

theorem endsWith_iff (s t : Str) : endsWith s t = true ↔ t <:+ s := by
  simp [endsWith]

end PM.C14

namespace PM

theorem split1_append_cons (sep : Char) (a b : Str) (ha : sep ∉ a) : Str.split1 sep (a ++ sep :: b) = [a, b] := by
  induction a with
  | nil => simp [Str.split1]
  | cons c a ih =>
    have hc : c ≠ sep := by intro e; apply ha; simp [e]
    have ha' : sep ∉ a := by intro e; apply ha; simp [e]
    simp only [List.cons_append, Str.split1, hc, if_false]
    rw [ih ha']

theorem split1_of_not_mem (sep : Char) (s : Str) (h : sep ∉ s) : Str.split1 sep s = [s] := by
  induction s with
  | nil => rfl
  | cons c s ih =>
    have hc : c ≠ sep := by intro e; apply h; simp [e]
    have hs : sep ∉ s := by intro e; apply h; simp [e]
    simp only [Str.split1, hc, if_false]
    rw [ih hs]

theorem split1_of_mem (sep : Char) (name : Str) (h : sep ∈ name) : ∃ a b, Str.split1 sep name = [a, b] := by
  obtain ⟨a, b, rfl, ha⟩ := List.eq_append_cons_of_mem h
  exact ⟨a, b, split1_append_cons sep a b ha⟩

theorem split1_spec (sep : Char) (s head tail : Str) (h : Str.split1 sep s = [head, tail]) : s = head ++ sep :: tail := by
  by_cases hm : sep ∈ s
  · obtain ⟨a, b, rfl, ha⟩ := List.eq_append_cons_of_mem hm
    rw [split1_append_cons sep a b ha] at h
    cases h
    rfl
  · rw [split1_of_not_mem sep s hm] at h
    cases h

theorem removeChar_append (c : Char) (a b : Str) : Str.removeChar c (a ++ b) = Str.removeChar c a ++ Str.removeChar c b := by
  simp [Str.removeChar]

theorem removeChar_self_cons (c : Char) (a : Str) : Str.removeChar c (c :: a) = Str.removeChar c a := by
  simp [Str.removeChar]

theorem removeChar_id {c : Char} {u : Str} (h : c ∉ u) : Str.removeChar c u = u := by
  unfold Str.removeChar
  apply List.filter_eq_self.mpr
  intro x hx
  simp only [ne_eq, decide_not, Bool.not_eq_true', decide_eq_false_iff_not]
  intro e; subst e; exact h hx

theorem removeChar_idem (c : Char) (s : Str) : Str.removeChar c (Str.removeChar c s) = Str.removeChar c s := by
  simp [Str.removeChar, List.filter_filter]

end PM
