import ProductMD.Proofs.ComposeId
import ProductMD.Proofs.Nvra
import ProductMD.Proofs.RegexAdequacy
/-!
`get_date_type_respin` on EVERY string: a directly written decoder (`dtrDirect` in `Spec/StrWords.lean`: last 8-digit
window of the first line, then the longest `.letters`, then the longest `.digits`) and the first success of the pattern
in its terms (`dtr_eq`; `C15_decoder_exact` in `Properties/C15.lean` reads the groups).  The direct decoder is only a
description; the model stays the regex.  The leading `.*` tries the cuts of the first line from the right, and `lastWin`
is the first of them that starts an 8-digit window (`lastWin_splits`); `\d{8}` at a position is `isWin` (`first_dtT1`).
-/
namespace PM.IdProof
open PM PM.First PM.Spec PM.Dec PM.NvraProof

theorem isWin_intro {D X : Str} (hD : D.length = 8) (hDd : ∀ x ∈ D, digitCls.mem x = true) : isWin (D ++ X) = true := by
  simp only [isWin, Bool.and_eq_true, decide_eq_true_eq, List.all_eq_true]
  exact ⟨by simp; omega, fun x hx => hDd x (by rwa [List.take_left' hD] at hx)⟩

theorem isWin_spec {t : Str} (h : isWin t = true) :
    (t.take 8).length = 8 ∧ (∀ x ∈ t.take 8, digitCls.mem x = true) ∧ t = t.take 8 ++ t.drop 8 := by
  simp only [isWin, Bool.and_eq_true, decide_eq_true_eq, List.all_eq_true] at h
  exact ⟨by simp; omega, h.2, (List.take_append_drop 8 t).symm⟩

/-- The pattern holds no star, so the fuel of the matcher plays no part: its first success is read off at fuel 0 and turned
into the denotation by `den_sound`. -/
theorem digits8_den (D X : Str) (hD : D.length = 8) (hDd : ∀ x ∈ D, digitCls.mem x = true) : Den digits8 (D ++ X) X := by
  have h : first 0 digits8 ret (D ++ X) [] = some (X, []) := by
    rw [digits8, first_rep_cls]
    show (if isWin (D ++ X) = true then ret ((D ++ X).drop 8) [] else none) = some (X, [])
    rw [if_pos (isWin_intro hD hDd), List.drop_left' hD]
  have hm : X ∈ m 0 digits8 (D ++ X) := List.mem_of_mem_head? (by rw [← first_ret_fst 0 _ _ [], h]; rfl)
  exact den_sound digits8 0 _ X hm

theorem lastWin_splits : ∀ s : Str, lastWin s = (splits (s.takeWhile Cls.any.mem)).findSome? fun p =>
    if isWin (p.2 ++ s.dropWhile Cls.any.mem)
    then some ((p.2 ++ s.dropWhile Cls.any.mem).take 8, (p.2 ++ s.dropWhile Cls.any.mem).drop 8) else none := by
  intro s
  induction s with
  | nil => rfl
  | cons c cs ih =>
    by_cases hc : c = '\n'
    · subst hc
      have : isWin ('\n' :: cs) = false := by simp [isWin, nl_not_digit]
      simp [lastWin, any_nl, splits, this]
    · have hm : Cls.any.mem c = true := (Cls.any_mem c).mpr hc
      have hcs : c :: (cs.takeWhile Cls.any.mem ++ cs.dropWhile Cls.any.mem) = c :: cs := by
        rw [List.takeWhile_append_dropWhile]
      -- one step on both sides: the cuts of `c :: line` are those of `line` with `c` in front, whose search is `lastWin cs`
      -- (`← ih`), and then the cut in front of `c`, whose test is `isWin (c :: cs)` (`hcs` puts the line together again)
      simp only [lastWin, if_neg hc, List.takeWhile_cons, List.dropWhile_cons, hm, if_true, splits,
        List.findSome?_append, List.findSome?_map, Function.comp_def, ← ih, List.findSome?_cons, List.findSome?_nil,
        List.cons_append, hcs]
      cases lastWin cs with
      | some _ => rfl
      | none => cases isWin (c :: cs) <;> rfl

/-- what the optional `(\.(?P<respin>\d+))?` leaves in the captures: groups 3 and 4 when it took part -/
def respinCaps : Option Str → Caps
  | none => []
  | some R => [(3, '.' :: R), (4, R)]

/-- what the optional `(?P<type>\.[a-z]+)?` leaves in the captures: group 2 when it took part -/
def typeCaps : Option Str → Caps
  | none => []
  | some T => [(2, T)]

theorem first_dtT1 (f : Nat) (t : Str) (c : Caps) :
    first f dtT1 ret t c = if isWin t then first f dtT2 ret (t.drop 8) ((1, t.take 8) :: c) else none := by
  rw [dtT1, first_cat, dtDate, first_group, digits8, first_rep_cls f _ c digitCls 7 t, isWin]
  split
  · rw [take_sub_of_eq (List.take_append_drop 8 t).symm]
  · rfl

theorem first_anyStar (f : Nat) (Y : Str) (c : Caps) (hf : Y.length ≤ f) :
    ∃ rest, first f anyStar ret Y c = some (rest, c) :=
  ⟨_, by rw [anyStar, first_star_cls _ _ _ _ _ hf, findSome?_splits_some _ _ rfl]⟩

theorem first_dtT3 (f : Nat) (Y : Str) (c : Caps) (hf : Y.length ≤ f) :
    ∃ rest, first f dtT3 ret Y c = some (rest, respinCaps (respinSplit Y) ++ c) := by
  rw [dtT3, first_cat, first_alt, first_eps, dtRespin, first_group, first_cat, first_lit]
  cases Y with
  | nil => exact first_anyStar f [] c hf
  | cons c0 l =>
    by_cases hc0 : c0 = '.'
    · subst hc0
      have hl : (l.dropWhile digitCls.mem).length ≤ f :=
        Nat.le_trans (List.dropWhile_sublist _).length_le (Nat.le_of_succ_le hf)
      simp only [if_true]
      -- what follows `\d+` ends in `.*` and accepts any rest, so the greedy `+` keeps the whole run (`first_plus`)
      rw [dtNum, first_group, first_plus _ _ _ _ _ (Nat.le_of_succ_le hf)
        (by obtain ⟨rest, h⟩ := first_anyStar f _ _ hl; rw [h]; rfl)]
      cases hR : l.takeWhile digitCls.mem with
      | nil =>
        have : respinSplit ('.' :: l) = none := by simp [respinSplit, hR]
        rw [if_pos rfl, this]
        exact first_anyStar f _ c hf
      | cons d0 ds =>
        have : respinSplit ('.' :: l) = some (d0 :: ds) := by simp [respinSplit, hR]
        have hs : '.' :: l = ('.' :: d0 :: ds) ++ l.dropWhile digitCls.mem := by
          rw [← hR, List.cons_append, List.takeWhile_append_dropWhile]
        rw [if_neg (by simp), this, take_sub_of_eq hs, take_sub_of_eq List.takeWhile_append_dropWhile.symm, hR]
        obtain ⟨rest, hrest⟩ := first_anyStar f (l.dropWhile digitCls.mem) ((3, '.' :: d0 :: ds) :: (4, d0 :: ds) :: c) hl
        exact ⟨rest, by rw [hrest]; rfl⟩
    · have : respinSplit (c0 :: l) = none := by simp [respinSplit, hc0]
      simp only [if_neg hc0, this]
      exact first_anyStar f _ c hf

theorem first_dtT2 (f : Nat) (X : Str) (c : Caps) (hf : X.length ≤ f) :
    ∃ rest, first f dtT2 ret X c = some (rest, respinCaps (respinSplit (typeSplit X).2) ++ (typeCaps (typeSplit X).1 ++ c)) := by
  rw [dtT2, first_cat, first_alt, first_eps, dtType, first_group, dtTypeIn, first_cat, first_lit]
  cases X with
  | nil => exact first_dtT3 f [] c hf
  | cons c0 l =>
    by_cases hc0 : c0 = '.'
    · subst hc0
      have hl : (l.dropWhile lowerCls.mem).length ≤ f :=
        Nat.le_trans (List.dropWhile_sublist _).length_le (Nat.le_of_succ_le hf)
      simp only [if_true]
      rw [first_plus _ _ _ _ _ (Nat.le_of_succ_le hf) (by obtain ⟨rest, h⟩ := first_dtT3 f _ _ hl; rw [h]; rfl)]
      cases hL : l.takeWhile lowerCls.mem with
      | nil =>
        have : typeSplit ('.' :: l) = (none, '.' :: l) := by simp [typeSplit, hL]
        rw [if_pos rfl, this]
        exact first_dtT3 f _ c hf
      | cons l0 ls =>
        have : typeSplit ('.' :: l) = (some ('.' :: l0 :: ls), l.dropWhile lowerCls.mem) := by simp [typeSplit, hL]
        have hs : '.' :: l = ('.' :: l0 :: ls) ++ l.dropWhile lowerCls.mem := by
          rw [← hL, List.cons_append, List.takeWhile_append_dropWhile]
        rw [if_neg (by simp), this, take_sub_of_eq hs]
        obtain ⟨rest, hrest⟩ := first_dtT3 f _ ((2, '.' :: l0 :: ls) :: c) hl
        exact ⟨rest, by rw [hrest]; rfl⟩
    · have : typeSplit (c0 :: l) = (none, c0 :: l) := by simp [typeSplit, hc0]
      simp only [if_neg hc0, this]
      exact first_dtT3 f _ c hf

theorem dtr_eq (s : Str) : pyMatch Spec.dtr s = (lastWin s).map fun DX =>
    respinCaps (respinSplit (typeSplit DX.2).2) ++ (typeCaps (typeSplit DX.2).1 ++ [(1, DX.1)]) := by
  have hpy : pyMatch Spec.dtr s = (first s.length Spec.dtr ret s []).map (·.2) := by rw [pyMatch, head?_eq_first]
  rw [hpy, Spec.dtr, first_cat, anyStar, first_star_cls _ _ _ _ _ (Nat.le_refl _), lastWin_splits, List.map_findSome?,
    List.map_findSome?]
  -- cut by cut: where a window starts, the rest of the pattern always succeeds (`first_dtT2`), so that cut is the answer
  refine findSome?_congr fun p hp => ?_
  have hlen := congrArg List.length (List.takeWhile_append_dropWhile (p := Cls.any.mem) (l := s))
  rw [splits_eq hp] at hlen
  simp only [Function.comp, first_dtT1]
  split
  · obtain ⟨rest, h⟩ := first_dtT2 s.length ((p.2 ++ s.dropWhile Cls.any.mem).drop 8) [(1, (p.2 ++ s.dropWhile Cls.any.mem).take 8)]
      (by simp at hlen ⊢; omega)
    rw [h]; rfl
  · rfl

/-! `lastWin` on `prefix ++ date ++ [.letters] ++ [.respin]`: the search is walked piece by piece.  "No later window" is
itself a search, `lastWin (D.drop 1 ++ X) = none`. -/

theorem lastWin_skip {c : Char} {t : Str} (hc : digitCls.mem c = false) (ht : lastWin t = none) :
    lastWin (c :: t) = none := by
  simp [lastWin, ht, isWin, hc]

/-- the body of `isWin` with the window length `n` as a variable: the induction shortens it -/
theorem isWin_short : ∀ (w : Str) (n : Nat) {t : Str}, w.length < n → (∀ a t', t = a :: t' → digitCls.mem a = false) →
    (decide (n ≤ (w ++ t).length) && ((w ++ t).take n).all digitCls.mem) = false := by
  intro w
  induction w with
  | nil =>
    intro n t hn ht
    cases t with
    | nil =>
      simp
      omega
    | cons a t' =>
      cases n with
      | zero => cases hn
      | succ k => simp [ht a t' rfl]
  | cons d w ih =>
    intro n t hn ht
    cases n with
    | zero => cases hn
    | succ k =>
      simp only [List.cons_append, List.length_cons, List.take_succ_cons, List.all_cons, Nat.add_le_add_iff_right]
      rw [Bool.and_left_comm, ih k (Nat.lt_of_succ_lt_succ hn) ht, Bool.and_false]

theorem lastWin_run : ∀ (w : Str) {t : Str}, w.length < 8 → (∀ a t', t = a :: t' → digitCls.mem a = false) →
    lastWin t = none → lastWin (w ++ t) = none := by
  intro w
  induction w with
  | nil => intro t _ _ h; exact h
  | cons d w ih =>
    intro t hw ht h
    have hwin : isWin (d :: (w ++ t)) = false := isWin_short (d :: w) 8 hw ht
    simp only [List.cons_append, lastWin, ih (Nat.lt_of_succ_lt hw) ht h, hwin]
    split <;> rfl

theorem lastWin_free : ∀ (A : Str) {t : Str}, (∀ x ∈ A, digitCls.mem x = false) → lastWin t = none →
    lastWin (A ++ t) = none := by
  intro A
  induction A with
  | nil => intro t _ h; exact h
  | cons a A ih =>
    intro t hA h
    exact lastWin_skip (hA a List.mem_cons_self) (ih (fun x hx => hA x (List.mem_cons_of_mem _ hx)) h)

theorem lastWin_append : ∀ {u t : Str} {p : Str × Str}, '\n' ∉ u → lastWin t = some p → lastWin (u ++ t) = some p := by
  intro u
  induction u with
  | nil => intro t p _ h; exact h
  | cons c u ih =>
    intro t p hu h
    have hc : c ≠ '\n' := fun e => hu (by rw [e]; exact List.mem_cons_self)
    simp only [List.cons_append, lastWin, if_neg hc, ih (fun hm => hu (List.mem_cons_of_mem _ hm)) h]

theorem lastWin_here {D X : Str} (hD : D.length = 8) (hDd : ∀ x ∈ D, digitCls.mem x = true)
    (hl : lastWin (D.drop 1 ++ X) = none) : lastWin (D ++ X) = some (D, X) := by
  match D, hD with
  | d0 :: D', hD =>
    have hd0 : d0 ≠ '\n' := fun e => by
      have := hDd d0 List.mem_cons_self
      rw [e, nl_not_digit] at this; cases this
    have hwin : isWin (d0 :: D' ++ X) = true := isWin_intro hD hDd
    simp only [List.cons_append, lastWin, if_neg hd0, show lastWin (D' ++ X) = none from hl]
    rw [← List.cons_append, if_pos hwin, List.take_left' hD, List.drop_left' hD]

/-- a respin of at most 7 digits holds no window; with 8 or more it would itself contain the last one (finding F10) -/
theorem lastWin_respStr (r : Option Nat) (hr : ∀ n, r = some n → n < 10 ^ 7) : lastWin (respStr r) = none := by
  cases r with
  | none => rfl
  | some n =>
    have := lastWin_run (Str.natStr n) (t := []) (Nat.lt_succ_of_le (natStr_len n 7 (by decide) (hr n rfl))) nofun rfl
    rw [List.append_nil] at this
    exact lastWin_skip dot_not_digit this

theorem lastWin_fmt (P D L : Str) (r : Option Nat) (hP : '\n' ∉ P) (hD : D.length = 8)
    (hDd : ∀ x ∈ D, digitCls.mem x = true) (hL : ∀ x ∈ L, lowerCls.mem x = true) (hr : ∀ n, r = some n → n < 10 ^ 7) :
    lastWin (P ++ (D ++ (sufStr L ++ respStr r))) = some (D, sufStr L ++ respStr r) := by
  refine lastWin_append hP (lastWin_here hD hDd (lastWin_run _ (by simp; omega) ?_
    (lastWin_free _ (sufStr_not_digit hL) (lastWin_respStr r hr))))
  -- what follows the date is empty or starts with `.`
  intro a t' h
  cases L with
  | cons l ls => cases h; exact dot_not_digit
  | nil =>
    cases r with
    | none => cases h
    | some n => cases h; exact dot_not_digit

theorem typeSplit_some {X t : Str} (h : (typeSplit X).1 = some t) : ∃ L, t = '.' :: L := by
  cases X with
  | nil => simp [typeSplit] at h
  | cons c l =>
    simp only [typeSplit] at h
    split at h
    · simp at h; exact ⟨_, h.symm⟩
    · simp at h

theorem typeSplit_fmt (L : Str) (r : Option Nat) (hL : ∀ x ∈ L, lowerCls.mem x = true) :
    typeSplit (sufStr L ++ respStr r) = (if L = [] then none else some ('.' :: L), respStr r) := by
  cases L with
  | nil =>
    cases r with
    | none => rfl
    | some n =>
      -- `.digits` is not a type: the first digit is no letter
      have : (Str.natStr n).takeWhile lowerCls.mem = [] := by
        cases hs : Str.natStr n with
        | nil => rfl
        | cons d0 ds => simp [(natStr_dig n d0 (by rw [hs]; exact List.mem_cons_self)).not_lower]
      simp [sufStr, respStr, typeSplit, this]
  | cons l0 ls =>
    have hdot : ∀ x t', respStr r = x :: t' → lowerCls.mem x = false := by
      intro x t' h
      cases r with
      | none => cases h
      | some n => cases h; exact dot_not_lower
    obtain ⟨h1, h2⟩ := span_run lowerCls.mem (l0 :: ls) (respStr r) hL hdot
    simp only [sufStr, List.cons_append, typeSplit] at h1 h2 ⊢
    simp [h1, h2]

theorem respinSplit_fmt (r : Option Nat) : respinSplit (respStr r) = r.map Str.natStr := by
  cases r with
  | none => rfl
  | some n =>
    obtain ⟨h1, _⟩ := span_run digitCls.mem (Str.natStr n) [] (fun c hc => (natStr_dig n c hc).cls) (fun _ _ h => by cases h)
    rw [List.append_nil] at h1
    simp [respStr, respinSplit, h1, natStr_ne_nil n]

end PM.IdProof
