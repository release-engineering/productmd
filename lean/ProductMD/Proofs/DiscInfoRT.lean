import ProductMD.Proofs.TreeInfoStr
import ProductMD.Model.DiscInfo
/-!
discinfo: the four lines through `"\n".join` / `readlines()`, and the comma list of disc numbers through
`str(int)` / `split(",")` / `int(str)`; the cycle is `loads_dumps`.
-/
namespace PM
namespace DI
open Str TI

/-- a decimal numeral is not empty and made of characters between `'-'` and `'9'` (digits and the sign) -/
theorem intStr_range (x : Int) : intStr x ≠ [] ∧ ∀ c ∈ intStr x, 45 ≤ c.toNat ∧ c.toNat ≤ 57 := by
  have hnat : ∀ n, ∀ c ∈ natStr n, 45 ≤ c.toNat ∧ c.toNat ≤ 57 := fun n c hc => by
    have := (Dec.natStr_dig n c hc).toNat
    omega
  cases x with
  | ofNat n => exact ⟨(Dec.natStr_spec n).1, hnat n⟩
  | negSucc n =>
    refine ⟨by simp [intStr], fun c hc => ?_⟩
    rcases List.mem_cons.mp hc with rfl | hc
    · decide
    · exact hnat _ c hc

/-- The alphabet of the line of disc numbers: every character lies between `','` and `'9'`.  So the line has no blank and no
line feed, and is not `ALL`. -/
theorem discsLine_range (ns : List Int) : ∀ c ∈ joinWith ',' (ns.map intStr), 44 ≤ c.toNat ∧ c.toNat ≤ 57 := by
  intro c h
  rcases C14.mem_joinWith h with rfl | ⟨x, hx, hc⟩
  · decide
  · obtain ⟨n, _, rfl⟩ := List.mem_map.mp hx
    have := (intStr_range n).2 c hc
    omega

theorem mapMInt_intStr : ∀ ns : List Int, mapMInt (ns.map intStr) = .ok ns
  | [] => rfl
  | n :: ns => by simp [mapMInt, pyInt_intStr, mapMInt_intStr ns]

theorem discsStr_readback (discs : Discs) (hd : discs = .all ∨ ∃ ns, discs = .nums ns ∧ ns ≠ []) :
    '\n' ∉ discsStr discs ∧ discsStr discs ≠ [] ∧ Str.strip (discsStr discs) = discsStr discs ∧
      readDiscs (discsStr discs) = .ok discs := by
  rcases hd with rfl | ⟨ns, rfl, hne⟩
  · exact ⟨by decide, by decide, by decide, rfl⟩
  · have hr := discsLine_range ns
    obtain ⟨n, r, rfl⟩ := List.exists_cons_of_ne_nil hne
    obtain ⟨c, hc⟩ := List.exists_mem_of_ne_nil _ (intStr_range n).1
    have hne' : joinWith ',' ((n :: r).map intStr) ≠ [] :=
      List.ne_nil_of_mem (C14.mem_joinWith_of_mem (List.mem_map_of_mem List.mem_cons_self) hc)
    refine ⟨fun h => absurd (hr _ h).1 (by decide), hne', strip_of_no_space fun c hc => ?_, ?_⟩
    · have := hr c hc
      simp only [isPySpace, Bool.or_eq_false_iff, Bool.and_eq_false_iff, decide_eq_false_iff_not, beq_eq_false_iff_ne, ne_eq]
      omega
    · have hall : (joinWith ',' ((n :: r).map intStr) == "ALL".toList) = false :=
        beq_eq_false_iff_ne.mpr fun e => absurd (hr 'A' (e ▸ by decide)).2 (by decide)
      have hsplit := C14.splitOn_joinWith ',' ((n :: r).map intStr) (by simp) fun x hx hm => by
        obtain ⟨m, _, rfl⟩ := List.mem_map.mp hx
        exact absurd ((intStr_range m).2 ',' hm) (by decide)
      simp only [discsStr, readDiscs, List.isEmpty_eq_false_iff.mpr hne', hall, Bool.or_self, Bool.false_eq_true, if_false,
        hsplit, mapMInt_intStr, Except.map]

theorem fileLines_join (lines : List Str) (hne : lines ≠ []) (hnl : ∀ l ∈ lines, '\n' ∉ l)
    (hlast : ∀ l, lines.getLast? = some l → l ≠ []) : IniParse.fileLines (joinWith '\n' lines) = lines := by
  unfold IniParse.fileLines
  rw [C14.splitOn_joinWith '\n' lines hne hnl]
  have hno : ¬ lines.getLast? = some [] := fun e => hlast [] e rfl
  have : (lines.getLast? == some ([] : Str)) = false := by
    simp only [beq_eq_false_iff_ne, ne_eq]; exact hno
  simp [this]

theorem dumps_ok {x : DiscInfo} {text : Str} (h : dumps x = .ok text) :
    validateClass "discinfo.DiscInfo" (obj x) = .ok () ∧
      text = buildFile [Str.strip x.timestamp, Str.strip x.description, Str.strip x.arch, discsStr x.discs] := by
  unfold dumps serialize at h
  cases hv : validateClass "discinfo.DiscInfo" (obj x) with
  | error e => rw [hv] at h; cases h
  | ok u =>
    rw [hv] at h
    cases u
    exact ⟨rfl, (Except.ok.inj h).symm⟩

theorem deserialize_lines (fo : FloatOracle) {ts desc arch ds : Str} {discs : Discs}
    (hts : fo.reprOfFloatStr ts = .ok ts) (hts1 : Str.strip ts = ts) (hdesc : Str.strip desc = desc)
    (hq : stripQuotes desc = desc) (harch : Str.strip arch = arch) (hds : Str.strip ds = ds) (hread : readDiscs ds = .ok discs)
    (hv : validateClass "discinfo.DiscInfo" (obj ⟨ts, desc, arch, discs⟩) = .ok ()) :
    deserialize fo ([ts, desc, arch, ds].map Str.strip) = .ok ⟨ts, desc, arch, discs⟩ := by
  simp only [List.map, deserialize, hts1, hdesc, harch, hts, hq, hds, hread]
  rw [hv]

/-- the hypotheses are explained at `C04_disc_readback` -/
theorem loads_dumps (fo : FloatOracle) (x : DiscInfo) (text : Str) (h : dumps x = .ok text)
    (hts : fo.reprOfFloatStr x.timestamp = .ok x.timestamp) (hts1 : Str.strip x.timestamp = x.timestamp ∧ '\n' ∉ x.timestamp)
    (hdesc : Str.strip x.description = x.description ∧ '\n' ∉ x.description) (hq : stripQuotes x.description = x.description)
    (harch : Str.strip x.arch = x.arch ∧ '\n' ∉ x.arch)
    (hd : x.discs = .all ∨ ∃ ns, x.discs = .nums ns ∧ ns ≠ []) :
    loads fo text = .ok x := by
  obtain ⟨hv, rfl⟩ := dumps_ok h
  obtain ⟨ts, desc, arch, discs⟩ := x
  simp only at hts hts1 hdesc hq harch hd hv
  obtain ⟨hdsnl, hdsne, hdstrip, hread⟩ := discsStr_readback discs hd
  -- the text falls back into the four lines it was joined from
  have hlines : IniParse.fileLines (buildFile [ts, desc, arch, discsStr discs]) = [ts, desc, arch, discsStr discs] := by
    apply fileLines_join
    · exact List.cons_ne_nil _ _
    · intro l hl
      simp only [List.mem_cons, List.mem_nil_iff, or_false] at hl
      rcases hl with rfl | rfl | rfl | rfl
      · exact hts1.2
      · exact hdesc.2
      · exact harch.2
      · exact hdsnl
    · intro l hl
      obtain rfl : discsStr discs = l := by simpa using hl
      exact hdsne
  unfold loads parseFile
  rw [hts1.1, hdesc.1, harch.1, hlines]
  exact deserialize_lines fo hts hts1.1 hdesc.1 hq harch.1 hdstrip hread hv

end DI
end PM
