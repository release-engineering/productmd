import ProductMD.Proofs.StrSort
import ProductMD.Proofs.TreeInfoText
import ProductMD.Proofs.PermR
/-!
When the writer cannot tell two trees apart - `t'` passes the validators `t` passes, the look-ups of `[general]` carry over, the
sections are the same up to the order in which sections and options were created, which `SortedConfigParser.write` does not
show - a dump of `t` that succeeds is a dump of `t'` that succeeds, with the same bytes (`serialize_transfer`; C08 uses it at a
rearrangement, C04 at the normal form).  Then the normal form: the document written for `norm t` has the sections of the one
written for `t`.
-/
namespace PM
namespace TI
open Ini

theorem render_of_CE {A B : List (Str × IniSec)} (h : CE A B) (hA : Fresh [] (A.map (·.1))) :
    IniText.render A.reverse = IniText.render B.reverse := by
  have hr := Fresh.empty.mp (hA.of_perm ((List.reverse_perm A).map (·.1)))
  exact render_congr (((List.reverse_perm _).map _).trans (h.trans ((List.reverse_perm _).map _).symm)) hr.1
    (Assoc.lookup_none_iff.mpr hr.2)

/-- `hm`: `Media.serialize` calls `int()` on both numbers whenever it writes the section -/
theorem serialize_transfer {t t' : TreeInfo} {mv : Option Str} {d : Ini} (h : serialize t mv = .ok d)
    (hv : WriteValid t → WriteValid t')
    (hm : mediaOn t'.discnum t'.totaldiscs = true → mediaOn t.discnum t.totaldiscs = true ∧
      (t.discnum.isSome ∧ t.totaldiscs.isSome → t'.discnum.isSome ∧ t'.totaldiscs.isSome))
    (hg : ∀ n key v, t.tree.ts.toInt = .ok n → chosenKey t.variants mv = .ok key → getItem (key.length + 1) t.variants key = .ok v →
      ∃ v', t'.tree.ts.toInt = .ok n ∧ chosenKey t'.variants mv = .ok key ∧ getItem (key.length + 1) t'.variants key = .ok v' ∧
        CE (docList t' (generalOpts t' n key v')) (docList t (generalOpts t n key v))) :
    ∃ d', serialize t' mv = .ok d' ∧ IniText.render d' = IniText.render d := by
  obtain ⟨n, key, v, hn, hkey, hch, ⟨wv, hmed⟩, hf, rfl⟩ := (serialize_iff t mv d).mp h
  obtain ⟨v', hn', hkey', hch', hce⟩ := hg n key v hn hkey hch
  have hf' : Fresh [] ((docList t' (generalOpts t' n key v')).map (·.1)) := hf.of_perm hce.names
  exact ⟨_, (serialize_iff t' mv _).mpr ⟨n, key, v', hn', hkey', hch', ⟨hv wv, fun h => (hm h).2 (hmed (hm h).1)⟩, hf', rfl⟩,
    render_of_CE hce hf'⟩

/-- the same image table entry: same platform, the images a rearrangement -/
def ImgR (p q : Str × List (Str × Str)) : Prop := p.1 = q.1 ∧ p.2.Perm q.2

theorem imgFlat_CE {images images' : List (Str × List (Str × Str))} (h : PermR ImgR images images')
    (hn : ∀ p ∈ images, (p.2.map (·.1)).Nodup) : CE (imgFlat images') (imgFlat images) := by
  unfold CE
  rw [imgFlat_eq, imgFlat_eq, List.map_reverse, List.map_reverse]
  refine (List.reverse_perm _).trans (List.Perm.trans ?_ (List.reverse_perm _).symm)
  rw [List.map_map, List.map_map]
  refine (PermR.map_perm _ ?_ (h.strengthen hn)).symm
  intro a b ⟨⟨h1, h2⟩, hna⟩
  have hnb : (b.2.map (·.1)).Nodup := (h2.map (·.1)).nodup_iff.mp hna
  simp only [Function.comp, canonSec]
  rw [setsKV_nil_nodup _ hna, setsKV_nil_nodup _ hnb, h1]
  congr 1
  exact sortBy_perm_eq (·.1) h2 hna

theorem checksums_CE {cs cs' : List (Str × Str × Str)} (h : cs.Perm cs') (hn : (cs.map (·.1)).Nodup) :
    CE (optSec (!cs'.isEmpty) sChecksums (checksumOpts cs')) (optSec (!cs.isEmpty) sChecksums (checksumOpts cs)) := by
  have hn' : (cs'.map (·.1)).Nodup := (h.map (·.1)).nodup_iff.mp hn
  rw [isEmpty_eq_of_length h.length_eq.symm]
  cases hc : cs.isEmpty
  · unfold CE optSec
    simp only [Bool.not_false, if_true, List.map_cons, List.map_nil, canonSec]
    apply List.Perm.of_eq
    congr 2
    rw [checksumOpts_eq _ hn, checksumOpts_eq _ hn']
    unfold sortKV
    apply sortBy_perm_eq
    · exact (h.map csOpt).symm
    · have : (cs'.map csOpt).map (fun x => x.1) = cs'.map (fun x => x.1) := by
        simp [List.map_map, Function.comp_def, csOpt]
      rw [this]; exact hn'
  · simp [optSec, CE]

theorem getItem_top {vs : List Variant} {v : Variant} {k : Str} (hn : (vs.map Variant.key).Nodup) (hv : v ∈ vs) (hk : v.key = k) :
    getItem (k.length + 1) vs k = .ok v := by
  rw [getItem, find_of_mem_nodup Variant.key vs v k hn hv hk]

theorem chosenKey_of_keys {l l' : List Variant} (h : (l.map Variant.key).Perm (l'.map Variant.key)) (mv : Option Str) :
    chosenKey l mv = chosenKey l' mv := by
  unfold chosenKey
  cases mv with
  | some m => rfl
  | none => simp only [sortS_perm_eq h]

theorem chosen_top {t : TreeInfo} {mv : Option Str} {key : Str} (hm : MainVariantTop t mv)
    (hkey : chosenKey t.variants mv = .ok key) : ∃ v ∈ t.variants, v.key = key := by
  unfold chosenKey at hkey
  cases mv with
  | some m => simp only at hkey; injection hkey with e; subst e; exact hm m rfl
  | none =>
    simp only at hkey
    cases hs : sortS (t.variants.map Variant.key) with
    | nil => rw [hs] at hkey; cases hkey
    | cons k r =>
      rw [hs] at hkey
      injection hkey with e; subst e
      have : k ∈ sortS (t.variants.map Variant.key) := by rw [hs]; exact List.mem_cons_self ..
      obtain ⟨v, hv, hvk⟩ := List.mem_map.mp ((mem_sortS _ k).mp this)
      exact ⟨v, hv, hvk⟩

theorem norm_uids (b : Bool) (vs : List Variant) :
    ((sortBy Variant.uid (vs.map (normV b))).map Variant.uid).Perm (vs.map Variant.uid) := by
  refine ((sortBy_perm _ _).map _).trans (List.Perm.of_eq ?_)
  rw [List.map_map]
  exact List.map_congr_left fun v _ => normV_uid b v

theorem baseOpts_pathOpts (pu : Option Str) (id uid name type : Str) (paths : List (Str × Str)) :
    baseOpts pu id uid name type (pathOpts paths) = baseOpts pu id uid name type paths := by
  unfold baseOpts; rw [pathOpts_idem]

theorem varOpts_normV (pu : Option Str) (b : Bool) (w : Variant) : varOpts pu (normV b w) = varOpts pu w := by
  obtain ⟨key, id, uid, name, type, paths, kids⟩ := w
  have hemp : (sortBy Variant.uid (normVs kids)).isEmpty = kids.isEmpty := by
    rw [(sortBy_perm Variant.uid (normVs kids)).isEmpty_eq]
    cases kids <;> rfl
  have huids : ((sortBy Variant.uid (normVs kids)).map Variant.uid).Perm (kids.map Variant.uid) := by
    rw [normVs_eq_map]
    exact norm_uids false kids
  simp only [normV, varOpts, hemp, baseOpts_pathOpts, Str.sortDedup_perm huids]

theorem flatVs_append (pu : Option Str) : ∀ (a b : List Variant), flatVs pu (a ++ b) = flatVs pu b ++ flatVs pu a
  | [], b => by simp [flatVs]
  | v :: a, b => by simp [flatVs, flatVs_append pu a b]

theorem flatVs_perm (pu : Option Str) {vs vs' : List Variant} (h : vs.Perm vs') : (flatVs pu vs).Perm (flatVs pu vs') := by
  induction h with
  | nil => exact List.Perm.refl _
  | cons x _ ih => simp only [flatVs]; exact ih.append_right _
  | swap x y l =>
    simp only [flatVs, List.append_assoc]
    exact List.Perm.append_left _ List.perm_append_comm
  | trans _ _ ih1 ih2 => exact ih1.trans ih2

mutual
theorem flatV_norm : ∀ (w : Variant) (pu : Option Str) (b : Bool), (flatV pu (normV b w)).Perm (flatV pu w)
  | .mk key id uid name type paths kids, pu, b => by
    have hv := varOpts_normV pu b (.mk key id uid name type paths kids)
    simp only [normV] at hv
    simp only [normV, flatV, hv]
    apply List.Perm.append_right
    exact (flatVs_perm (some uid) (sortBy_perm Variant.uid (normVs kids))).trans (flatVs_norm kids (some uid))
theorem flatVs_norm : ∀ (vs : List Variant) (pu : Option Str), (flatVs pu (normVs vs)).Perm (flatVs pu vs)
  | [], _ => List.Perm.refl _
  | v :: vs, pu => by
    simp only [normVs, flatVs]
    exact (flatVs_norm vs pu).append (flatV_norm v pu false)
end

theorem flatVs_normTops : ∀ (vs : List Variant) (pu : Option Str), (flatVs pu (normTops vs)).Perm (flatVs pu vs)
  | [], _ => List.Perm.refl _
  | v :: vs, pu => by
    simp only [normTops, flatVs]
    exact (flatVs_normTops vs pu).append (flatV_norm v pu true)

theorem norm_media_of_on {t : TreeInfo} (h : mediaOn t.discnum t.totaldiscs = true) :
    (norm t).discnum = t.discnum ∧ (norm t).totaldiscs = t.totaldiscs := by
  have off : (!intTruthy t.discnum && !intTruthy t.totaldiscs) = false := by
    rw [← Bool.not_or]
    exact congrArg (!·) h
  simp only [norm, off, Bool.false_eq_true, if_false, and_self]

theorem mediaOn_norm (t : TreeInfo) : mediaOn (norm t).discnum (norm t).totaldiscs = mediaOn t.discnum t.totaldiscs := by
  cases h : mediaOn t.discnum t.totaldiscs with
  | true => rw [(norm_media_of_on h).1, (norm_media_of_on h).2, h]
  | false =>
    have off : (!intTruthy t.discnum && !intTruthy t.totaldiscs) = true := by
      rw [← Bool.not_or]
      exact congrArg (!·) h
    simp only [norm, off, if_true]
    rfl

theorem media_norm_sec (t : TreeInfo) :
    optSec (mediaOn (norm t).discnum (norm t).totaldiscs) sMedia (mediaOpts (norm t).discnum (norm t).totaldiscs)
      = optSec (mediaOn t.discnum t.totaldiscs) sMedia (mediaOpts t.discnum t.totaldiscs) := by
  rw [mediaOn_norm]
  cases h : mediaOn t.discnum t.totaldiscs with
  | true => rw [(norm_media_of_on h).1, (norm_media_of_on h).2]
  | false => simp only [optSec, Bool.false_eq_true, if_false]

theorem stage2_norm_sec (m i : Option Str) :
    optSec (stage2On (normOpt m) (normOpt i)) sStage2 (stage2Opts (normOpt m) (normOpt i)) = optSec (stage2On m i) sStage2 (stage2Opts m i) := by
  unfold stage2On stage2Opts
  rw [optTruthy_normOpt, optTruthy_normOpt]
  unfold normOpt
  cases hm : optTruthy m <;> cases hi : optTruthy i <;> simp

theorem images_norm_same (images : List (Str × List (Str × Str))) : PermR ImgR images (sortKV (images.map imgNorm)) :=
  PermR.trans (fun _ _ _ h1 h2 => ⟨h1.1.trans h2.1, h1.2.trans h2.2⟩)
    (PermR.of_all2 (All2.map_right imgNorm (fun p => ⟨rfl, (sortKV_perm p.2).symm⟩) images))
    (PermR.of_perm (fun _ => ⟨rfl, List.Perm.refl _⟩) (sortKV_perm _).symm)

theorem platformsStr_norm (t : TreeInfo) : platformsStr (norm t).tree = platformsStr t.tree := by
  unfold platformsStr
  simp only [norm]
  rw [Str.sortDedup_idem_append _ _ (by simp)]

theorem tree_norm_opts (t : TreeInfo) : treeOptsFull (norm t) = treeOptsFull t := by
  unfold treeOptsFull treeOpts
  rw [platformsStr_norm, sortS_perm_eq (l₂ := t.variants.map Variant.uid)]
  · rfl
  · show ((sortBy Variant.uid (normTops t.variants)).map Variant.uid).Perm _
    rw [normTops_eq_map]
    exact norm_uids true _

theorem base_norm (t : TreeInfo) : baseL (norm t) = baseL t := by
  unfold baseL
  simp only [norm]
  by_cases h : t.isLayered = true <;> simp [h]

theorem docList_norm (t : TreeInfo) (g : IniSec) (hcs : (t.checksums.map (·.1)).Nodup)
    (himg : ∀ p ∈ t.images, (p.2.map (·.1)).Nodup) : CE (docList (norm t) g) (docList t g) := by
  unfold docList
  refine CE.append CE.rfl' (CE.append ?_ (CE.append ?_ (CE.append ?_ (CE.append ?_ (CE.append ?_ (CE.append ?_ (CE.append ?_ ?_)))))))
  · exact CE.of_eq (media_norm_sec t)
  · exact CE.of_eq (by simp only [norm]; exact stage2_norm_sec _ _)
  · simp only [norm]; exact imgFlat_CE (images_norm_same _) himg
  · simp only [norm]; exact checksums_CE (sortKV_perm _).symm hcs
  · simp only [norm]; exact CE.of_perm ((flatVs_perm none (sortBy_perm Variant.uid _)).trans (flatVs_normTops _ none))
  · exact CE.of_eq (by rw [tree_norm_opts])
  · exact CE.of_eq (base_norm t)
  · exact CE.of_eq (by simp only [norm])

theorem norm_tops_keys (tops : List Variant) (hk : TopKeyedByUid tops) :
    ((sortBy Variant.uid (normTops tops)).map Variant.key).Perm (tops.map Variant.key) := by
  have h1 := (sortBy_perm Variant.uid (normTops tops)).map Variant.key
  have h2 : (normTops tops).map Variant.key = tops.map Variant.key := by
    rw [normTops_eq_map, List.map_map]
    apply List.map_congr_left
    intro v hv
    simp [Function.comp, normV_key, hk v hv]
  rw [h2] at h1; exact h1

theorem generalPath_pathOpts (arch : Str) (paths : List (Str × Str)) (f sf : Str)
    (hf : f ∈ Gen.TREEINFO_PATH_FIELDS) (hsf : sf ∈ Gen.TREEINFO_PATH_FIELDS) :
    generalPath arch (pathOpts paths) f sf = generalPath arch paths f sf := by
  unfold generalPath
  rw [pathOpts_lookup _ _ hf, pathOpts_lookup _ _ hsf]

theorem normV_paths (b : Bool) (w : Variant) : (normV b w).paths = pathOpts w.paths := by cases w; rfl

theorem getItem_norm_top {t : TreeInfo} {v : Variant} {key : Str} (hk : TopKeyedByUid t.variants) (hnd : UidsNodup t.variants)
    (hv : v ∈ t.variants) (hvk : v.key = key) :
    getItem (key.length + 1) t.variants key = .ok v ∧ getItem (key.length + 1) (norm t).variants key = .ok (normV true v) := by
  have hkn : (t.variants.map Variant.key).Nodup := by
    rw [List.map_congr_left (fun v hv => hk v hv)]; exact tops_uids_nodup hnd
  refine ⟨getItem_top hkn hv hvk, getItem_top ((norm_tops_keys t.variants hk).nodup_iff.mpr hkn) ?_ ?_⟩
  · show normV true v ∈ sortBy Variant.uid (normTops t.variants)
    rw [mem_sortBy, normTops_eq_map]
    exact List.mem_map.mpr ⟨v, hv, rfl⟩
  · rw [normV_key, if_pos rfl, ← hk v hv, hvk]

theorem generalOpts_norm (t : TreeInfo) (n : Int) (key : Str) (v : Variant) (hk : TopKeyedByUid t.variants) :
    generalOpts (norm t) n key (normV true v) = generalOpts t n key v := by
  have hkeys : sortS ((norm t).variants.map Variant.key) = sortS (t.variants.map Variant.key) :=
    sortS_perm_eq (norm_tops_keys t.variants hk)
  unfold generalOpts generalBase
  rw [hkeys, platformsStr_norm, normV_paths, generalPath_pathOpts _ _ _ _ (by decide) (by decide),
    generalPath_pathOpts _ _ _ _ (by decide) (by decide)]
  rfl

end TI
end PM
