import ProductMD.Model.ReleaseId
import ProductMD.Proofs.C14Lang
import ProductMD.Proofs.ExceptLemmas
/-!
`parse_release_id ∘ create_release_id` on the model of `Model/ReleaseId.lean`.

The generated patterns are tied to the hand-written group-free copies by `decide` (a changed pattern breaks
these three lines), the table of known types enters through the decidable condition `FirstMatchOK`, which is
exactly what the parser's first-match loop over `RELEASE_TYPES` needs.

Also: the region where the round trip fails for every input (finding F9: a short name with a dash, own or of the base
product), and that the order of the table of known types does not matter when no entry is a suffix of another.
-/
namespace PM.C14
open PM PM.Str PM.Spec

-- for the `decide`d witnesses, here and in the files that import this one
attribute [instance] decEqExcept

theorem short_pattern : Gen.re_common_RELEASE_SHORT_RE.strip = shortRe := by decide +kernel
theorem type_pattern : Gen.re_common_RELEASE_TYPE_RE.strip = shortRe := by decide +kernel
theorem version_pattern : Gen.re_common_RELEASE_VERSION_RE.strip = versionRe := by decide +kernel

theorem isValidReleaseShort_eq (s : Str) : isValidReleaseShort s = pyMatches shortRe s := by
  unfold isValidReleaseShort; rw [← pyMatches_strip, short_pattern]
theorem isValidReleaseType_eq (s : Str) : isValidReleaseType s = pyMatches shortRe s := by
  unfold isValidReleaseType; rw [← pyMatches_strip, type_pattern]
theorem isValidReleaseVersion_eq (s : Str) : isValidReleaseVersion s = pyMatches versionRe s := by
  unfold isValidReleaseVersion; rw [← pyMatches_strip, version_pattern]

theorem find_type {l : List Str} (h : FirstMatchOK l) {t : Str} (ht : t ∈ l) (p : Str) :
    l.find? (fun u => endsWith (p ++ '-' :: t) u) = some t := by
  have hsuf' : ('-' :: t) <:+ p ++ '-' :: t := List.suffix_append p _
  -- the first occurrence of `t`; no earlier entry `u` is a suffix of `p-t`
  obtain ⟨as, bs, rfl, hnot⟩ := List.eq_append_cons_of_mem ht
  refine List.find?_eq_some_iff_append.mpr
    ⟨(endsWith_iff _ _).mpr ((List.suffix_cons _ _).trans hsuf'), as, bs, rfl, fun u hu => ?_⟩
  rw [Bool.not_eq_true', ← Bool.not_eq_true, endsWith_iff]
  intro hus
  rcases (List.pairwise_append.mp h).2.2 u hu t List.mem_cons_self with e | ⟨h1, h2⟩
  · exact hnot (e ▸ hu)
  · rcases List.suffix_or_suffix_of_suffix hus hsuf' with h3 | h3
    · rcases List.suffix_cons_iff.mp h3 with rfl | h3
      · exact h2 (List.suffix_refl _)
      · exact h1 h3
    · exact h2 h3

theorem createPart_eq (s v t : Str) :
    createPart s v t =
      if isValidReleaseShort s = true ∧ isValidReleaseVersion v = true ∧ isValidReleaseType t = true
      then .ok (if t = GA then s ++ '-' :: v else s ++ '-' :: v ++ '-' :: t)
      else .error .valueError := by
  unfold createPart createPartO
  -- three guards in a row, each failing with `ValueError`, against the one test of their conjunction
  cases isValidReleaseShort s with
  | false => simp
  | true =>
    cases h2 : isValidReleaseVersion v with
    | false => simp [h2]
    | true =>
      cases h3 : isValidReleaseType t with
      | false => simp [h2, h3]
      | true =>
        simp only [h2, h3, Bool.not_true, Bool.false_eq_true, if_false, and_self, if_true]
        split <;> rfl

theorem parsePart_ga {s v : Str} (hs : '-' ∉ s) (hv : '-' ∉ v) :
    parseReleaseIdPart (s ++ '-' :: v) = .ok ⟨s, v, GA⟩ := by
  have hc : count '-' (s ++ '-' :: v) = 1 := by
    rw [count_append, count_cons_self, count_eq_zero.mpr hs, count_eq_zero.mpr hv]
  unfold parseReleaseIdPart
  simp only [hc, if_true, splitOn_pair_iff.mpr ⟨rfl, hs, hv⟩]

theorem parsePart_typed {s v t : Str} (hv : '-' ∉ v) (ht : t ∈ Gen.RELEASE_TYPES) (hne : t ≠ [])
    (hok : FirstMatchOK Gen.RELEASE_TYPES) :
    parseReleaseIdPart (s ++ '-' :: v ++ '-' :: t) = .ok ⟨s, v, t⟩ := by
  have hc : ¬ count '-' (s ++ '-' :: v ++ '-' :: t) = 1 := by
    rw [count_append, count_append, count_cons_self, count_cons_self]; omega
  have hf := find_type hok ht (s ++ '-' :: v)
  have hemp : (!t.isEmpty) = true := by rw [List.isEmpty_eq_false_iff.mpr hne]; rfl
  have htake : (s ++ '-' :: v ++ '-' :: t).take ((s ++ '-' :: v ++ '-' :: t).length - t.length)
      = (s ++ '-' :: v) ++ '-' :: [] := by
    have hcut : s ++ '-' :: v ++ '-' :: t = ((s ++ '-' :: v) ++ '-' :: []) ++ t := by simp
    rw [hcut]
    refine List.take_left' ?_
    simp only [List.length_append, List.length_cons, List.length_nil]
    omega
  have hrs : rsplitN '-' 2 ((s ++ '-' :: v) ++ '-' :: []) = [s, v, []] :=
    rsplitN_triple_iff.mpr ⟨rfl, hv, List.not_mem_nil⟩
  unfold parseReleaseIdPart
  simp only [hc, if_false, hf, Option.filter, hemp, if_true, htake, hrs, Option.getD_some]

theorem parsePart_partStr {r : Rel} (h : PartOK r) (hok : FirstMatchOK Gen.RELEASE_TYPES) :
    parseReleaseIdPart (partStr r) = .ok r := by
  unfold partStr
  by_cases hga : r.type = GA
  · simp only [hga, if_true]
    rw [parsePart_ga (h.ga hga) h.vdash, ← hga]
  · simp only [hga, if_false]
    have hne : r.type ≠ [] := (shortRe_ne_nil_no_at (by rw [← isValidReleaseType_eq]; exact h.type)).1
    rw [parsePart_typed h.vdash h.known hne hok]

theorem partStr_no_at {r : Rel} (h : PartOK r) : '@' ∉ partStr r := by
  have h1 := (shortRe_ne_nil_no_at (by rw [← isValidReleaseShort_eq]; exact h.short)).2
  have h2 := (shortRe_ne_nil_no_at (by rw [← isValidReleaseType_eq]; exact h.type)).2
  have h3 := h.vat
  unfold partStr
  split <;> simp [h1, h2, h3]

theorem createPart_partStr {r : Rel} (h : PartOK r) : createPart r.short r.version r.type = .ok (partStr r) := by
  rw [createPart_eq, if_pos ⟨h.short, h.version, h.type⟩]
  rfl

theorem createRel_none {r : Rel} (h : PartOK r) : createRel r none = .ok (partStr r) := by
  simp [createRel, createReleaseId, createPart_partStr h]

theorem createRel_some {r b : Rel} (h : PartOK r) (hb : PartOK b) :
    createRel r (some b) = .ok (partStr r ++ '@' :: partStr b) := by
  have hne : b.short.isEmpty = false :=
    List.isEmpty_eq_false_iff.mpr (shortRe_ne_nil_no_at (by rw [← isValidReleaseShort_eq]; exact hb.short)).1
  have hcb := createPart_partStr hb
  unfold createPart at hcb
  simp [createRel, createReleaseId, createPart_partStr h, hne, hcb]

theorem parseReleaseId_nobp {rid : Str} {r : Rel} :
    parseReleaseId rid = .ok (r, none) ↔ '@' ∉ rid ∧ parseReleaseIdPart rid = .ok r := by
  unfold parseReleaseId
  constructor
  · intro h
    split at h
    · split at h
      · rename_i x y _
        cases h1 : parseReleaseIdPart x <;> cases h2 : parseReleaseIdPart y <;> simp [h1, h2] at h
      · cases h
    · rename_i hn
      cases hp : parseReleaseIdPart rid with
      | error _ => simp [hp] at h
      | ok r1 =>
        simp only [hp, Except.ok.injEq, Prod.mk.injEq, and_true] at h
        exact ⟨by simpa using hn, by rw [h]⟩
  · rintro ⟨hn, hp⟩
    simp [hn, hp]

theorem parseReleaseId_bp {rid : Str} {r b : Rel} :
    parseReleaseId rid = .ok (r, some b) ↔
      ∃ x y, rid = x ++ '@' :: y ∧ '@' ∉ x ∧ '@' ∉ y ∧ parseReleaseIdPart x = .ok r ∧ parseReleaseIdPart y = .ok b := by
  unfold parseReleaseId
  constructor
  · intro h
    split at h
    · split at h
      · rename_i x y hsp
        obtain ⟨e, hx, hy⟩ := splitOn_pair_iff.mp hsp
        cases h1 : parseReleaseIdPart x with
        | error _ => simp [h1] at h
        | ok r1 =>
          cases h2 : parseReleaseIdPart y with
          | error _ => simp [h1, h2] at h
          | ok b1 =>
            simp only [h1, h2, Except.ok.injEq, Prod.mk.injEq, Option.some.injEq] at h
            exact ⟨x, y, e, hx, hy, h.1 ▸ h1, h.2 ▸ h2⟩
      · cases h
    · cases hp : parseReleaseIdPart rid <;> simp [hp] at h
  · rintro ⟨x, y, rfl, hx, hy, h1, h2⟩
    simp [splitOn_pair_iff.mpr ⟨rfl, hx, hy⟩, h1, h2]

theorem roundtrip (hok : FirstMatchOK Gen.RELEASE_TYPES) (r : Rel) (bp : Option Rel)
    (hr : PartOK r) (hbp : ∀ b, bp = some b → PartOK b) :
    createRel r bp >>= parseReleaseId = .ok (r, bp) := by
  cases bp with
  | none =>
    rw [createRel_none hr]
    exact parseReleaseId_nobp.mpr ⟨partStr_no_at hr, parsePart_partStr hr hok⟩
  | some b =>
    have hb := hbp b rfl
    rw [createRel_some hr hb]
    exact parseReleaseId_bp.mpr
      ⟨_, _, rfl, partStr_no_at hr, partStr_no_at hb, parsePart_partStr hr hok, parsePart_partStr hb hok⟩

theorem createPartO_ok_iff (b : Str) (bv bt : Option Str) :
    (∃ x, createPartO b bv bt = .ok x) ↔
      isValidReleaseShort b = true ∧ (∃ x, bv = some x ∧ isValidReleaseVersion x = true)
      ∧ (∃ y, bt = some y ∧ isValidReleaseType y = true) := by
  unfold createPartO
  cases h1 : isValidReleaseShort b
  · simp
  · cases bv with
    | none => simp
    | some v =>
      cases h2 : isValidReleaseVersion v
      · simp [h2]
      · cases bt with
        | none => simp [h2]
        | some t =>
          cases h3 : isValidReleaseType t
          · simp [h2, h3]
          · by_cases hg : t = GA
            · subst hg; simp [h2, h3]
            · simp [h2, h3, hg]

theorem createPart_ok_iff (s v t : Str) :
    (∃ x, createPart s v t = .ok x) ↔
      isValidReleaseShort s = true ∧ isValidReleaseVersion v = true ∧ isValidReleaseType t = true := by
  rw [createPart, createPartO_ok_iff]
  simp only [Option.some.injEq, exists_eq_left']

theorem createReleaseId_nobp (s v t : Str) : createReleaseId s v t none none none = createPart s v t := by
  unfold createReleaseId; cases createPart s v t <;> rfl

theorem createReleaseId_bp_ok_iff (s v t b : Str) (bv bt : Option Str) (hb : b ≠ []) :
    (∃ id, createReleaseId s v t (some b) bv bt = .ok id) ↔
      (∃ x, createPart s v t = .ok x) ∧ (∃ y, createPartO b bv bt = .ok y) := by
  have hbe : b.isEmpty = false := List.isEmpty_eq_false_iff.mpr hb
  unfold createReleaseId
  cases createPart s v t with
  | error e => simp
  | ok x =>
    cases h : createPartO b bv bt with
    | error e => simp [hbe, h]
    | ok y => simp [hbe, h]

/-! The region of finding F9 fails everywhere: an identifier `short-version` whose short name contains a dash is never
parsed back to that short name and version.  In the branch that looks for a known type the parser only returns pieces of
the identifier it was given: `short-version-` (plus what was read as the type when none was known) is a prefix of it
(`parsePart_ok_prefix`), and `short-version-…` is longer than `short-version`. -/

theorem parsePart_ok_prefix {rid : Str} {r : Rel} (hc : count '-' rid ≠ 1)
    (h : parseReleaseIdPart rid = .ok r) : ∃ ext, (r.short ++ '-' :: r.version ++ '-' :: ext) <+: rid := by
  unfold parseReleaseIdPart at h
  rw [if_neg hc] at h
  dsimp only at h
  split at h
  · next a b c hsp =>
    cases h
    refine ⟨c, ?_⟩
    rw [← (rsplitN_triple_iff.mp hsp).1]
    -- what was split is the identifier, or the identifier without the known type at its end
    split
    · exact List.take_prefix _ _
    · exact List.prefix_refl _
  · cases h

theorem parsePart_dashed_ga (r : Rel) (hs : '-' ∈ r.short) :
    parseReleaseIdPart (r.short ++ '-' :: r.version) ≠ .ok r := by
  intro h
  have hc : count '-' (r.short ++ '-' :: r.version) ≠ 1 := by
    have : count '-' r.short ≠ 0 := fun e => (count_eq_zero.mp e) hs
    rw [count_append, count_cons_self]
    omega
  obtain ⟨ext, hp⟩ := parsePart_ok_prefix hc h
  have := hp.length_le
  simp at this
  omega

/-! The same for the base product, whatever the release part is: the one `@` of `release@short-version` is where the
parser cuts. -/

theorem parse_bp_dashed_ga {a : Str} (r b : Rel) (hs : '-' ∈ b.short) :
    parseReleaseId (a ++ '@' :: (b.short ++ '-' :: b.version)) ≠ .ok (r, some b) := by
  intro h
  obtain ⟨x, y, e, hx, hy, _, h2⟩ := parseReleaseId_bp.mp h
  have hc : count '@' (a ++ '@' :: (b.short ++ '-' :: b.version)) = 1 := by
    rw [e, count_append, count_cons_self, count_eq_zero.mpr hx, count_eq_zero.mpr hy]
  rw [count_append, count_cons_self] at hc
  have hsp := splitOn_pair_iff.mpr ⟨e, hx, hy⟩
  rw [splitOn_pair_iff.mpr ⟨rfl, count_eq_zero.mp (by omega), count_eq_zero.mp (by omega)⟩] at hsp
  simp only [List.cons.injEq, and_true] at hsp
  exact parsePart_dashed_ga b hs (hsp.2 ▸ h2)

/-! Reordering the table of known release types: when no entry is a suffix of a different entry, at most one entry can
be a suffix of a given identifier, so the parser's first-match loop returns the same type whatever the order —
for every identifier, not only for those `create_release_id` produces. -/

/-- the parser with the table of known types as a parameter: a copy of `parseReleaseIdPart` (`Model/ReleaseId.lean`) with
`Gen.RELEASE_TYPES` abstracted, tied to it by `parsePartWith_gen`.  That lemma is `rfl`: an edit to `parseReleaseIdPart`
has to be repeated here, or it fails. -/
def parsePartWith (types : List Str) (rid : Str) : Except Err Rel :=
  if Str.count '-' rid = 1 then
    match Str.splitOn '-' rid with
    | [short, version] => .ok ⟨short, version, GA⟩
    | _ => .error .valueError
  else
    let found := types.find? (fun t => Str.endsWith rid t)
    let rtype : Option Str := found.filter (fun t => !t.isEmpty)
    let rid' := match rtype with
      | some t => rid.take (rid.length - t.length)
      | none => rid
    match Str.rsplitN '-' 2 rid' with
    | [short, version, ext] => .ok ⟨short, version, rtype.getD ext⟩
    | _ => .error .valueError

theorem parsePartWith_gen (rid : Str) : parsePartWith Gen.RELEASE_TYPES rid = parseReleaseIdPart rid := rfl

theorem find?_eq_some_iff_of_unique {α : Type} {p : α → Bool} {l : List α}
    (hu : ∀ t ∈ l, ∀ u ∈ l, p t = true → p u = true → t = u) {t : α} :
    l.find? p = some t ↔ t ∈ l ∧ p t = true := by
  constructor
  · exact fun h => ⟨List.mem_of_find?_eq_some h, List.find?_some h⟩
  · rintro ⟨hm, hp⟩
    cases hf : l.find? p with
    | none => exact absurd hp (by simpa using List.find?_eq_none.mp hf t hm)
    | some u => rw [hu u (List.mem_of_find?_eq_some hf) t hm (List.find?_some hf) hp]

theorem find_perm {l₁ l₂ : List Str} (h : SuffixAntichain l₁) (hp : l₁.Perm l₂) (rid : Str) :
    l₁.find? (fun t => endsWith rid t) = l₂.find? (fun t => endsWith rid t) := by
  have uniq : ∀ t ∈ l₁, ∀ u ∈ l₁, endsWith rid t = true → endsWith rid u = true → t = u := fun t ht u hu h1 h2 =>
    (List.suffix_or_suffix_of_suffix ((endsWith_iff _ _).mp h1) ((endsWith_iff _ _).mp h2)).elim
      (h t ht u hu) fun s => (h u hu t ht s).symm
  refine Option.ext fun t => ?_
  rw [find?_eq_some_iff_of_unique uniq,
    find?_eq_some_iff_of_unique fun t ht u hu => uniq t (hp.mem_iff.mpr ht) u (hp.mem_iff.mpr hu), hp.mem_iff]

theorem parsePartWith_perm {l₁ l₂ : List Str} (h : SuffixAntichain l₁) (hp : l₁.Perm l₂) (rid : Str) :
    parsePartWith l₁ rid = parsePartWith l₂ rid := by
  unfold parsePartWith
  rw [find_perm h hp rid]

end PM.C14
