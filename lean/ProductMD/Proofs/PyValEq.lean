import ProductMD.Model.PyOps
/-!
`PyVal.beq` decides equality (`beq_iff`), hence each of the model's two Python `==` is equality of representatives:
`PyOps.pyEq a b ↔ eqKey a = eqKey b` (`pyEq_iff`; `eqKey` sorts keys and identifies `True` with `1`), and `PyVal.pyEq`
(`Model/Py.lean`: keys sorted, numbers as they are, so `True` and `1` differ) likewise, of which only reflexivity is needed.
-/
namespace PM.PyOps
open PM

mutual
theorem beq_eq : ∀ (a b : PyVal), PyVal.beq a b = true → a = b
  | .none, b => by cases b <;> simp [PyVal.beq]
  | .bool x, b => by cases b <;> simp [PyVal.beq]
  | .int x, b => by cases b <;> simp [PyVal.beq]
  | .float x, b => by cases b <;> simp [PyVal.beq]
  | .str x, b => by cases b <;> simp [PyVal.beq]
  | .other x, b => by cases b <;> simp [PyVal.beq]
  | .list xs, b => by
    cases b <;> simp [PyVal.beq]
    exact beqList_eq xs _
  | .dict xs, b => by
    cases b <;> simp [PyVal.beq]
    exact beqKvs_eq xs _
theorem beqList_eq : ∀ (a b : List PyVal), PyVal.beqList a b = true → a = b
  | [], b => by cases b <;> simp [PyVal.beqList]
  | x :: xs, b => by
    cases b with
    | nil => simp [PyVal.beqList]
    | cons y ys =>
      simp only [PyVal.beqList, Bool.and_eq_true, List.cons.injEq]
      intro h
      exact ⟨beq_eq x y h.1, beqList_eq xs ys h.2⟩
theorem beqKvs_eq : ∀ (a b : List (Str × PyVal)), PyVal.beqKvs a b = true → a = b
  | [], b => by cases b <;> simp [PyVal.beqKvs]
  | (k, x) :: xs, b => by
    cases b with
    | nil => simp [PyVal.beqKvs]
    | cons y ys =>
      obtain ⟨l, y⟩ := y
      simp only [PyVal.beqKvs, Bool.and_eq_true, List.cons.injEq, Prod.mk.injEq, beq_iff_eq]
      intro h
      exact ⟨⟨h.1.1, beq_eq x y h.1.2⟩, beqKvs_eq xs ys h.2⟩
end

mutual
theorem beq_refl : ∀ (a : PyVal), PyVal.beq a a = true
  | .none => by simp [PyVal.beq]
  | .bool x => by simp [PyVal.beq]
  | .int x => by simp [PyVal.beq]
  | .float x => by simp [PyVal.beq]
  | .str x => by simp [PyVal.beq]
  | .other x => by simp [PyVal.beq]
  | .list xs => by simp only [PyVal.beq]; exact beqList_refl xs
  | .dict xs => by simp only [PyVal.beq]; exact beqKvs_refl xs
theorem beqList_refl : ∀ (a : List PyVal), PyVal.beqList a a = true
  | [] => by simp [PyVal.beqList]
  | x :: xs => by simp only [PyVal.beqList, Bool.and_eq_true]; exact ⟨beq_refl x, beqList_refl xs⟩
theorem beqKvs_refl : ∀ (a : List (Str × PyVal)), PyVal.beqKvs a a = true
  | [] => by simp [PyVal.beqKvs]
  | (k, x) :: xs => by
    simp only [PyVal.beqKvs, Bool.and_eq_true, beq_self_eq_true, true_and]
    exact ⟨beq_refl x, beqKvs_refl xs⟩
end

theorem beq_iff (a b : PyVal) : PyVal.beq a b = true ↔ a = b :=
  ⟨beq_eq a b, fun h => h ▸ beq_refl a⟩

theorem _root_.PM.PyVal.pyEq_refl (a : PyVal) : PyVal.pyEq a a = true := beq_refl _

theorem pyEq_iff (a b : PyVal) : pyEq a b = true ↔ eqKey a = eqKey b := beq_iff _ _

theorem pyEq_str (a b : Str) : pyEq (.str a) (.str b) = true ↔ a = b := by
  rw [pyEq_iff]
  exact ⟨fun h => PyVal.str.inj h, fun h => by rw [h]⟩

theorem pyEq_false_iff (a b : PyVal) : pyEq a b = false ↔ eqKey a ≠ eqKey b := by
  have h := pyEq_iff a b
  cases hp : pyEq a b
  · simp only [true_iff]
    intro e
    rw [h.mpr e] at hp
    cases hp
  · simp only [Bool.true_eq_false, false_iff, ne_eq]
    exact fun hn => hn (h.mp hp)

theorem pyEq_refl (a : PyVal) : pyEq a a = true := (pyEq_iff a a).mpr rfl

theorem pyEq_symm (a b : PyVal) : pyEq a b = pyEq b a := by
  cases h : pyEq b a
  · rw [pyEq_false_iff] at *
    exact fun e => h e.symm
  · rw [pyEq_iff] at *
    exact h.symm

end PM.PyOps
