/-! Reading a `do` block in `Except`.  Single steps, then three readings of a whole block as a term that mirrors it, one rule per
`bind` / `if`: what it can return (`Post`), which exceptions it can raise (`Fails`; `Except.Spec` is the two in one statement), and
what it does return when every step returns a known value (the rules under `Returns`: plain equations `… = .ok b`, there is no
predicate of that name).  Last, the induction over a history of calls whose steps are guarded by the state they are made in
(`foldl_inv`). -/
namespace PM

theorem bind_eq_ok {ε α β : Type} {x : Except ε α} {f : α → Except ε β} {b : β} :
    x >>= f = .ok b ↔ ∃ a, x = .ok a ∧ f a = .ok b := by
  cases x with
  | error e => exact ⟨fun h => (nomatch h), fun ⟨_, h, _⟩ => (nomatch h)⟩
  | ok a => exact ⟨fun h => ⟨a, rfl, h⟩, fun ⟨_, h, h'⟩ => by cases h; exact h'⟩

theorem bind_ok {ε α β : Type} {x : Except ε α} {f : α → Except ε β} {b : β} (h : x >>= f = .ok b) :
    ∃ a, x = .ok a ∧ f a = .ok b :=
  bind_eq_ok.mp h

/-- `hx` is the shape the `_iff` lemmas of the writers have -/
theorem bind_ok_of {ε α β : Type} {x : Except ε α} {f : α → Except ε β} {b : β} {P : Prop} {e : α}
    (hx : ∀ a, x = .ok a ↔ P ∧ a = e) : x >>= f = .ok b ↔ P ∧ f e = .ok b := by
  rw [bind_eq_ok]
  exact ⟨fun ⟨a, ha, hf⟩ => by obtain ⟨hp, rfl⟩ := (hx a).mp ha; exact ⟨hp, hf⟩,
    fun ⟨hp, hf⟩ => ⟨e, (hx e).mpr ⟨hp, rfl⟩, hf⟩⟩

theorem bind_total {ε α β : Type} {x : Except ε α} {f : α → Except ε β} (hx : ∃ a, x = .ok a) (hf : ∀ a, ∃ b, f a = .ok b) :
    ∃ b, x >>= f = .ok b := by
  obtain ⟨a, rfl⟩ := hx
  exact hf a

theorem ok_bind {ε α β : Type} (a : α) (f : α → Except ε β) : (Except.ok a >>= f) = f a := rfl

theorem ok_bind' {ε α β : Type} (a : α) (f : α → Except ε β) : (Except.ok a).bind f = f a := rfl

theorem pure_eq_ok {ε α : Type} {a b : α} : (pure a : Except ε α) = .ok b ↔ a = b :=
  ⟨fun h => Except.ok.inj h, fun h => h ▸ rfl⟩

theorem of_ite_ok {ε : Type} {c : Prop} [Decidable c] {e : ε} (h : (if c then .ok () else .error e : Except ε Unit) = .ok ()) : c := by
  split at h
  · assumption
  · cases h

theorem ite_bind_eq {ε α β : Type} {c : Prop} [Decidable c] {x y : Except ε α} {f : α → Except ε β} :
    (if c then x >>= f else y >>= f) = (if c then x else y) >>= f := by
  split <;> rfl

theorem ok_of_isOk {ε α : Type} : ∀ {x : Except ε α}, x.isOk = true → ∃ a, x = .ok a
  | .ok a, _ => ⟨a, rfl⟩

theorem error_of_map_error {ε α β : Type} {f : α → β} : ∀ {x : Except ε α} {e : ε}, x.map f = .error e → x = .error e
  | .error _, _, rfl => rfl

/-- the successful outcome of a step that returns the state it leaves behind together with whether it raised -/
def okOf {ε σ : Type} : σ × Except ε Unit → Except ε σ
  | (s, .ok ()) => .ok s
  | (_, .error e) => .error e

theorem okOf_ok {ε σ : Type} {x : σ × Except ε Unit} {s : σ} (h : okOf x = .ok s) : x = (s, .ok ()) := by
  obtain ⟨s', r⟩ := x
  cases r with
  | error e => cases h
  | ok u =>
    cases u
    cases h
    rfl

/-- `Post r P`: every value `r` can return satisfies `P`.  The leaf of a proof says why the statement holds (usually: the last step
checked it). -/
def Post {ε α : Type} (r : Except ε α) (P : α → Prop) : Prop := ∀ a, r = .ok a → P a

/- How a `do` block meets the rules.  `let a ← if c then x else y` followed by more statements elaborates to the join-point form
`if c then x >>= f else y >>= f` (`ite_bind`); an `if` that is the last statement, or whose branches end differently, stays a plain `if` (`ite`).
After `unfold f`, `exact` sees through `have __do_jp := …` by itself, but not through a chain `have hn := …; have ht := …` in front of it:
`dsimp only` first.  Do not `cases` on a Boolean switch in front of `.ite`: `if (!false) = true then … else …` is then matched as the
conditional; give `.ite` both branches instead. -/
namespace Post
variable {ε α β : Type}

theorem bind {m : Except ε α} {f : α → Except ε β} {P : β → Prop} (h : ∀ a, Post (f a) P) : Post (m >>= f) P :=
  fun _ hb => let ⟨a, _, hf⟩ := bind_ok hb; h a _ hf

theorem bind' {m : Except ε α} {f : α → Except ε β} {P : β → Prop} (h : ∀ a, m = .ok a → Post (f a) P) : Post (m >>= f) P :=
  fun _ hb => let ⟨a, ha, hf⟩ := bind_ok hb; h a ha _ hf

theorem ite {c : Prop} [Decidable c] {x y : Except ε α} {P : α → Prop} (hx : Post x P) (hy : Post y P) :
    Post (if c then x else y) P := by
  by_cases hc : c
  · rw [if_pos hc]; exact hx
  · rw [if_neg hc]; exact hy

theorem ite_bind {c : Prop} [Decidable c] {x y : Except ε α} {f : α → Except ε β} {P : β → Prop} (h : ∀ a, Post (f a) P) :
    Post (if c then x >>= f else y >>= f) P := .ite (.bind h) (.bind h)

theorem ite_bind' {c : Prop} [Decidable c] {x y : Except ε α} {f : α → Except ε β} {P : β → Prop}
    (h : ∀ a, (if c then x else y) = .ok a → Post (f a) P) : Post (if c then x >>= f else y >>= f) P := by
  by_cases hc : c
  · rw [if_pos hc] at h ⊢; exact .bind' h
  · rw [if_neg hc] at h ⊢; exact .bind' h

theorem ok {a : α} {P : α → Prop} (h : P a) : Post (.ok a : Except ε α) P :=
  fun _ hb => Except.ok.inj hb ▸ h

theorem pure {a : α} {P : α → Prop} (h : P a) : Post (Pure.pure a : Except ε α) P :=
  ok h

theorem error {e : ε} {P : α → Prop} : Post (.error e : Except ε α) P := fun _ h => nomatch h

/-- the last two lines of a reader: `self.validate()`, then the object is the result -/
theorem validated {check : Except ε Unit} {a : α} {P : α → Prop} (h : check = .ok () → P a) : Post (do check; Pure.pure a) P :=
  bind' fun () hc => pure (h hc)

theorem validated_ok {check : Except ε Unit} {a : α} {P : α → Prop} (h : check = .ok () → P a) : Post (do check; Except.ok a) P :=
  validated h

theorem elim {r : Except ε α} {P : α → Prop} {a : α} (h : Post r P) (e : r = .ok a) : P a := h a e

end Post

/-- `Fails r Q`: every exception `r` can raise satisfies `Q`.  Proved like `Post`; the leaves are the `raise`s. -/
def Fails {ε α : Type} (r : Except ε α) (Q : ε → Prop) : Prop := ∀ e, r = .error e → Q e

namespace Fails
variable {ε α : Type}

theorem ok {a : α} {Q : ε → Prop} : Fails (.ok a : Except ε α) Q := fun _ h => nomatch h

theorem error {e : ε} {Q : ε → Prop} (h : Q e) : Fails (.error e : Except ε α) Q := fun _ he => Except.error.inj he ▸ h

theorem elim {r : Except ε α} {Q : ε → Prop} {e : ε} (h : Fails r Q) (he : r = .error e) : Q e := h e he

theorem ite {c : Prop} [Decidable c] {x y : Except ε α} {Q : ε → Prop} (hx : c → Fails x Q) (hy : ¬ c → Fails y Q) :
    Fails (if c then x else y) Q := by
  by_cases hc : c
  · rw [if_pos hc]; exact hx hc
  · rw [if_neg hc]; exact hy hc

theorem map {β : Type} {x : Except ε α} {f : α → β} {Q : ε → Prop} (h : Fails x Q) : Fails (x.map f) Q := by
  cases x with
  | ok a => exact .ok
  | error e => exact .error (h.elim rfl)

end Fails

section Spec
variable {ε α : Type} {A : α → Prop} {B : ε → Prop}

/-- `x.Spec A B`: `x` succeeded with a value that satisfies `A`, or failed with an error that satisfies `B`.  `Post x A` and `Fails x B`
in one statement (`Except.spec_iff`), written as a match so that it computes once the outcome of `x` is known. -/
def _root_.Except.Spec (A : α → Prop) (B : ε → Prop) : Except ε α → Prop
  | .ok a => A a
  | .error e => B e

theorem _root_.Except.spec_iff {x : Except ε α} : x.Spec A B ↔ Post x A ∧ Fails x B := by
  cases x with
  | ok a => exact ⟨fun h => ⟨.ok h, .ok⟩, fun h => h.1.elim rfl⟩
  | error e => exact ⟨fun h => ⟨.error, .error h⟩, fun h => h.2.elim rfl⟩

theorem _root_.Except.Spec.refuse {c : Prop} [Decidable c] {e : ε} {rest : Except ε α} (he : B e) (hr : ¬ c → rest.Spec A B) :
    (if c then .error e else rest).Spec A B := by
  split
  · exact he
  · exact hr ‹_›

theorem _root_.Except.Spec.of_ok {x : Except ε α} {a : α} (h : x.Spec A B) (e : x = .ok a) : A a :=
  (Except.spec_iff.mp h).1.elim e

theorem _root_.Except.Spec.of_error {x : Except ε α} {err : ε} (h : x.Spec A B) (e : x = .error err) : B err :=
  (Except.spec_iff.mp h).2.elim e

end Spec

/-! The forward reading of a `do` block: each step returns a known value, so the block returns what its last statement makes of them.  The
term unfolds the reader by unification, one rule per `bind` / `if` (named as in `Post`), and no step is evaluated: what a step returns
comes in as a hypothesis, so a validator that is dear to run stays closed.  Not for the model functions that spell a bind as
`match`: on a visible dictionary the step reduces and the model's matcher fires before a rule could be compared with it. -/
namespace Returns
variable {ε α β : Type}

theorem bind {m : Except ε α} {f : α → Except ε β} {a : α} {b : β} (hm : m = .ok a) (hf : f a = .ok b) : m >>= f = .ok b :=
  hm ▸ hf

theorem ite_pos {c : Prop} [Decidable c] {x y : Except ε α} {a : α} (hc : c) (hx : x = .ok a) : (if c then x else y) = .ok a :=
  (if_pos hc).trans hx

theorem ite_neg {c : Prop} [Decidable c] {x y : Except ε α} {a : α} (hc : ¬ c) (hy : y = .ok a) : (if c then x else y) = .ok a :=
  (if_neg hc).trans hy

theorem ite_bind {c : Prop} [Decidable c] {x y : Except ε α} {f : α → Except ε β} {a : α} {b : β}
    (h : (if c then x else y) = .ok a) (hf : f a = .ok b) : (if c then x >>= f else y >>= f) = .ok b :=
  ite_bind_eq.trans (bind h hf)

theorem validated {check : Except ε Unit} {a : α} (h : check = .ok ()) : (do check; pure a) = .ok a :=
  bind h rfl

theorem validated_ok {check : Except ε Unit} {a : α} (h : check = .ok ()) : (do check; Except.ok a) = .ok a :=
  bind h rfl

end Returns

/-- A definition, not an instance: Model/PyOps has the instance at `ε = Err`, and a second global one would compete with it wherever a
statement needs one.  A file that decides closed equations between results says `attribute [local instance] decEqExcept`
(Proofs/C14RoundTrip switches it on for its importers as well). -/
@[reducible] def decEqExcept {ε α : Type} [DecidableEq ε] [DecidableEq α] : DecidableEq (Except ε α)
  | .ok a, .ok b => if h : a = b then isTrue (h ▸ rfl) else isFalse fun e => h (Except.ok.inj e)
  | .error a, .error b => if h : a = b then isTrue (h ▸ rfl) else isFalse fun e => h (Except.error.inj e)
  | .ok _, .error _ => isFalse nofun
  | .error _, .ok _ => isFalse nofun

/-- `Q`: the hypothesis on the remaining history, which each step hands on -/
theorem foldl_inv {σ α : Type} (f : σ → α → σ) (P : σ → Prop) (Q : σ → List α → Prop)
    (hstep : ∀ s o os, P s → Q s (o :: os) → P (f s o) ∧ Q (f s o) os) : ∀ (ops : List α) (s : σ), P s → Q s ops → P (ops.foldl f s)
  | [], _, h, _ => h
  | o :: os, s, h, hq => foldl_inv f P Q hstep os (f s o) (hstep s o os h hq).1 (hstep s o os h hq).2

end PM
