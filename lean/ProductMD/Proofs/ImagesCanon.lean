import ProductMD.Proofs.C08Images
import ProductMD.Proofs.PyCanon
import ProductMD.Proofs.SortK
import ProductMD.Proofs.JsonRoundTrip
/-!
The images reader does not depend on the key order of the document it is given.

A JSON parser returns the written document with every dict in sorted key order (`PyVal.canon`).  Reading the key-sorted
dictionary of an image returns the image with its two container attributes in canonical form (`canonC i`): same validity,
same identity, same checksums (`==`), same content (`Image.Same`).  The table of the key-sorted document is `canonOut` of the
written table, so `Images.deserialize` files, under the same variants and arches, a permutation of the filings of the
manifest with containers in canonical form.  That the written document is representable (`Mf.jsonRep`) and that its numbers
are read back (`JsonParse.numsOk lim`) follows from hypotheses on the OBJECT: validators pass, the two containers hold JSON
values, integers fit the digit limit.
-/
namespace PM.Img
open PM PM.PyOps PM.Spec PM.Mf

theorem numNormKvs_keys : ∀ l : List (Str × PyVal), (numNormKvs l).map (·.1) = l.map (·.1)
  | [] => rfl
  | (k, v) :: rest => by simp [numNormKvs, numNormKvs_keys rest]

mutual
theorem numNorm_jeq : ∀ {a b : PyVal}, JEq a b → JEq (numNorm a) (numNorm b)
  | _, _, .refl _ => .refl _
  | _, _, .list h => by simp only [numNorm]; exact .list (numNormList_jeq h)
  | _, _, .dict h hn => by
    simp only [numNorm]
    exact .dict (numNormKvs_jeq h) (by rw [numNormKvs_keys]; exact hn)
theorem numNormList_jeq : ∀ {a b : List PyVal}, JEqL a b → JEqL (numNormList a) (numNormList b)
  | _, _, .nil => .nil
  | _, _, .cons h t => by simp only [numNormList]; exact .cons (numNorm_jeq h) (numNormList_jeq t)
theorem numNormKvs_jeq : ∀ {a b : List (Str × PyVal)}, JEqD a b → JEqD (numNormKvs a) (numNormKvs b)
  | _, _, .nil => .nil
  | _, _, .cons k h t => by simp only [numNormKvs]; exact .cons k (numNorm_jeq h) (numNormKvs_jeq t)
  | _, _, .swap a b l => by
    obtain ⟨ka, va⟩ := a; obtain ⟨kb, vb⟩ := b
    simp only [numNormKvs]; exact .swap _ _ _
  | _, _, .trans h1 h2 => .trans (numNormKvs_jeq h1) (numNormKvs_jeq h2)
end

theorem eqKey_jeq {a b : PyVal} (h : JEq a b) : eqKey a = eqKey b := (numNorm_jeq h).canon_eq

theorem pyOr_jeq {a b : PyVal} (h : JEq a b) (d : PyVal) : JEq (pyOr a d) (pyOr b d) := by
  unfold pyOr
  rw [h.truthy_eq]
  split
  · exact h
  · exact .refl _

/-- the image with its two container attributes in canonical form: what is read from a key-sorted dictionary -/
def canonC (i : Image) : Image :=
  { i with checksums := PyVal.canon i.checksums, additional_variants := PyVal.canon i.additional_variants }

theorem canonC_same (i : Image) (h : ContainersRep i) : Image.Same i (canonC i) :=
  ⟨.refl _, .refl _, .refl _, .refl _, .refl _, .refl _, .refl _, .refl _, .refl _, jeq_canon _ h.1, .refl _, .refl _, .refl _, .refl _,
   jeq_canon _ h.2⟩

theorem filings_canonC {ts ts' : List (Str × Str × Image)} (hr : ∀ u ∈ ts, ContainersRep u.2.2)
    (hp : ts'.Perm (ts.map fun t => (t.1, t.2.1, canonC t.2.2))) : PermR FSame ts ts' := by
  have hall : All2 FSame ts (ts.map fun t => (t.1, t.2.1, canonC t.2.2)) := by
    clear hp
    induction ts with
    | nil => exact .nil
    | cons x xs ih =>
      exact .cons ⟨rfl, rfl, canonC_same x.2.2 (hr x List.mem_cons_self)⟩ (ih fun u hu => hr u (List.mem_cons_of_mem _ hu))
  exact PermR.all2_perm_swap hall hp.symm

theorem canonC_valid (i : Image) (h : ContainersRep i) (hv : i.validate = .ok ()) : (canonC i).validate = .ok () := by
  rw [← (canonC_same i h).validate_eq]; exact hv

theorem canonC_properInts (i : Image) (h : ProperInts i) : ProperInts (canonC i) := h

theorem canonC_identity (i : Image) (h : ContainersRep i) :
    eqKey (.list (identity7 (canonC i))) = eqKey (.list (identity7 i)) ∧ eqKey (canonC i).checksums = eqKey i.checksums := by
  constructor
  · apply eqKey_jeq
    refine .list ?_
    simp only [identity7, canonC]
    exact .cons (.refl _) (.cons (.refl _) (.cons (.refl _) (.cons (.refl _) (.cons (.refl _) (.cons (.refl _)
      (.cons (pyOr_jeq (jeq_canon _ h.2).symm _) .nil))))))
  · exact eqKey_jeq (jeq_canon _ h.1).symm

section
open PM.JsonParse

/-- with the digit limit disabled only the containers matter (floats inside them must be proper float tokens) -/
theorem numsFit_zero (i : Image) (hp : ProperInts i) (hc : numsOk 0 i.checksums = true) (ha : numsOk 0 i.additional_variants = true) :
    NumsFit 0 i := by
  obtain ⟨⟨n1, h1⟩, ⟨n2, h2⟩, ⟨n3, h3⟩, ⟨n4, h4⟩⟩ := hp
  refine ⟨?_, ?_, ?_, ?_, hc, ha⟩ <;> simp only [h1, h2, h3, h4, numsOk, intFits_zero]

/-- stated for any property `Q` of values: `jsonRep` and `numsOk lim` are the instances (`compose_dict_all`: the same for the compose
section) -/
theorem image_dict_all (i : Image) (hv : i.validate = .ok ()) (Q : PyVal → Prop) (hs : ∀ s, Q (.str s)) (hn : Q .none)
    (hb : ∀ b, Q (.bool b)) (hi : Q i.mtime ∧ Q i.size ∧ Q i.disc_number ∧ Q i.disc_count)
    (hc : Q i.checksums ∧ Q i.additional_variants) :
    ∃ kvs, i.dict = .dict kvs ∧ (kvs.map (·.1)).Nodup ∧ ∀ p ∈ kvs, Q p.2 := by
  -- of all fifteen attributes: the validators fix the shape of the nine that are not given
  have hall : ∀ p ∈ i.toObj, Q p.2 := by
    obtain ⟨⟨p, h1⟩, ⟨ty, h2⟩, ⟨fm, h3⟩, ⟨ar, h4⟩, ⟨sv, h5⟩, hvol, himp, ⟨bb, h8⟩, ⟨b, h9⟩, _, _, _⟩ := typed_of_valid i hv
    cases i with
    | mk path mtime size volume_id type format arch disc_number disc_count ck implant_md5 bootable subvariant unified av =>
      simp only at h1 h2 h3 h4 h5 hvol himp h8 h9 hi hc
      subst h1 h2 h3 h4 h5 h8 h9
      have jvol : Q volume_id := by
        rcases hvol with rfl | ⟨s, rfl⟩
        · exact hn
        · exact hs s
      have jimp : Q implant_md5 := by
        rcases himp with rfl | ⟨s, rfl⟩
        · exact hn
        · exact hs s
      simp only [Image.toObj, List.forall_mem_cons]
      exact ⟨hs p, hi.1, hi.2.1, jvol, hs ty, hs fm, hs ar, hi.2.2.1, hi.2.2.2, hc.1, jimp, hb bb, hs sv, hb b, hc.2,
        fun _ h => nomatch h⟩
  -- the dictionary holds all of them or the first thirteen
  have h : ∀ kvs : List (Str × PyVal), kvs.Sublist i.toObj → (kvs.map (·.1)).Nodup ∧ ∀ p ∈ kvs, Q p.2 :=
    fun kvs hsub => ⟨(hsub.map _).nodup (toObj_keys_nodup i), fun p hp => hall p (hsub.subset hp)⟩
  refine ⟨_, dict_eq_toObj i, ?_⟩
  split
  · exact h _ (List.Sublist.refl _)
  · exact h _ (List.take_sublist _ _)

theorem image_dict_jsonRep (i : Image) (hv : i.validate = .ok ()) (hr : ContainersRep i) : jsonRep i.dict = true := by
  obtain ⟨⟨m1, i1⟩, ⟨m2, i2⟩, ⟨m3, i3⟩, ⟨m4, i4⟩⟩ := valid_properInts i hv
  obtain ⟨kvs, e, hk, hq⟩ := image_dict_all i hv (jsonRep · = true) (fun _ => rfl) rfl (fun _ => rfl)
    ⟨i1 ▸ rfl, i2 ▸ rfl, i3 ▸ rfl, i4 ▸ rfl⟩ hr
  rw [e]
  exact jsonRep_dict_iff.mpr ⟨hk, hq⟩

theorem image_dict_rep (lim : Nat) (i : Image) (hv : i.validate = .ok ()) (hr : ContainersRep i) (hn : NumsFit lim i) :
    jsonRep i.dict = true ∧ numsOk lim i.dict = true := by
  refine ⟨image_dict_jsonRep i hv hr, ?_⟩
  obtain ⟨kvs, e, _, hq⟩ := image_dict_all i hv (numsOk lim · = true) (fun _ => rfl) rfl (fun _ => rfl)
    ⟨hn.1, hn.2.1, hn.2.2.1, hn.2.2.2.1⟩ hn.2.2.2.2
  rw [e]
  exact numsOkKvs_of_all lim kvs hq

end

theorem toObj_canonC (i : Image) (ht : Typed i) (hp : ProperInts i) : (canonC i).toObj = PyVal.canonKvs i.toObj := by
  obtain ⟨⟨p, h1⟩, ⟨ty, h2⟩, ⟨fm, h3⟩, ⟨ar, h4⟩, ⟨sv, h5⟩, hvol, himp, ⟨bb, h8⟩, ⟨b, h9⟩, _, _, _⟩ := ht
  obtain ⟨⟨m1, i1⟩, ⟨m2, i2⟩, ⟨m3, i3⟩, ⟨m4, i4⟩⟩ := hp
  cases i with
  | mk path mtime size volume_id type format arch disc_number disc_count ck implant_md5 bootable subvariant unified av =>
    simp only at h1 h2 h3 h4 h5 hvol himp h8 h9 i1 i2 i3 i4
    subst h1 h2 h3 h4 h5 h8 h9 i1 i2 i3 i4
    rcases hvol with rfl | ⟨s, rfl⟩ <;> rcases himp with rfl | ⟨s', rfl⟩ <;> rfl

theorem canonC_dict_get (i : Image) (ht : Typed i) (hp : ProperInts i) (k : Str) :
    (canonC i).dict.get? k = (i.dict.get? k).map PyVal.canon := by
  rw [dict_eq_toObj, dict_eq_toObj i, toObj_canonC i ht hp]
  show (PyVal.dict (if i.unified.truthy then _ else _)).get? k = _
  split
  · simp only [get?_dict, lookup_canonKvs]
  · simp only [get?_dict, canonKvs_eq_map, ← List.map_take]
    simp only [← canonKvs_eq_map, lookup_canonKvs]

/-- **reading the key-sorted dictionary**: it binds every key to what the dictionary of `canonC i` binds it to, and the
reader sees nothing else of it -/
theorem image_roundtrip_canon (i : Image) (hv : i.validate = .ok ()) (hr : ContainersRep i) :
    Image.deserialize (.str currentVersion) (PyVal.canon i.dict) = .ok (canonC i) := by
  have hget : ∀ k, (PyVal.canon i.dict).get? k = (canonC i).dict.get? k := fun k => by
    rw [JsonParse.get?_canon _ k (image_dict_jsonRep i hv hr), canonC_dict_get i (typed_of_valid i hv) (valid_properInts i hv) k]
  rw [← image_roundtrip (canonC i) (canonC_valid i hr hv)]
  -- `Image.deserialize_congr` is about two literal dicts
  rw [dict_eq_toObj i, dict_eq_toObj (canonC i)] at hget ⊢
  exact Image.deserialize_congr _ hget

/-- a scalar is its own canonical form -/
def Scalar (v : PyVal) : Prop := (∀ xs, v ≠ .list xs) ∧ (∀ kvs, v ≠ .dict kvs) ∧ (∀ b, v ≠ .other b)

theorem Scalar.canon {v : PyVal} (h : Scalar v) : PyVal.canon v = v := by
  cases v with
  | list xs => exact absurd rfl (h.1 xs)
  | dict kvs => exact absurd rfl (h.2.1 kvs)
  | _ => rfl

theorem Scalar.jsonRep {v : PyVal} (h : Scalar v) : jsonRep v = true := by
  cases v with
  | list xs => exact absurd rfl (h.1 xs)
  | dict kvs => exact absurd rfl (h.2.1 kvs)
  | other b => exact absurd rfl (h.2.2 b)
  | _ => rfl

theorem scalar_str (s : Str) : Scalar (.str s) :=
  ⟨fun _ h => (nomatch h), fun _ h => (nomatch h), fun _ h => (nomatch h)⟩
theorem scalar_int (n : Int) : Scalar (.int n) :=
  ⟨fun _ h => (nomatch h), fun _ h => (nomatch h), fun _ h => (nomatch h)⟩
theorem scalar_bool (b : Bool) : Scalar (.bool b) :=
  ⟨fun _ h => (nomatch h), fun _ h => (nomatch h), fun _ h => (nomatch h)⟩

/-- what the validators force on the compose section -/
structure CTyped (c : Compose) : Prop where
  id : Scalar c.id
  type : Scalar c.type
  date : Scalar c.date
  respin : Scalar c.respin
  label : Scalar c.label
  final : c.label.truthy = true → Scalar c.final

theorem compose_dict_all (c : Compose) (d : PyVal) (h : c.serialize = .ok d) (Q : PyVal → Prop) (hs : ∀ s, Q (.str s))
    (hb : ∀ b, Q (.bool b)) (hr : ∀ n, c.respin = .int n → Q (.int n)) :
    ∃ kvs, d = .dict kvs ∧ (kvs.map (·.1)).Nodup ∧ ∀ p ∈ kvs, Q p.2 := by
  unfold Compose.serialize at h
  obtain ⟨u, hv, h⟩ := bind_ok h
  cases u
  injection h with h
  subst h
  obtain ⟨⟨s1, h1⟩, ⟨s2, h2⟩, ⟨s3, h3⟩, ⟨n, h4⟩, hl, hf⟩ := compose_shape c hv
  cases c with
  | mk id type date respin label final =>
    simp only at h1 h2 h3 h4 hl hf hr
    subst h1 h2 h3 h4
    rcases hl with rfl | ⟨ch, s, rfl⟩
    · refine ⟨_, rfl, ?_, ?_⟩
      · show [L "id", L "type", L "date", L "respin"].Nodup
        decide +kernel
      · simp only [PyVal.truthy, Bool.false_eq_true, ↓reduceIte, List.forall_mem_cons]
        exact ⟨hs _, hs _, hs _, hr n rfl, fun _ h => nomatch h⟩
    · obtain ⟨b, rfl⟩ := hf rfl
      refine ⟨_, rfl, ?_, ?_⟩
      · show [L "id", L "type", L "date", L "respin", L "label", L "final"].Nodup
        decide +kernel
      · simp only [PyVal.truthy, List.isEmpty_cons, Bool.not_false, ↓reduceIte, List.cons_append, List.nil_append, List.forall_mem_cons]
        exact ⟨hs _, hs _, hs _, hr n rfl, hs _, hb b, fun _ h => nomatch h⟩

theorem compose_dict_rep (lim : Nat) (c : Compose) (d : PyVal) (h : c.serialize = .ok d) (hn : JsonParse.numsOk lim c.respin = true) :
    jsonRep d = true ∧ JsonParse.numsOk lim d = true := by
  obtain ⟨kvs, rfl, hk, hq⟩ := compose_dict_all c d h (fun v => jsonRep v = true ∧ JsonParse.numsOk lim v = true)
    (fun _ => ⟨rfl, rfl⟩) (fun _ => ⟨rfl, rfl⟩) fun n e => ⟨rfl, e ▸ hn⟩
  exact JsonParse.rep_dict lim kvs hk hq

/-- as `image_roundtrip_canon`; the values of the section are scalars -/
theorem compose_roundtrip_canon (c : Compose) (rest : PyVal) (d : PyVal) (h : c.serialize = .ok d) :
    Compose.deserialize (.str currentVersion) (.dict [(L "compose", PyVal.canon d), (L "images", rest)]) = .ok (composeNorm c) := by
  obtain ⟨kvs, rfl, hk, hq⟩ := compose_dict_all c d h Scalar scalar_str scalar_bool fun n _ => scalar_int n
  rw [← compose_roundtrip c rest _ h]
  refine Compose.deserialize_congr _ (sec := PyVal.sortKvs (PyVal.canonKvs kvs)) rfl rfl fun k => ?_
  have := JsonParse.get?_canon (.dict kvs) k (jsonRep_dict_iff.mpr ⟨hk, fun p hp => (hq p hp).jsonRep⟩)
  rw [PyVal.canon] at this
  rw [this]
  cases hg : (PyVal.dict kvs).get? k with
  | none => rfl
  | some x => exact congrArg some (hq _ (mem_of_lookup ((get?_dict kvs k).symm.trans hg))).canon

theorem insertKv_map {α : Type} (f : α → PyVal) (kv : Str × α) (l : List (Str × α)) :
    PyVal.insertKv (kv.1, f kv.2) (l.map fun p => (p.1, f p.2)) = (insertK kv l).map fun p => (p.1, f p.2) := by
  induction l with
  | nil => rfl
  | cons x xs ih =>
    simp only [List.map_cons, PyVal.insertKv, insertK]
    split
    · rfl
    · simp only [List.map_cons, ih]

theorem sortKvs_map {α : Type} (f : α → PyVal) (l : List (Str × α)) :
    PyVal.sortKvs (l.map fun p => (p.1, f p.2)) = (sortK l).map fun p => (p.1, f p.2) := by
  induction l with
  | nil => rfl
  | cons x xs ih =>
    simp only [List.map_cons, PyVal.sortKvs, List.foldr_cons, sortK] at ih ⊢
    rw [ih]
    exact insertKv_map f x _

theorem canon_dict_map {α : Type} (f : α → PyVal) (g : α → α) (h : ∀ x, PyVal.canon (f x) = f (g x)) (l : List (Str × α)) :
    PyVal.canon (.dict (l.map fun p => (p.1, f p.2))) = .dict ((sortK (l.map fun p => (p.1, g p.2))).map fun p => (p.1, f p.2)) := by
  rw [← sortKvs_map, List.map_map]
  simp only [PyVal.canon, canonKvs_eq_map, List.map_map, Function.comp_def, h]

def canonArch (as : List (Str × List PyVal)) : List (Str × List PyVal) := sortK (as.map fun al => (al.1, PyVal.canonList al.2))

/-- the image table of the key-sorted document: keys sorted on both levels, every image dictionary in canonical form -/
def canonOut (o : OutCells) : OutCells := sortK (o.map fun va => (va.1, canonArch va.2))

theorem canon_archsPy (as : List (Str × List PyVal)) : PyVal.canon (archsPy as) = archsPy (canonArch as) :=
  canon_dict_map PyVal.list PyVal.canonList (fun _ => by simp only [PyVal.canon]) as

theorem canon_toPy (o : OutCells) : PyVal.canon o.toPy = (canonOut o).toPy :=
  canon_dict_map archsPy canonArch canon_archsPy o

theorem canonArch_keys (as : List (Str × List PyVal)) : ((canonArch as).map (·.1)).Perm (as.map (·.1)) := by
  unfold canonArch
  exact ((sortK_perm _).map _).trans (.of_eq (Assoc.keys_map _ as))

theorem canonOut_nodup (o : OutCells) (h : OutNodup o) : OutNodup (canonOut o) := by
  have hp : (canonOut o).Perm (o.map fun va => (va.1, canonArch va.2)) := sortK_perm _
  constructor
  · have : ((canonOut o).map (·.1)).Perm (o.map (·.1)) := (hp.map _).trans (.of_eq (Assoc.keys_map _ o))
    exact this.nodup_iff.mpr h.1
  · intro va hva
    obtain ⟨va0, hva0, rfl⟩ := List.mem_map.mp (hp.mem_iff.mp hva)
    exact (canonArch_keys va0.2).nodup_iff.mpr (h.2 va0 hva0)

theorem archTriples_canonArch (v : Str) (as : List (Str × List PyVal)) :
    (archTriples v (canonArch as)).Perm ((archTriples v as).map fun t => (t.1, t.2.1, PyVal.canon t.2.2)) := by
  have e : archTriples v (as.map fun al => (al.1, PyVal.canonList al.2)) = (archTriples v as).map fun t => (t.1, t.2.1, PyVal.canon t.2.2) := by
    simp only [archTriples, List.flatMap_map, List.map_flatMap, List.map_map, canonList_eq_map, Function.comp_def]
  exact (List.Perm.flatMap_right _ (sortK_perm _)).trans (.of_eq e)

theorem flatMap_perm_congr {α β : Type} {f g : α → List β} (l : List α) (h : ∀ a ∈ l, (f a).Perm (g a)) :
    (l.flatMap f).Perm (l.flatMap g) := by
  induction l with
  | nil => exact List.Perm.refl _
  | cons x xs ih =>
    simp only [List.flatMap_cons]
    exact List.Perm.append (h x List.mem_cons_self) (ih fun a ha => h a (List.mem_cons_of_mem _ ha))

theorem outTriples_canonOut (o : OutCells) :
    (outTriples (canonOut o)).Perm ((outTriples o).map fun t => (t.1, t.2.1, PyVal.canon t.2.2)) := by
  have hp : (canonOut o).Perm (o.map fun va => (va.1, canonArch va.2)) := sortK_perm _
  refine (List.Perm.flatMap_right _ hp).trans ?_
  simp only [outTriples, List.flatMap_map, List.map_flatMap]
  exact flatMap_perm_congr o fun va _ => archTriples_canonArch va.1 va.2

theorem canon_doc (cd : PyVal) (O : OutCells) :
    PyVal.canon (docOf cd O)
    = .dict [(L "header", .dict [(L "type", .str Gen.HEADER_TYPE_Images), (L "version", .str currentVersion)]),
      (L "payload", .dict [(L "compose", PyVal.canon cd), (L "images", PyVal.canon O.toPy)])] := by rfl

theorem deserialize_canon_doc (m : ImgState)
    (hi : ∀ i ∈ m.cells.all, i.validate = .ok () ∧ ContainersRep i)
    (ha : ∀ t ∈ triples m.cells, C10.Admissible t.2.1)
    (hu : Uniq m.cells) (cd : PyVal) (hcd : m.compose.serialize = .ok cd) :
    ∃ m'', deserialize (PyVal.canon (docOf cd (outFold (triples m.cells) []))) = .ok m''
      ∧ m''.compose = composeNorm m.compose ∧ m''.version = .str currentVersion
      ∧ (triples m''.cells).Perm ((triples m.cells).map fun t => (t.1, t.2.1, canonC t.2.2)) := by
  obtain ⟨hON, hOP⟩ := outFold_table (triples m.cells)
  generalize outFold (triples m.cells) [] = O at hON hOP ⊢
  -- the table of the key-sorted document holds the key-sorted dictionaries of the images of `m`
  have hCP : (outTriples (canonOut O)).Perm ((triples m.cells).map fun t => (t.1, t.2.1, PyVal.canon t.2.2.dict)) := by
    refine (outTriples_canonOut O).trans ?_
    simpa [List.map_map, Function.comp_def] using hOP.map fun t : Str × Str × PyVal => (t.1, t.2.1, PyVal.canon t.2.2)
  rw [canon_doc, canon_toPy]
  refine deserialize_written m (fun i => PyVal.canon i.dict) canonC (fun i h => image_roundtrip_canon i (hi i h).1 (hi i h).2)
    (fun i hi0 j hj0 hid => ?_) ha _ (canonOut_nodup O hON) hCP _ _ (compose_roundtrip_canon m.compose _ cd hcd) rfl
  -- which are pairwise compatible, identity and checksums being those of the images of `m`
  have ci := canonC_identity i (hi i hi0).2
  have cj := canonC_identity j (hi j hj0).2
  unfold SameIdentity PyEq at hid
  rw [ci.1, cj.1] at hid
  unfold PyEq
  rw [ci.2, cj.2]
  exact hu i hi0 j hj0 hid

section
open PM.JsonParse

theorem toPy_rep (lim : Nat) (o : OutCells) (hN : OutNodup o)
    (hd : ∀ t ∈ outTriples o, jsonRep t.2.2 = true ∧ numsOk lim t.2.2 = true) :
    jsonRep o.toPy = true ∧ numsOk lim o.toPy = true := by
  rw [toPy_eq]
  refine rep_dict lim _ (by rw [Assoc.keys_map]; exact hN.1) fun q hq => ?_
  obtain ⟨va, hva, rfl⟩ := List.mem_map.mp hq
  refine rep_dict lim _ (by rw [Assoc.keys_map]; exact hN.2 va hva) fun q hq => ?_
  obtain ⟨al, hal, rfl⟩ := List.mem_map.mp hq
  refine rep_list lim _ fun d hd' => hd (va.1, al.1, d) ?_
  simp only [outTriples, archTriples, List.mem_flatMap, List.mem_map]
  exact ⟨va, hva, al, hal, d, hd', rfl⟩

theorem header_rep (lim : Nat) :
    jsonRep (.dict [(L "type", .str Gen.HEADER_TYPE_Images), (L "version", .str currentVersion)]) = true
    ∧ numsOk lim (.dict [(L "type", .str Gen.HEADER_TYPE_Images), (L "version", .str currentVersion)]) = true := ⟨by decide +kernel, rfl⟩

theorem serialized_doc_rep (lim : Nat) (m : ImgState)
    (hi : ∀ i ∈ m.cells.all, i.validate = .ok () ∧ ContainersRep i ∧ NumsFit lim i)
    (hrespin : numsOk lim m.compose.respin = true) (cd : PyVal) (hcd : m.compose.serialize = .ok cd) :
    jsonRep (docOf cd (outFold (triples m.cells) [])) = true ∧ numsOk lim (docOf cd (outFold (triples m.cells) [])) = true := by
  obtain ⟨hON, hOP⟩ := outFold_table (triples m.cells)
  have htab := toPy_rep lim _ hON fun t ht => by
    obtain ⟨u, hu, rfl⟩ := List.mem_map.mp (hOP.mem_iff.mp ht)
    obtain ⟨hv, hr, hn⟩ := hi _ (mem_all_of_triple hu)
    exact image_dict_rep lim u.2.2 hv hr hn
  unfold docOf
  generalize (outFold (triples m.cells) []).toPy = X at htab ⊢
  refine rep_dict lim _ (by show [L "header", L "payload"].Nodup; decide)
    (List.forall_mem_cons.mpr ⟨header_rep lim, List.forall_mem_cons.mpr ⟨?_, fun _ h => nomatch h⟩⟩)
  exact rep_dict lim _ (by show [L "images", L "compose"].Nodup; decide) (List.forall_mem_cons.mpr
    ⟨htab, List.forall_mem_cons.mpr ⟨compose_dict_rep lim m.compose cd hcd hrespin, fun _ h => nomatch h⟩⟩)

end

end PM.Img
