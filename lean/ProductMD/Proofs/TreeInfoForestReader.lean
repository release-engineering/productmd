import ProductMD.Proofs.TreeInfoReader
/-!
The reader of the variant forest: any number of top-level variants, any nesting depth, children of every type (the `addon-` /
`variant-` section fallback of F7).  Every `Variant.deserialize` of the code (current, ≤ 0.3) does on a node of a written forest what
`nodeRead` says; `forest_ok` / `tops_ok` are proved for any such reader, `deVariant_node` is the current reader's instance against a
view of the written document (the ≤ 0.3 reader's is `rd03_node`, `Proofs/C05TIDownOld.lean`).
-/
namespace PM
namespace TI
open Ini

mutual
def height : Variant → Nat
  | .mk _ _ _ _ _ _ kids => heights kids + 1
def heights : List Variant → Nat
  | [] => 0
  | v :: vs => max (height v) (heights vs)
end

theorem height_mem : ∀ (vs : List Variant) (v : Variant), v ∈ vs → height v ≤ heights vs
  | [], _, h => by cases h
  | w :: ws, v, h => by
    simp only [heights]
    cases h with
    | head => omega
    | tail _ h => have := height_mem ws v h; omega

theorem height_kids (w : Variant) : heights w.kids + 1 = height w := by cases w; rfl

mutual
theorem height_le_flatV : ∀ (w : Variant) (pu : Option Str), height w ≤ (flatV pu w).length
  | .mk key id uid name type paths kids, pu => by
    simp only [height, flatV, List.length_append, List.length_cons, List.length_nil]
    have := heights_le_flatVs kids (some uid)
    omega
theorem heights_le_flatVs : ∀ (vs : List Variant) (pu : Option Str), heights vs ≤ (flatVs pu vs).length
  | [], _ => by simp [heights]
  | v :: vs, pu => by
    simp only [heights, flatVs, List.length_append]
    have h1 := height_le_flatV v pu
    have h2 := heights_le_flatVs vs pu
    omega
end

/-- `deTops` runs `deVariant` with fuel `d.length + 1`: enough, since every variant at every depth has a section of its own -/
theorem heights_le_docList (t : TreeInfo) (g : IniSec) : heights t.variants ≤ (docList t g).length := by
  have := heights_le_flatVs t.variants none
  simp only [docList, List.length_append]
  omega

theorem subV_eq (pu : Option Str) (w : Variant) : subV pu w = (pu, w) :: subVs (some w.uid) w.kids := by
  cases w; rfl

theorem siblings_sublist (pu : Option Str) : ∀ vs : List Variant, (vs.map fun v => (pu, v)).Sublist (subVs pu vs)
  | [] => List.Sublist.slnil
  | v :: vs => by
    simp only [List.map_cons, subVs]
    rw [subV_eq, List.cons_append]
    exact List.Sublist.cons_cons _ ((siblings_sublist pu vs).trans (List.sublist_append_right _ _))

theorem self_mem_subVs (pu : Option Str) (vs : List Variant) (v : Variant) (h : v ∈ vs) : (pu, v) ∈ subVs pu vs :=
  (siblings_sublist pu vs).subset (List.mem_map.mpr ⟨v, h, rfl⟩)

mutual
theorem kids_sublist_subV : ∀ (w : Variant) (p0 : Option Str) (x : Option Str × Variant), x ∈ subV p0 w →
    (subVs (some x.2.uid) x.2.kids).Sublist (subV p0 w)
  | .mk key id uid name type paths kids, p0, x, hx => by
    simp only [subV, List.mem_cons] at hx
    rcases hx with hx | hx
    · subst hx; simp only [subV]; exact List.sublist_cons_self _ _
    · simp only [subV]
      exact (kids_sublist_subVs kids (some uid) x hx).trans (List.sublist_cons_self _ _)
theorem kids_sublist_subVs : ∀ (vs : List Variant) (p0 : Option Str) (x : Option Str × Variant), x ∈ subVs p0 vs →
    (subVs (some x.2.uid) x.2.kids).Sublist (subVs p0 vs)
  | [], _, x, hx => by simp [subVs] at hx
  | w :: ws, p0, x, hx => by
    simp only [subVs, List.mem_append] at hx ⊢
    rcases hx with hx | hx
    · exact (kids_sublist_subV w p0 x hx).trans (List.sublist_append_left _ _)
    · exact (kids_sublist_subVs ws p0 x hx).trans (List.sublist_append_right _ _)
end

theorem kid_mem_subVs (vs : List Variant) (p0 : Option Str) (x : Option Str × Variant) (hx : x ∈ subVs p0 vs)
    (v : Variant) (hv : v ∈ x.2.kids) : (some x.2.uid, v) ∈ subVs p0 vs :=
  (kids_sublist_subVs vs p0 x hx).subset (self_mem_subVs (some x.2.uid) x.2.kids v hv)

mutual
theorem parent_subV : ∀ (w : Variant) (pu : Option Str) (x : Option Str × Variant), x ∈ subV pu w → x = (pu, w) ∨ x.1.isSome = true
  | .mk key i uid name type paths kids, pu, x, hx => by
    rw [subV, List.mem_cons] at hx
    exact hx.imp id fun h => (parent_subVs kids (some uid) x h).elim (fun h => by rw [h.1]; rfl) id
theorem parent_subVs : ∀ (vs : List Variant) (pu : Option Str) (x : Option Str × Variant), x ∈ subVs pu vs →
    (x.1 = pu ∧ x.2 ∈ vs) ∨ x.1.isSome = true
  | [], _, x, hx => by simp [subVs] at hx
  | w :: ws, pu, x, hx => by
    rw [subVs, List.mem_append] at hx
    rcases hx with hx | hx
    · exact (parent_subV w pu x hx).imp (fun h => by rw [h]; exact ⟨rfl, List.mem_cons_self ..⟩) id
    · exact (parent_subVs ws pu x hx).imp (fun h => ⟨h.1, List.mem_cons_of_mem _ h.2⟩) id
end

theorem top_mem_of_none (vs : List Variant) (x : Option Str × Variant) (hx : x ∈ subVs none vs) (hn : x.1 = none) : x.2 ∈ vs :=
  (parent_subVs vs none x hx).elim (·.2) fun h => by rw [hn] at h; cases h

theorem normVs_eq_map : ∀ vs : List Variant, normVs vs = vs.map (normV false)
  | [] => rfl
  | v :: vs => by simp [normVs, normVs_eq_map vs]

theorem normTops_eq_map : ∀ vs : List Variant, normTops vs = vs.map (normV true)
  | [] => rfl
  | v :: vs => by simp [normTops, normTops_eq_map vs]

theorem normV_uid (b : Bool) (w : Variant) : (normV b w).uid = w.uid := by cases w; rfl
theorem normV_key (b : Bool) (w : Variant) : (normV b w).key = if b then w.uid else w.id := by cases w; rfl

/-- the children of one variant have pairwise distinct ids (they are filed under their id on load) -/
def KidIdsNodup (tops : List Variant) : Prop := ∀ x ∈ subVs none tops, (x.2.kids.map Variant.id).Nodup

/-- The hypotheses on the forest that the reader lemmas take, bundled.  The C04 theorems state `uidsOK`, `uidsNodup` and
`topNotAddon` as separate hypotheses and derive `kidIds` from the writer's validity (`kidIds_of_valid`). -/
structure ForestOK (tops : List Variant) : Prop where
  uidsOK : UidsOK tops
  uidsNodup : UidsNodup tops
  kidIds : KidIdsNodup tops
  topNotAddon : TopNotAddon tops

theorem siblings_uids_sublist (pu : Option Str) (vs : List Variant) :
    (vs.map Variant.uid).Sublist ((subVs pu vs).map (·.2.uid)) := by
  have := (siblings_sublist pu vs).map (fun y : Option Str × Variant => y.2.uid)
  rwa [List.map_map] at this

theorem kids_uids_nodup {tops : List Variant} (h : UidsNodup tops) (x : Option Str × Variant) (hx : x ∈ subVs none tops) :
    (x.2.kids.map Variant.uid).Nodup :=
  ((siblings_uids_sublist (some x.2.uid) x.2.kids).trans ((kids_sublist_subVs tops none x hx).map _)).nodup h

theorem tops_uids_nodup {tops : List Variant} (h : UidsNodup tops) : (tops.map Variant.uid).Nodup :=
  (siblings_uids_sublist none tops).nodup h

theorem loopAdd_ok (rd : Str → Except Err Variant) (nrm : Variant → Variant) :
    ∀ (ws acc : List Variant), (∀ w ∈ ws, rd w.uid = .ok (nrm w)) → ((acc ++ ws.map nrm).map Variant.key).Nodup →
      loopAdd rd (ws.map Variant.uid) acc = .ok (acc ++ ws.map nrm)
  | [], acc, _, _ => by simp [loopAdd]
  | w :: ws, acc, h, hn => by
    have hw := h w (List.mem_cons_self ..)
    have hfresh : acc.any (fun a => a.key == (nrm w).key) = false := by
      rw [List.any_eq_false]
      intro a ha hk
      exact fresh_of_nodup_append (f := Variant.key) hn (List.mem_map.mpr ⟨a, ha, beq_iff_eq.mp hk⟩)
    simp only [List.map_cons, loopAdd, hw, addKid, hfresh]
    have := loopAdd_ok rd nrm ws (acc ++ [nrm w]) (fun x hx => h x (List.mem_cons_of_mem _ hx)) (by simpa using hn)
    simpa using this

/-- the children list as `Variant.serialize` spells it (no option = the empty list) -/
def kidsStr (kids : List Variant) : Str :=
  if kids.isEmpty then [] else Str.joinWith ',' (Str.sortDedup (kids.map Variant.uid))

theorem kidsStr_of_empty {kids : List Variant} (h : kids.isEmpty = true) : kidsStr kids = [] := if_pos h

theorem kidsStr_of_nonempty {kids : List Variant} (h : kids.isEmpty = false) :
    kidsStr kids = Str.joinWith ',' (Str.sortDedup (kids.map Variant.uid)) := if_neg (by rw [h]; decide)

/-- the key a container files a variant under: its id below a variant, `uid or id` at top level -/
def fileKey (pu : Option Str) (id uid : Str) : Str :=
  match pu with
  | some _ => id
  | none => if uid.isEmpty then id else uid

/-- the container's `add` after `Variant.deserialize`: the parent pointer is set (`pu`), the variant validates, it is filed -/
def fileAs (pu : Option Str) : Variant → Except Err Variant
  | .mk _ id uid name type paths kids =>
    (validateClass "treeinfo.Variant" (variantObj pu id uid name type kids)).bind fun _ =>
      .ok (.mk (fileKey pu id uid) id uid name type paths kids)

/-- What every `Variant.deserialize` does on a variant `w` once the options of its own section are known: read the children named in
the list (`rd`, one level down), assemble, let the container file the result. -/
def nodeRead (rd : Option Str → Str → Except Err Variant) (pu : Option Str) (w : Variant) : Except Err Variant :=
  (loopAdd (rd (some w.uid)) (splitNonEmpty (kidsStr w.kids)) []).bind fun kids =>
    fileAs pu (.mk [] w.id w.uid w.name w.type (pathOpts w.paths) kids)

theorem fileAs_of_valid {pu : Option Str} {key id uid name type : Str} {paths : List (Str × Str)} {kids : List Variant}
    (h : validateClass "treeinfo.Variant" (variantObj pu id uid name type kids) = .ok ()) :
    fileAs pu (.mk key id uid name type paths kids) = .ok (.mk (fileKey pu id uid) id uid name type paths kids) := by
  simp only [fileAs]
  rw [h]
  rfl

theorem siblings_ok (rd : Str → Except Err Variant) (top : Bool) (vs : List Variant)
    (hn : (vs.map fun v => if top then v.uid else v.id).Nodup) (h : ∀ v ∈ vs, rd v.uid = .ok (normV top v)) :
    loopAdd rd ((sortBy Variant.uid vs).map Variant.uid) [] = .ok (sortBy Variant.uid (vs.map (normV top))) := by
  have hkeys : (([] ++ (sortBy Variant.uid vs).map (normV top)).map Variant.key).Nodup := by
    have : (Variant.key ∘ normV top) = fun v => if top then v.uid else v.id := by
      funext v
      simp [Function.comp, normV_key]
    rw [List.nil_append, List.map_map, this]
    exact nodup_map_sortBy _ _ _ hn
  rw [loopAdd_ok rd (normV top) (sortBy Variant.uid vs) [] (fun v hv => h v ((mem_sortBy _ _ _).mp hv)) hkeys, List.nil_append]
  exact congrArg _ (sortBy_map_same Variant.uid Variant.uid (normV top) (fun v => normV_uid top v) vs).symm

theorem kidsStr_split {tops : List Variant} (F : ForestOK tops) (x : Option Str × Variant) (hx : x ∈ subVs none tops) :
    splitNonEmpty (kidsStr x.2.kids) = (sortBy Variant.uid x.2.kids).map Variant.uid := by
  cases hke : x.2.kids.isEmpty with
  | true =>
    have : x.2.kids = [] := by simpa using hke
    rw [kidsStr_of_empty hke, this]
    rfl
  | false =>
    have huids : ∀ u ∈ Str.sortDedup (x.2.kids.map Variant.uid), u ≠ [] ∧ ',' ∉ u := by
      intro u hu
      obtain ⟨v, hvm, rfl⟩ := List.mem_map.mp (Str.mem_sortDedup.mp hu)
      exact F.uidsOK (some x.2.uid, v) (kid_mem_subVs tops none _ hx v hvm)
    rw [kidsStr_of_nonempty hke, splitNonEmpty_join _ (fun u hu => (huids u hu).1) (fun u hu => (huids u hu).2),
      sortDedup_eq_sortS _ (kids_uids_nodup F.uidsNodup x hx), sortS_map_key]

theorem topsStr_split {tops : List Variant} (F : ForestOK tops) (hne : tops ≠ []) :
    Str.splitOn ',' (Str.joinWith ',' (sortS (tops.map Variant.uid))) = (sortBy Variant.uid tops).map Variant.uid := by
  have huok : ∀ u ∈ sortS (tops.map Variant.uid), ',' ∉ u := by
    intro u hu
    obtain ⟨v, hvm, rfl⟩ := List.mem_map.mp ((mem_sortS _ u).mp hu)
    exact (F.uidsOK (none, v) (self_mem_subVs none _ v hvm)).2
  rw [C14.splitOn_joinWith ',' _ _ huok, sortS_map_key]
  intro e
  have : (sortS (tops.map Variant.uid)).length = 0 := by rw [e]; rfl
  rw [(sortS_perm _).length_eq, List.length_map] at this
  exact hne (List.eq_nil_of_length_eq_zero this)

/-- the variant's own validation is what `ValidV` of its normal form states -/
theorem fileAs_norm (pu : Option Str) (w : Variant) (hne : w.uid ≠ []) (hv : ValidV pu (normV pu.isNone w)) :
    fileAs pu (.mk [] w.id w.uid w.name w.type (pathOpts w.paths) (sortBy Variant.uid (normVs w.kids))) = .ok (normV pu.isNone w) := by
  obtain ⟨key, id, uid, name, type, paths, kids⟩ := w
  simp only [normV, ValidV] at hv
  have hempty : uid.isEmpty = false := List.isEmpty_eq_false_iff.mpr hne
  show fileAs pu (.mk [] id uid name type (pathOpts paths) (sortBy Variant.uid (normVs kids))) = _
  rw [fileAs_of_valid hv.1]
  cases pu with
  | none =>
    show Except.ok (Variant.mk (if uid.isEmpty then id else uid) id uid name type _ _) = _
    rw [hempty]
    rfl
  | some p => rfl

theorem validV_kids (pu : Option Str) (b : Bool) (w : Variant) (h : ValidV pu (normV b w)) :
    ∀ v ∈ w.kids, ValidV (some w.uid) (normV false v) := by
  obtain ⟨key, id, uid, name, type, paths, kids⟩ := w
  simp only [normV, ValidV] at h
  intro v hv
  have := (ValidVs_iff (some uid) _).mp h.2 (normV false v)
  apply this
  rw [mem_sortBy, normVs_eq_map]
  exact List.mem_map.mpr ⟨v, hv, rfl⟩

/-- A reader that on every node of the forest unfolds to `nodeRead` reads each node, at any depth, with enough fuel, as its
normal form. -/
theorem forest_ok (rd : Nat → Option Str → Str → Except Err Variant) {tops : List Variant} (F : ForestOK tops)
    (node : ∀ f x, x ∈ subVs none tops → rd (f + 1) x.1 x.2.uid = nodeRead (rd f) x.1 x.2) :
    ∀ (f : Nat) (x : Option Str × Variant), x ∈ subVs none tops → height x.2 ≤ f →
      ValidV x.1 (normV x.1.isNone x.2) → rd f x.1 x.2.uid = .ok (normV x.1.isNone x.2)
  | 0, x, _, hh, _ => by
    have := height_kids x.2
    omega
  | f + 1, x, hx, hh, hv => by
    have ih : ∀ v ∈ x.2.kids, rd f (some x.2.uid) v.uid = .ok (normV false v) := fun v hvm =>
      forest_ok rd F node f (some x.2.uid, v) (kid_mem_subVs tops none x hx v hvm)
        (by have := height_mem _ _ hvm; have := height_kids x.2; simp only; omega) (validV_kids x.1 _ x.2 hv v hvm)
    -- `ok_bind'` before `exact`: unifying through the `bind` would unfold `fileAs` and run the validator's class lookup
    rw [node f x hx, nodeRead, kidsStr_split F x hx, siblings_ok _ false _ (F.kidIds x hx) ih, ← normVs_eq_map, ok_bind']
    exact fileAs_norm x.1 x.2 (F.uidsOK x hx).1 hv

/-- the loop of `Variants.deserialize` over the top-level UIDs -/
theorem tops_ok (rd : Nat → Option Str → Str → Except Err Variant) {tops : List Variant} (F : ForestOK tops)
    (node : ∀ f x, x ∈ subVs none tops → rd (f + 1) x.1 x.2.uid = nodeRead (rd f) x.1 x.2)
    (f : Nat) (hf : heights tops ≤ f) (hvf : ValidVs none (sortBy Variant.uid (normTops tops))) :
    loopAdd (rd f none) ((sortBy Variant.uid tops).map Variant.uid) [] = .ok (sortBy Variant.uid (normTops tops)) := by
  rw [normTops_eq_map] at hvf ⊢
  refine siblings_ok _ true _ (tops_uids_nodup F.uidsNodup) fun v hvm => ?_
  have := height_mem _ _ hvm
  exact forest_ok rd F node f (none, v) (self_mem_subVs none _ v hvm) (by simp only; omega)
    ((ValidVs_iff none _).mp hvf _ ((mem_sortBy _ _ _).mpr (List.mem_map.mpr ⟨v, hvm, rfl⟩)))

variable {C : IniSec → Prop} {t : TreeInfo} {g : IniSec} {d : Ini}

theorem dePaths_ok {L : List (Str × IniSec)} (V : View C L d) {sec : Str} {o : IniSec} (paths : List (Str × Str))
    (hL : L.lookup sec = some o) (h1 : sec.isEmpty = false)
    (ho : ∀ f ∈ Gen.TREEINFO_PATH_FIELDS, o.lookup f = paths.lookup f) :
    ∀ fs : List Str, (∀ f ∈ fs, f ∈ Gen.TREEINFO_PATH_FIELDS) →
      dePaths d sec fs = .ok (fs.filterMap fun f => (paths.lookup f).map fun v => (f, v))
  | [], _ => rfl
  | f :: fs, hsub => by
    have hf := hsub f (List.mem_cons_self ..)
    have hnc : nc f = true := (pathFields_ne_varKeys f hf).2.2.2.2.2.2
    have ih := dePaths_ok V paths hL h1 ho fs (fun x hx => hsub x (List.mem_cons_of_mem _ hx))
    simp only [dePaths, V.hasOption_of hL hnc h1, ho f hf, List.filterMap_cons]
    cases hp : paths.lookup f with
    | none => simp [ih]
    | some v =>
      have := V.get_of hL ((ho f hf).trans hp) hnc
      simp [this, ih]

theorem secName_nonempty (type uid : Str) : (secName type uid).isEmpty = false := by
  have h := secName_headAV type uid
  cases hs : secName type uid with
  | nil => rw [hs] at h; rcases h with h | h <;> cases h
  | cons _ _ => rfl

theorem secName_addon (uid : Str) : secName tAddon uid = pAddon ++ uid := by
  simp [secName]

theorem secName_not_addon {type : Str} (uid : Str) (h : type ≠ tAddon) : secName type uid = pVariant ++ uid := by
  have : (type == tAddon) = false := by simp [h]
  simp [secName, this]

theorem uid_inj {tops : List Variant} (h : UidsNodup tops) {x y : Option Str × Variant} (hx : x ∈ subVs none tops)
    (hy : y ∈ subVs none tops) (e : x.2.uid = y.2.uid) : x = y :=
  inj_of_nodup_map (fun z : Option Str × Variant => z.2.uid) h hx hy e

/-- The section the reader looks a variant up under is the section the writer put it in.  `type0Of` is the type
`Variant.deserialize` assumes before reading the section: for a child `addon` if `addon-UID` exists, else `variant` (F7). -/
theorem reader_section (V : View C (docList t g) d) (hn : ((docList t g).map (·.1)).Nodup) (F : ForestOK t.variants)
    (x : Option Str × Variant) (hx : x ∈ subVs none t.variants) :
    secName (type0Of d x.1 x.2.uid) x.2.uid = secName x.2.type x.2.uid := by
  unfold type0Of
  cases hp : x.1 with
  | none =>
    have hmem := top_mem_of_none t.variants x hx hp
    have hne := F.topNotAddon _ hmem
    rw [secName_not_addon _ hne]
    have : ([] : Str) ≠ tAddon := by decide
    exact secName_not_addon _ this
  | some p =>
    simp only
    have hsec := V.hasSection_of (s := secName tAddon x.2.uid)
    by_cases ht : x.2.type = tAddon
    · have hl := L_variant hn x hx
      rw [ht] at hl
      rw [hsec, hl, ht]; rfl
    · have hnone : (docList t g).lookup (secName tAddon x.2.uid) = none := by
        cases hl : (docList t g).lookup (secName tAddon x.2.uid) with
        | none => rfl
        | some o =>
          exfalso
          obtain ⟨y, hy, hs, _⟩ := L_variant_inv (secName_headAV _ _) hl
          rw [secName_addon] at hs
          by_cases hyt : y.2.type = tAddon
          · rw [hyt, secName_addon] at hs
            have hu : x.2.uid = y.2.uid := List.append_cancel_left hs
            have := uid_inj F.uidsNodup hx hy hu
            rw [this] at ht; exact ht hyt
          · rw [secName_not_addon _ hyt, pAddon_eq, pVariant_eq] at hs
            cases hs
      rw [hsec, hnone]
      have : tVariant ≠ tAddon := by decide
      simp only [Option.isSome_none, Bool.false_eq_true, if_false]
      rw [secName_not_addon _ this, secName_not_addon _ ht]

/-- the last step of `deVariant` (the container's `add`, inline there) is `fileAs` -/
theorem deVariant_add (pu : Option Str) (id uid name type : Str) (paths : List (Str × Str)) (ks : List Variant)
    (hempty : uid.isEmpty = false) :
    (match validateClass "treeinfo.Variant" (variantObj pu id uid name type ks) with
      | .error e => .error e
      | .ok () => .ok (.mk (match pu with | some _ => id | none => uid) id uid name type paths ks))
    = fileAs pu (.mk [] id uid name type paths ks) := by
  simp only [fileAs]
  cases validateClass "treeinfo.Variant" (variantObj pu id uid name type ks) with
  | error e => rfl
  | ok u =>
    cases pu with
    | none =>
      show _ = Except.ok (Variant.mk (if uid.isEmpty then id else uid) id uid name type paths ks)
      rw [hempty]
      rfl
    | some p => rfl

/-- The current reader is an instance of `nodeRead` on every node of a written forest: `reader_section` gives the section it opens,
the `View` turns each `get` / `has_option` on it into the option the writer put there (`varOpts_lookup`), and what is left of
`deVariant` after rewriting with these is `nodeRead` up to `deVariant_add`. -/
theorem deVariant_node (V : View C (docList t g) d) (hn : ((docList t g).map (·.1)).Nodup) (F : ForestOK t.variants)
    (f : Nat) (x : Option Str × Variant) (hx : x ∈ subVs none t.variants) :
    deVariant .v1_0 d (f + 1) x.1 x.2.uid = nodeRead (deVariant .v1_0 d f) x.1 x.2 := by
  have hsecname := reader_section V hn F x hx
  have hL := L_variant hn x hx
  have huok := F.uidsOK x hx
  obtain ⟨pu, w⟩ := x
  obtain ⟨key, id, uid, name, type, paths, kids⟩ := w
  simp only [Variant.uid, Variant.type] at hsecname hL huok ⊢
  obtain ⟨l1, l2, l3, l4, l5, _, l7⟩ := varOpts_lookup pu key id uid name type paths kids
  have hne := secName_nonempty type uid
  have g1 := V.get_of hL l1 (by decide)
  have g2 := V.get_of hL l2 (by decide)
  have g3 := V.get_of hL l3 (by decide)
  have g4 := V.get_of hL l4 (by decide)
  have hempty : uid.isEmpty = false := List.isEmpty_eq_false_iff.mpr huok.1
  have hopt : hasOption d (secName type uid) kAddons = !kids.isEmpty := by
    rw [V.hasOption_of hL (by decide) hne, l7]
    cases kids.isEmpty <;> rfl
  have hpaths := dePaths_ok V paths hL hne l5 Gen.TREEINFO_PATH_FIELDS (fun _ h => h)
  have hvp := closed_facts.variantPaths
  have hsp : splitNonEmpty [] = [] := by decide
  rw [deVariant.eq_def]
  simp only [hempty, Bool.false_eq_true, if_false, hsecname, g1, g2, g3, g4, hopt, hpaths, hvp, nodeRead, Variant.id,
    Variant.uid, Variant.name, Variant.type, Variant.paths, Variant.kids]
  -- the children list is there exactly when there are children
  by_cases hke : kids.isEmpty = true
  · simp only [hke, kidsStr_of_empty hke, Bool.not_true, Bool.false_eq_true, if_false, hsp, loopAdd, Except.bind]
    rw [← deVariant_add pu id uid name type (pathOpts paths) [] hempty]
    rfl
  · have hke : kids.isEmpty = false := by simpa using hke
    have g7 := V.get_of hL (by rw [l7, hke]; rfl) (by decide)
    simp only [hke, kidsStr_of_nonempty hke, Bool.not_false, if_true, g7]
    cases loopAdd (deVariant .v1_0 d f (some uid)) (splitNonEmpty (Str.joinWith ',' (Str.sortDedup (kids.map Variant.uid)))) [] with
    | error e => rfl
    | ok ks =>
      rw [ok_bind', ← deVariant_add pu id uid name type (pathOpts paths) ks hempty]
      rfl

theorem getItem_ne_nil {f : Nat} {vs : List Variant} {key : Str} {v : Variant} (h : getItem f vs key = .ok v) : vs ≠ [] := by
  rintro rfl
  cases f with
  | zero => cases h
  | succ f =>
    -- on `[]` every `find?` of `getItem` is `none`, and each of the leaves that remain is an error
    rw [getItem] at h
    simp only [List.find?_nil] at h
    split at h
    · split at h <;> cases h
    · cases h

theorem deTops_ok (V : View C (docList t g) d) (hn : ((docList t g).map (·.1)).Nodup) (F : ForestOK t.variants)
    (hne : t.variants ≠ [])
    (hvf : ValidVs none (sortBy Variant.uid (normTops t.variants)))
    (hv : validateClass "treeinfo.Variants" (variantsObj (sortBy Variant.uid (normTops t.variants))) = .ok ()) :
    deTops .v1_0 d = .ok (sortBy Variant.uid (normTops t.variants)) := by
  have hL := L_tree t g
  obtain ⟨_, _, _, l4⟩ := treeOptsFull_lookup t
  have ho : hasOption d sTree kVariants = true := by
    rw [V.hasOption_of hL (by decide) (by decide), l4]; rfl
  have hfuel := heights_le_docList t g
  rw [← V.length] at hfuel
  refine Returns.ite_bind (Returns.ite_pos ho (congrArg (Except.map _) (V.get_of hL l4 (by decide)))) ?_
  rw [topsStr_split F hne]
  exact Returns.bind (tops_ok (deVariant .v1_0 d) F (deVariant_node V hn F) _ (by omega) hvf) (Returns.validated hv)

/-! UID alignment (a child's UID is `<parent UID>-<id>`) is enforced by the generated validator of `treeinfo.Variant`
(custom rule `_validate_uid`), hence sibling ids are pairwise distinct whenever UIDs are. -/

theorem aligned_of_valid (p id uid name type : Str) (kids : List Variant)
    (h : validateClass "treeinfo.Variant" (variantObj (some p) id uid name type kids) = .ok ()) : uid = p ++ '-' :: id := by
  have := check_of_rule closed_facts.variantUid h
  rw [Rule.check, customs_bound.variantUid, tiVariantUid_child rfl rfl rfl rfl] at this
  exact of_ite_ok this

theorem validV_of_mem_subV : ∀ (w : Variant) (p0 : Option Str), ValidV p0 w → ∀ x ∈ subV p0 w, ValidV x.1 x.2 := by
  intro w p0 h x hx
  rw [validV_iff_nodes] at h ⊢
  intro y hy
  rw [subV_eq] at hy
  rcases List.mem_cons.mp hy with rfl | hy
  · exact h _ hx
  · exact h y ((kids_sublist_subV w p0 x hx).subset hy)

theorem kidIds_of_valid {tops : List Variant} (hv : ValidVs none tops) (hnd : UidsNodup tops) : KidIdsNodup tops := by
  intro x hx
  have hu := kids_uids_nodup hnd x hx
  have : x.2.kids.map Variant.uid = (x.2.kids.map Variant.id).map (fun i => x.2.uid ++ '-' :: i) := by
    rw [List.map_map]
    apply List.map_congr_left
    intro v hvm
    exact aligned_of_valid _ _ _ _ _ _ ((validVs_iff_nodes tops none).mp hv _ (kid_mem_subVs tops none x hx v hvm))
  rw [this] at hu
  exact nodup_of_map _ _ hu

end TI
end PM
