import ProductMD.Proofs.TreeInfoForestReader
/-!
The assembled current-format reader against a view of the written document: it returns `norm t`.  The hypotheses about the tree
(what can travel in the file syntax; F17, F24, F25 outside) are explained at `C04_tree_readback`.
-/
namespace PM
namespace TI
open Ini

variable {C : IniSec → Prop}

/-- **The reader inverts the writer**, for any document `d` that is a view of the sections `serialize` produced: `d0` is the document
the writer built, `d` is `d0` itself (`Written.view`) or what the text reader returns for its rendering (`view_readDoc`); `hC*`: the
sections whose `items()` are read meet the condition of the view. -/
theorem readback_of_view (fo : FloatOracle) {t : TreeInfo} {mv : Option Str} {d0 d : Ini} {n n0 : Int} {key : Str} {chosen : Variant}
    (w : Written t mv d0 n0 key chosen) (wv : WriteValid t)
    (V : View C (docList t (generalOpts t n0 key chosen)) d)
    (hts : t.tree.ts = .int n) (hfl : fo.intOfFloatStr (Str.intStr n) = .ok n)
    (hplat : PlatformsOK t.tree) (hforest : ForestOK t.variants) (hcs : ChecksumsOK t.checksums)
    (himg : ImagesOK t.tree.arch t.images)
    (hCcs : t.checksums.isEmpty = false → C (checksumOpts t.checksums)) (hCimg : ∀ p ∈ t.images, C (setsKV [] p.2))
    (hv : ReadValid (norm t)) :
    deserialize fo d = .ok (norm t) := by
  have hn := w.nodup
  have hTree := deTree_ok fo V (L_tree t _) n hts hfl hplat (by
    have := hv.tree
    simp only [norm, hts] at this
    exact this)
  have hImages := deImages_ok V t.images ⟨t.tree.arch, .int n, Str.sortDedup (t.tree.platforms ++ [t.tree.arch])⟩
    (fun p hp => L_images hn p hp) (sections_img_of_view V) (imagePlatforms_nodup hn) himg hCimg hv.images
  have hStage2 := deStage2_ok V t.mainimage t.instimage (L_stage2 t _) hv.stage2
  have hMedia := deMedia_ok V (L_media t _) w.media hv.media
  have hBase : (if t.isLayered then (deBase d).map some else pure none) = Except.ok (if t.isLayered then t.baseProduct else none) := by
    cases hl : t.isLayered
    · rfl
    · obtain ⟨p, hp, hvp⟩ := wv.base hl
      have hL : (docList t (generalOpts t n0 key chosen)).lookup sBase = some (baseOpts' p) := by
        rw [L_base, hl, hp]
        rfl
      rw [if_pos rfl, if_pos rfl, deBase_ok V hL hvp, hp]
      rfl
  -- `deserialize`, statement by statement.  The forest is not empty, since the look-up of the main variant for `[general]` succeeded
  -- (`w.hchosen`); of an empty one `[tree] variants` would be `""`, which `split(",")` reads as one UID `""` (`topsStr_split`)
  refine Returns.bind (deHeader_ok V (L_header t _)) <| Returns.bind closed_facts.versionTuple <|
    Returns.bind (deRelease_ok V t.release t.isLayered (L_release t _) wv.release) <|
    Returns.ite_bind hBase <| Returns.bind hTree <|
    Returns.bind (deTops_ok V hn hforest (getItem_ne_nil w.hchosen) hv.forest hv.tops) <|
    Returns.bind (deChecksums_ok V t.checksums (L_checksums t _) hcs hCcs hv.checksums) <|
    Returns.bind hImages <| Returns.bind hStage2 <| Returns.bind hMedia <| Returns.bind closed_facts.treeinfo ?_
  simp only [norm, hts, normOpt]
  rfl

/-- both rules of `Images.validate()` range over the image dictionary, which is empty -/
theorem images_valid_empty (ps : List Str) : validateClass "treeinfo.Images" (imagesObj [] ps) = .ok () := by
  rw [validateClass_ok_iff _ (by rw [closed_facts.images]; exact List.cons_ne_nil _ _), closed_facts.images]
  intro r hr
  rcases List.mem_cons.mp hr with rfl | hr
  · rw [Rule.check, customs_bound.imagePaths]; rfl
  · rw [List.mem_singleton.mp hr, Rule.check, customs_bound.imagePlatforms]; rfl

theorem readValid_of_normal {t : TreeInfo} (wv : WriteValid t) (hnorm : norm t = t) : ReadValid t := by
  refine ⟨wv.tree, wv.tops, wv.forest, wv.checksums, ?_, ?_, ?_⟩
  · cases he : t.images.isEmpty
    · exact wv.images he
    · have : t.images = [] := by simpa using he
      rw [this]; exact images_valid_empty _
  · cases hon : stage2On t.mainimage t.instimage
    · have hm := congrArg TreeInfo.mainimage hnorm
      have hi := congrArg TreeInfo.instimage hnorm
      simp only [norm] at hm hi
      obtain ⟨h1, h2⟩ : optTruthy t.mainimage = false ∧ optTruthy t.instimage = false := Bool.or_eq_false_iff.mp hon
      simp only [h1, h2, Bool.false_eq_true, if_false] at hm hi
      rw [← hm, ← hi]; exact closed_facts.stage2_none
    · exact wv.stage2 hon
  · cases hon : mediaOn t.discnum t.totaldiscs
    · have ha := congrArg TreeInfo.discnum hnorm
      have hb := congrArg TreeInfo.totaldiscs hnorm
      simp only [norm] at ha hb
      obtain ⟨h1, h2⟩ : intTruthy t.discnum = false ∧ intTruthy t.totaldiscs = false := Bool.or_eq_false_iff.mp hon
      simp only [h1, h2, Bool.not_false, Bool.and_self, if_true] at ha hb
      rw [← ha, ← hb]; exact closed_facts.media_none
    · exact wv.media hon

end TI
end PM
