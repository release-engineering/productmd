import ProductMD.Model.RpmsLegacy
import ProductMD.Proofs.ManifestIO
import ProductMD.Proofs.C10Rpms
import ProductMD.Proofs.ExceptMatch
/-!
C05, rpms: what a load through `deserializeL` (any version) has built.

* a 0.3 manifest is replayed through `Rpms.add` from the empty mapping, so the result is JSON-representable
  (`jsonRep`: what the C03 round-trip theorem needs), whatever the document contained;
* the compose section validates (both readers end with `validate()`);
* the compose section is read as by the C03 model wherever that one answers (`composeDeserializeL_of`).
-/
namespace PM.Mf
open PM.PyOps (iter subscript item pyEq)

-- otherwise the unifier runs the class lookup of `validateClass "…" c` when `.matchValidated` is matched against the last statement of a
-- reader: slow, and in `deserializeL_rpms_good` the match is not found
attribute [local irreducible] validateClass

theorem manifest03_jsonRep (pl p : PyVal) (h : manifest03 pl = .ok p) : jsonRep p = true :=
  C10.manifest03_inv (fun s => jsonRep s = true) rpms_add_jsonRep h rfl

theorem composeDeserialize_valid (t : VTuple) (data : PyVal) : Post (composeDeserialize t data) fun c => composeValidate c = .ok () := by
  unfold composeDeserialize
  cases t with
  | text => exact .error
  | nums l =>
    refine .ite .error (.matchV fun sec _ => .matchV fun _ _ => .matchV fun _ _ => ?_)
    dsimp only
    cases getItem sec (lit "type") with
    | error e => exact .error
    | ok ty =>
    cases getItem sec (lit "date") with
    | error e => exact .error
    | ok date =>
    cases getItem sec (lit "respin") with
    | error e => exact .error
    | ok respin => exact .matchV fun _ _ => .matchValidated id

theorem composeDeserialize03_valid (data : PyVal) : Post (composeDeserialize03 data) fun c => composeValidate c = .ok () := by
  unfold composeDeserialize03
  refine .matchV fun _ _ => .matchV fun cid _ => .matchV fun _ _ => .matchV fun _ _ => ?_
  cases dateTypeRespinOf cid with
  | error e => exact .error
  | ok dtr => exact .matchV fun _ _ => .matchValidated id

theorem composeDeserializeL_valid (t : VTuple) (data : PyVal) : Post (composeDeserializeL t data) fun c => composeValidate c = .ok () := by
  unfold composeDeserializeL
  cases t with
  | text => exact .error
  | nums l => exact .ite (composeDeserialize03_valid data) (composeDeserialize_valid _ data)

theorem composeDeserializeL_of (t : VTuple) (data : PyVal) (c : Obj) (h : composeDeserialize t data = .ok c) :
    composeDeserializeL t data = .ok c := by
  unfold composeDeserializeL
  cases t with
  | text => cases h
  | nums l =>
    dsimp only
    by_cases g : gateHolds Gen.gate_composeinfo_Compose_deserialize_0 l = true
    · -- the C03 reader refuses what the gate sends to the 0.x reader, so an `.ok` of it means the gate was false
      unfold composeDeserialize at h
      dsimp only at h
      rw [if_pos g] at h
      cases h
    · rw [if_neg g]
      exact h

theorem deserializeL_rpms_good (doc : PyVal) : Post (deserializeL .rpms doc) fun m =>
    m.version = .str currentVersion ∧ composeValidate m.compose = .ok ()
    ∧ (jsonRep doc = true → jsonRep m.payload = true) := by
  unfold deserializeL
  cases headerDeserialize .rpms doc with
  | error e => exact .error
  | ok vt =>
  refine .matchV fun pl hpl => ?_
  cases hc : composeDeserializeL vt.2 pl with
  | error e => exact .error
  | ok c =>
  refine .matchV fun payload hp => .matchValidated fun _ => ⟨rfl, (composeDeserializeL_valid vt.2 pl).elim hc, fun hd => ?_⟩
  have hcase : manifest03 pl = .ok payload ∨ getItem pl Kind.rpms.payloadKey = .ok payload := by
    -- `legacy` is a match on the version tuple: numbers, for which the gate decides, or text
    split at hp
    · split at hp
      · exact Or.inl hp
      · exact Or.inr hp
    · exact Or.inr hp
  exact hcase.elim (manifest03_jsonRep pl payload) (getItem_jsonRep pl payload _ (getItem_jsonRep doc pl _ hd hpl))

end PM.Mf
