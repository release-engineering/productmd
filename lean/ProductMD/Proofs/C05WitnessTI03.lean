import ProductMD.Proofs.C05WitnessTI
/-!
C05: the tree the 0.3 witness loads to.  That every carried hypothesis of `C05_ti_idempotent` holds of it (non-vacuity) is
evaluated in the kernel as `wT03_facts` (`Proofs/FactsTreeInfo.lean`).
-/
namespace PM
open PM.TI PM.Ini

/-- the tree the witness loads to -/
def wT03 : TreeInfo := match TI.Legacy.deserialize intOracle wTI03 with | .ok t => t | .error _ => C04_exTree

end PM
