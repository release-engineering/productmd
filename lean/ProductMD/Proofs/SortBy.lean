import ProductMD.Model.Ini
import ProductMD.Proofs.SortK
import ProductMD.Proofs.Assoc
/-!
Facts about the stable insertion sort `Ini.sortBy` (model of `sorted(...)` / `SortedDict` iteration); a sort by key answers
every lookup like the list itself.  How it differs from `sortK`: head of Proofs/SortK.
-/
namespace PM
namespace Ini

variable {α β : Type}

theorem insertBy_cons (key : α → Str) (x y : α) (l : List α) :
    insertBy key x (y :: l) = if !Str.lt (key y) (key x) then x :: y :: l else y :: insertBy key x l := by
  rw [insertBy]
  cases Str.lt (key y) (key x) <;> rfl

theorem insertBy_perm (key : α → Str) (x : α) (l : List α) : (insertBy key x l).Perm (x :: l) :=
  insertKey_perm (insertBy key) (fun _ => rfl) (insertBy_cons key) x l

theorem sortBy_perm (key : α → Str) : ∀ l : List α, (sortBy key l).Perm l := by
  intro l
  induction l with
  | nil => simp [sortBy]
  | cons x xs ih =>
    simp only [sortBy, List.foldr_cons]
    exact (insertBy_perm key x _).trans (List.Perm.cons x ih)

theorem mem_sortBy (key : α → Str) (l : List α) (x : α) : x ∈ sortBy key l ↔ x ∈ l := (sortBy_perm key l).mem_iff

theorem sortBy_nil (key : α → Str) : sortBy key ([] : List α) = [] := rfl

theorem sortBy_eq_nil (key : α → Str) (l : List α) : sortBy key l = [] ↔ l = [] := by
  constructor
  · intro h
    exact (h ▸ (sortBy_perm key l).symm).eq_nil
  · intro h
    subst h
    rfl

theorem sortBy_sorted (key : α → Str) : ∀ l : List α, (sortBy key l).Pairwise (KeyLe key) := by
  intro l
  induction l with
  | nil => simp [sortBy]
  | cons x xs ih =>
    simp only [sortBy, List.foldr_cons]
    exact insertKey_sorted (insertBy key) (fun _ => rfl) (insertBy_cons key)
      (fun _ _ h => Str.le_of_lt_false ((Bool.not_eq_true' _).mp h)) (fun _ _ h => Str.le_of_lt_true ((Bool.not_eq_false' _).mp h)) x _ ih

theorem sortBy_perm_eq_of_inj (key : α → Str) {l₁ l₂ : List α} (hp : l₁.Perm l₂)
    (hinj : ∀ a ∈ l₁, ∀ b ∈ l₁, key a = key b → a = b) : sortBy key l₁ = sortBy key l₂ :=
  eq_of_perm_of_sorted key ((sortBy_perm key l₁).trans (hp.trans (sortBy_perm key l₂).symm)) (sortBy_sorted key l₁)
    (sortBy_sorted key l₂) fun a ha b hb => hinj a ((mem_sortBy key l₁ a).mp ha) b ((mem_sortBy key l₁ b).mp hb)

theorem sortBy_perm_eq (key : α → Str) {l₁ l₂ : List α} (hp : l₁.Perm l₂) (hd : (l₁.map key).Nodup) :
    sortBy key l₁ = sortBy key l₂ :=
  sortBy_perm_eq_of_inj key hp fun _ ha _ hb => inj_of_nodup_map key hd ha hb

theorem sortS_perm_eq {l₁ l₂ : List Str} (hp : l₁.Perm l₂) : sortS l₁ = sortS l₂ :=
  sortBy_perm_eq_of_inj id hp fun _ _ _ _ h => h

theorem insertBy_of_le (key : α → Str) (x : α) : ∀ l : List α, (∀ y ∈ l, key x ≤ key y) → insertBy key x l = x :: l := by
  intro l h
  cases l with
  | nil => rfl
  | cons y ys =>
    have hy := h y (List.mem_cons_self ..)
    have : Str.lt (key y) (key x) = false := by
      simp only [Str.lt, decide_eq_false_iff_not]; exact List.not_lt.mpr hy
    simp [insertBy, this]

theorem sortBy_of_sorted (key : α → Str) : ∀ l : List α, l.Pairwise (KeyLe key) → sortBy key l = l := by
  intro l
  induction l with
  | nil => intro _; rfl
  | cons x xs ih =>
    intro h
    have hx := List.pairwise_cons.mp h
    simp only [sortBy, List.foldr_cons]
    have : List.foldr (insertBy key) [] xs = xs := ih hx.2
    rw [this]
    exact insertBy_of_le key x xs hx.1

theorem sortBy_idem (key : α → Str) (l : List α) : sortBy key (sortBy key l) = sortBy key l :=
  sortBy_of_sorted key _ (sortBy_sorted key l)

theorem insertBy_map (key : α → Str) (key' : β → Str) (f : α → β)
    (hf : ∀ a b, Str.lt (key' (f a)) (key' (f b)) = Str.lt (key a) (key b)) (x : α) :
    ∀ l, insertBy key' (f x) (l.map f) = (insertBy key x l).map f := by
  intro l
  induction l with
  | nil => rfl
  | cons y ys ih =>
    simp only [List.map_cons, insertBy, hf]
    split <;> simp [ih]

theorem sortBy_map (key : α → Str) (key' : β → Str) (f : α → β)
    (hf : ∀ a b, Str.lt (key' (f a)) (key' (f b)) = Str.lt (key a) (key b)) :
    ∀ l, sortBy key' (l.map f) = (sortBy key l).map f := by
  intro l
  induction l with
  | nil => rfl
  | cons x xs ih =>
    simp only [List.map_cons, sortBy, List.foldr_cons]
    have : List.foldr (insertBy key') [] (xs.map f) = (List.foldr (insertBy key) [] xs).map f := ih
    rw [this, insertBy_map key key' f hf]

theorem sortS_map_key (key : α → Str) (l : List α) : sortS (l.map key) = (sortBy key l).map key :=
  sortBy_map key id key (fun _ _ => rfl) l

theorem sortBy_map_same (key : α → Str) (key' : β → Str) (f : α → β) (hf : ∀ a, key' (f a) = key a) (l : List α) :
    sortBy key' (l.map f) = (sortBy key l).map f :=
  sortBy_map key key' f (fun a b => by rw [hf, hf]) l

theorem insertBy_filter (key : α → Str) (p : α → Bool) (x : α) :
    ∀ l, l.Pairwise (KeyLe key) →
      (insertBy key x l).filter p = if p x then insertBy key x (l.filter p) else l.filter p := by
  intro l
  induction l with
  | nil => intro _; cases hp : p x <;> simp [insertBy, hp]
  | cons y ys ih =>
    intro hs
    have hy' := List.pairwise_cons.mp hs
    simp only [insertBy]
    cases hlt : Str.lt (key y) (key x) with
    | true =>
      simp only [if_true, List.filter_cons, ih hy'.2]
      cases hy : p y <;> cases hx : p x <;> simp [insertBy, hlt]
    | false =>
      have hle : key x ≤ key y := Str.le_of_lt_false hlt
      simp only [Bool.false_eq_true, if_false, List.filter_cons]
      cases hy : p y <;> cases hx : p x <;> simp [insertBy, hlt]
      -- `y` is dropped: `x` still goes in front of everything that is kept
      exact (insertBy_of_le key x _ (fun z hz => List.le_trans hle (hy'.1 z (List.mem_filter.mp hz).1))).symm

theorem sortBy_filter (key : α → Str) (p : α → Bool) : ∀ l, (sortBy key l).filter p = sortBy key (l.filter p) := by
  intro l
  induction l with
  | nil => rfl
  | cons x xs ih =>
    have hs := sortBy_sorted key xs
    simp only [sortBy, List.foldr_cons] at ih hs ⊢
    rw [insertBy_filter key p x _ hs, ih]
    cases hx : p x <;> simp [hx]

theorem lt_prefix (p a b : Str) : Str.lt (p ++ a) (p ++ b) = Str.lt a b := by
  induction p with
  | nil => rfl
  | cons c cs ih =>
    simp only [Str.lt, List.cons_append] at ih ⊢
    rw [decide_eq_decide.mpr List.cons_lt_cons_self, ih]

theorem sortS_map_prefix (p : Str) (l : List Str) : sortS (l.map (p ++ ·)) = (sortS l).map (p ++ ·) :=
  sortBy_map id id (p ++ ·) (fun a b => lt_prefix p a b) l

theorem nodup_map_sortBy (key : α → Str) (f : α → β) (l : List α) (h : (l.map f).Nodup) : ((sortBy key l).map f).Nodup :=
  ((sortBy_perm key l).map f).nodup_iff.mpr h

theorem mem_sortKV {γ : Type} (l : List (Str × γ)) (x : Str × γ) : x ∈ sortKV l ↔ x ∈ l := mem_sortBy _ l x
theorem mem_sortS (l : List Str) (x : Str) : x ∈ sortS l ↔ x ∈ l := mem_sortBy _ l x
theorem sortKV_perm {γ : Type} (l : List (Str × γ)) : (sortKV l).Perm l := sortBy_perm _ l
theorem sortS_perm (l : List Str) : (sortS l).Perm l := sortBy_perm _ l
theorem sortKV_perm_eq {γ : Type} {l l' : List (Str × γ)} (h : l.Perm l') (hn : (l.map (·.1)).Nodup) : sortKV l = sortKV l' :=
  sortBy_perm_eq _ h hn
theorem nodup_keys_sortKV {γ : Type} (l : List (Str × γ)) (h : (l.map (·.1)).Nodup) : ((sortKV l).map (·.1)).Nodup :=
  nodup_map_sortBy _ _ l h
theorem sortKV_map_same {γ δ : Type} (f : Str × γ → Str × δ) (hf : ∀ a, (f a).1 = a.1) (l : List (Str × γ)) :
    sortKV (l.map f) = (sortKV l).map f := by
  unfold sortKV
  exact sortBy_map_same (fun x : Str × γ => x.1) (fun x : Str × δ => x.1) f hf l
theorem sortKV_idem {γ : Type} (l : List (Str × γ)) : sortKV (sortKV l) = sortKV l := sortBy_idem _ l
theorem sortKV_nil {γ : Type} : sortKV ([] : List (Str × γ)) = [] := rfl

theorem lookup_insertBy (x : Str × α) : ∀ (l : List (Str × α)) (k : Str),
    (insertBy (·.1) x l).lookup k = (x :: l).lookup k
  | [], _ => rfl
  | y :: ys, k => by
    simp only [insertBy]
    cases hlt : Str.lt y.1 x.1
    · rfl
    · have hne : y.1 ≠ x.1 := by
        simp only [Str.lt, decide_eq_true_eq] at hlt
        intro e; rw [e] at hlt; exact List.lt_irrefl _ hlt
      simp only [if_true]
      obtain ⟨yk, yv⟩ := y
      obtain ⟨xk, xv⟩ := x
      rw [lookup_cons_eq, lookup_insertBy (xk, xv) ys k, lookup_cons_eq, lookup_cons_eq, lookup_cons_eq]
      by_cases h1 : yk = k
      · subst h1
        have : ¬ xk = yk := fun e => hne e.symm
        simp [this]
      · simp [h1]

theorem lookup_sortKV : ∀ (l : List (Str × α)) (k : Str), (sortKV l).lookup k = l.lookup k
  | [], _ => rfl
  | x :: xs, k => by
    have : sortKV (x :: xs) = insertBy (·.1) x (sortKV xs) := rfl
    rw [this, lookup_insertBy]
    obtain ⟨xk, xv⟩ := x
    rw [lookup_cons_eq, lookup_cons_eq, lookup_sortKV xs k]

end Ini
end PM
