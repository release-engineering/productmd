import ProductMD.Proofs.JsonStr
import ProductMD.Proofs.JsonNum
import ProductMD.Proofs.PyCanon
/-!
The JSON reader inverts the JSON printer: `parseWith lim (JsonText.render lvl v) = .ok v` for every
JSON-representable `v : PyVal` (`Mf.jsonRep`: no foreign object, keys pairwise distinct in every dict) whose numbers
are readable (`numsOk lim`: float tokens in the scanner's own float language, integers within `int()`'s digit limit —
no condition when `lim = 0`), at any nesting depth, any size, any indentation level, all strings of Unicode scalar
values; and `parseWith lim (JsonText.dumps v) = .ok (PyVal.canon v)`.
"json.load inverts json.dump" is thereby a theorem about the models, not an assumption (`JsonText.render` is validated
against CPython by the dump checks, `JsonParse.parse` by `harness/json_diff.py`).
-/
namespace PM.JsonParse
open PM JsonText Str Mf

/-! The equations of the printer, by `rfl`.  `render` is defined by mutual recursion with `renderItems` / `renderKvs`; the
proofs rewrite with these equations instead of unfolding it. -/

theorem render_none (lvl : Nat) : render lvl .none = "null".toList := rfl
theorem render_true (lvl : Nat) : render lvl (.bool true) = "true".toList := rfl
theorem render_false (lvl : Nat) : render lvl (.bool false) = "false".toList := rfl
theorem render_str (lvl : Nat) (s : Str) : render lvl (.str s) = quote s := rfl
theorem render_int (lvl : Nat) (n : Int) : render lvl (.int n) = Str.intStr n := rfl
theorem render_float (lvl : Nat) (r : Str) : render lvl (.float r) = r := rfl
theorem render_list_nil (lvl : Nat) : render lvl (.list []) = "[]".toList := rfl
theorem render_dict_nil (lvl : Nat) : render lvl (.dict []) = "{}".toList := rfl
theorem render_list_cons (lvl : Nat) (x : PyVal) (xs : List PyVal) : render lvl (.list (x :: xs)) =
   '[' :: '\n' :: indentStr (lvl + 1) ++ render (lvl + 1) x ++ renderItems (lvl + 1) xs
        ++ '\n' :: indentStr lvl ++ [']'] := rfl
theorem render_dict_cons (lvl : Nat) (k : Str) (v : PyVal) (rest : List (Str × PyVal)) : render lvl (.dict ((k, v) :: rest)) =
      '{' :: '\n' :: indentStr (lvl + 1) ++ quote k ++ ':' :: ' ' :: render (lvl + 1) v
        ++ renderKvs (lvl + 1) rest ++ '\n' :: indentStr lvl ++ ['}'] := rfl
theorem renderItems_nil (lvl : Nat) : renderItems lvl [] = [] := rfl
theorem renderKvs_nil (lvl : Nat) : renderKvs lvl [] = [] := rfl
theorem renderItems_cons (lvl : Nat) (x : PyVal) (xs : List PyVal) : renderItems lvl (x :: xs) =
      ',' :: '\n' :: indentStr lvl ++ render lvl x ++ renderItems lvl xs := rfl
theorem renderKvs_cons (lvl : Nat) (k : Str) (v : PyVal) (rest : List (Str × PyVal)) : renderKvs lvl ((k, v) :: rest) =
      ',' :: '\n' :: indentStr lvl ++ quote k ++ ':' :: ' ' :: render lvl v ++ renderKvs lvl rest := rfl

theorem literal?_digit (c : Char) (t : Str) (h : isAsciiDigit c = true) : literal? (c :: t) = none := by
  simp [literal?, literals, dropPrefix?, digit_ne h 'n' (by decide), digit_ne h 't' (by decide), digit_ne h 'f' (by decide),
    digit_ne h 'N' (by decide), digit_ne h 'I' (by decide), digit_ne h '-' (by decide)]

theorem literal?_minus_digit (d : Char) (t : Str) (h : isAsciiDigit d = true) : literal? ('-' :: d :: t) = none := by
  simp [literal?, literals, dropPrefix?, digit_ne h 'I' (by decide)]

/-- what the number scanner accepts starts with a digit or `-` and a digit, where `scan_once` has no other reading -/
theorem value_number (lim f : Nat) (t : Str) (p : PyVal × Str) (h : number lim t = .ok p) : value lim (f + 1) t = .ok p := by
  obtain ⟨n, hn⟩ : ∃ n, scanNumber t = some n := by
    cases hs : scanNumber t with
    | none => simp [number, hs] at h
    | some n => exact ⟨n, rfl⟩
  rw [← h]
  rcases scanNumber_head hn with ⟨c, t, rfl, hc⟩ | ⟨d, t, rfl, hd⟩
  · simp only [value, (digit_ne hc '"' (by decide)).symm, (digit_ne hc '[' (by decide)).symm,
      (digit_ne hc '{' (by decide)).symm, if_false, literal?_digit c _ hc]
  · simp [value, literal?_minus_digit d _ hd]

/-- the text starts with a character that is neither whitespace nor a closing bracket -/
def startsVal : Str → Bool
  | [] => false
  | c :: _ => !isWs c && c != ']' && c != '}'

/-- what the reader accepts starts a value: on each of the six excluded characters `value` evaluates to an error -/
theorem startsVal_of_value {lim f : Nat} {s : Str} {p : PyVal × Str} (h : value lim f s = .ok p) : startsVal s = true := by
  cases f with
  | zero => cases h
  | succ f =>
    cases s with
    | nil => cases h
    | cons c cs =>
      cases hc : startsVal (c :: cs) with
      | true => rfl
      | false =>
        simp only [startsVal, isWs, Bool.and_eq_false_iff, Bool.not_eq_false', Bool.or_eq_true, beq_iff_eq,
          bne_eq_false_iff_eq] at hc
        rcases hc with ((((rfl | rfl) | rfl) | rfl) | rfl) | rfl <;> cases h

theorem startsVal_quote (k r : Str) : startsVal (quote k ++ r) = true := by rw [quote_eq k]; rfl

theorem skipWs_startsVal {s : Str} (h : startsVal s = true) : skipWs s = s := by
  cases s with
  | nil => rfl
  | cons c t =>
    simp only [startsVal, Bool.and_eq_true, Bool.not_eq_true'] at h
    simp [skipWs, h.1.1]

theorem headIs_startsVal {s : Str} (h : startsVal s = true) : headIs s ']' = false ∧ headIs s '}' = false := by
  cases s with
  | nil => exact ⟨rfl, rfl⟩
  | cons c t =>
    simp only [startsVal, Bool.and_eq_true, bne_iff_ne] at h
    simp [headIs, h.1.2, h.2]

theorem skipWs_nl_indent (n : Nat) (s : Str) : skipWs ('\n' :: (indentStr n ++ s)) = skipWs s := by
  rw [skipWs, if_pos (by decide), indentStr]
  induction 4 * n with
  | zero => rfl
  | succ k ih => rw [List.replicate_succ, List.cons_append, skipWs, if_pos (by decide), ih]

theorem numStop_renderItems (lvl : Nat) (xs : List PyVal) (t : Str) : numStop (renderItems lvl xs ++ '\n' :: t) = true := by
  cases xs <;> rfl

theorem numStop_renderKvs (lvl : Nat) (kvs : List (Str × PyVal)) (t : Str) : numStop (renderKvs lvl kvs ++ '\n' :: t) = true := by
  cases kvs <;> rfl

theorem value_null (lim f : Nat) (rest : Str) : value lim (f + 1) ("null".toList ++ rest) = .ok (.none, rest) := by
  simp [value, literal?, literals, dropPrefix?]

theorem value_true (lim f : Nat) (rest : Str) : value lim (f + 1) ("true".toList ++ rest) = .ok (.bool true, rest) := by
  simp [value, literal?, literals, dropPrefix?]

theorem value_false (lim f : Nat) (rest : Str) : value lim (f + 1) ("false".toList ++ rest) = .ok (.bool false, rest) := by
  simp [value, literal?, literals, dropPrefix?]

theorem value_nan (lim f : Nat) (rest : Str) :
    value lim (f + 1) ("NaN".toList ++ rest) = .ok (.float "NaN".toList, rest) := by
  simp [value, literal?, literals, dropPrefix?]

theorem value_inf (lim f : Nat) (rest : Str) :
    value lim (f + 1) ("Infinity".toList ++ rest) = .ok (.float "Infinity".toList, rest) := by
  simp [value, literal?, literals, dropPrefix?]

theorem value_neginf (lim f : Nat) (rest : Str) :
    value lim (f + 1) ("-Infinity".toList ++ rest) = .ok (.float "-Infinity".toList, rest) := by
  simp [value, literal?, literals, dropPrefix?]

theorem value_str (lim f : Nat) (s rest : Str) : value lim (f + 1) (quote s ++ rest) = .ok (.str s, rest) := by
  rw [quote_eq s]
  simp only [List.cons_append, value, if_true, parseString_quote]

theorem value_int (lim f : Nat) (n : Int) (rest : Str) (hfit : intFits lim n = true) (hstop : numStop rest = true) :
    value lim (f + 1) (intStr n ++ rest) = .ok (.int n, rest) :=
  value_number lim f _ _ (number_intStr lim n rest hfit hstop)

theorem value_float (lim f : Nat) (r rest : Str) (hr : floatTok r = true) (hstop : numStop rest = true) :
    value lim (f + 1) (r ++ rest) = .ok (.float r, rest) := by
  rcases (floatTok_scan r).mp hr with (rfl | rfl | rfl) | ⟨n, hs, h1, h2⟩
  · exact value_nan lim f rest
  · exact value_inf lim f rest
  · exact value_neginf lim f rest
  · exact value_number lim f _ _ (number_floatTok lim r rest n hs h1 h2 hstop)

/-- None, booleans, integers, float tokens and strings come back from their rendering when what follows cannot continue a
number (`hstop`; the numbers alone need it) -/
theorem value_scalar (lim f lvl : Nat) (v : PyVal) (rest : Str)
    (hv : match v with | .list _ => False | .dict _ => False | .other _ => False | _ => True)
    (hnum : numsOk lim v = true) (hstop : numStop rest = true) :
    value lim (f + 1) (render lvl v ++ rest) = .ok (v, rest) := by
  cases v with
  | none => exact value_null lim f rest
  | bool b => cases b; exact value_false lim f rest; exact value_true lim f rest
  | int n => exact value_int lim f n rest (by simpa [numsOk] using hnum) hstop
  | float r => exact value_float lim f r rest (by simpa [numsOk] using hnum) hstop
  | str s => exact value_str lim f s rest
  | list xs => cases hv
  | dict kvs => cases hv
  | other t => cases hv

theorem hasKey_false_iff (l : Kvs) (k : Str) : hasKey l k = false ↔ k ∉ l.map (·.1) := by
  rw [← hasKey_iff_mem, Bool.not_eq_true]

theorem setKey_fresh (acc : Kvs) (k : Str) (v : PyVal) (h : k ∉ acc.map (·.1)) : PyVal.setKey acc k v = acc ++ [(k, v)] := by
  have : acc.any (fun p => p.1 == k) = false := by
    rw [List.any_eq_false]
    intro p hp e
    exact h (List.mem_map.mpr ⟨p, hp, by simpa using e⟩)
  simp [PyVal.setKey, this]

theorem value_list_step (lim f n : Nat) {s r : Str} {v : PyVal} (h : value lim f s = .ok (v, r)) :
    value lim (f + 1) ('[' :: '\n' :: (indentStr n ++ s)) = itemsTail lim f [v] r := by
  have hs := startsVal_of_value h
  simp [value, skipWs_nl_indent, skipWs_startsVal hs, headIs_startsVal hs, h]

theorem itemsTail_step (lim f n : Nat) (acc : List PyVal) {s r : Str} {v : PyVal} (h : value lim f s = .ok (v, r)) :
    itemsTail lim (f + 1) acc (',' :: '\n' :: (indentStr n ++ s)) = itemsTail lim f (v :: acc) r := by
  have hc : skipWs (',' :: '\n' :: (indentStr n ++ s)) = ',' :: '\n' :: (indentStr n ++ s) := rfl
  simp [itemsTail, hc, headIs, skipWs_nl_indent, skipWs_startsVal (startsVal_of_value h), h]

theorem itemsTail_close (lim f n : Nat) (acc : List PyVal) (rest : Str) :
    itemsTail lim (f + 1) acc ('\n' :: (indentStr n ++ ']' :: rest)) = .ok (.list acc.reverse, rest) := by
  have hc : skipWs (']' :: rest) = ']' :: rest := rfl
  simp [itemsTail, skipWs_nl_indent, hc, headIs]

theorem member_step (lim f : Nat) (k : Str) {s r : Str} {v : PyVal} (h : value lim f s = .ok (v, r)) :
    member lim (f + 1) (quote k ++ ':' :: ' ' :: s) = .ok (k, v, r) := by
  have h1 : skipWs (':' :: ' ' :: s) = ':' :: ' ' :: s := rfl
  have h2 : skipWs (' ' :: s) = s := by rw [skipWs, if_pos (by decide), skipWs_startsVal (startsVal_of_value h)]
  rw [quote_eq k]
  simp [member, headIs, parseString_quote, h1, h2, h]

theorem value_dict_step (lim f n : Nat) (k t : Str) {r : Str} {v : PyVal} (h : member lim f (quote k ++ t) = .ok (k, v, r)) :
    value lim (f + 1) ('{' :: '\n' :: (indentStr n ++ (quote k ++ t))) = membersTail lim f [(k, v)] r := by
  have hs := startsVal_quote k t
  simp [value, skipWs_nl_indent, skipWs_startsVal hs, headIs_startsVal hs, h]

theorem membersTail_step (lim f n : Nat) (acc : Kvs) (k t : Str) {r : Str} {v : PyVal}
    (h : member lim f (quote k ++ t) = .ok (k, v, r)) :
    membersTail lim (f + 1) acc (',' :: '\n' :: (indentStr n ++ (quote k ++ t))) = membersTail lim f (PyVal.setKey acc k v) r := by
  have hc : skipWs (',' :: '\n' :: (indentStr n ++ (quote k ++ t))) = ',' :: '\n' :: (indentStr n ++ (quote k ++ t)) := rfl
  simp [membersTail, hc, headIs, skipWs_nl_indent, skipWs_startsVal (startsVal_quote k t), h]

theorem membersTail_close (lim f n : Nat) (acc : Kvs) (rest : Str) :
    membersTail lim (f + 1) acc ('\n' :: (indentStr n ++ '}' :: rest)) = .ok (.dict acc, rest) := by
  have hc : skipWs ('}' :: rest) = '}' :: rest := rfl
  simp [membersTail, skipWs_nl_indent, hc, headIs]

/-! Values, by mutual structural induction mirroring `render` / `renderItems` / `renderKvs`. -/

mutual
theorem value_render (lim : Nat) (v : PyVal) (hrep : jsonRep v = true) (hnum : numsOk lim v = true)
    (lvl f : Nat) (rest : Str) (hf : (render lvl v).length < f) (hstop : numStop rest = true) :
    value lim f (render lvl v ++ rest) = .ok (v, rest) := by
  cases f with
  | zero => omega
  | succ f =>
    cases v with
    | other t => cases hrep
    | list xs =>
      cases xs with
      | nil => simp [render_list_nil, value, skipWs, isWs, headIs]
      | cons x xs =>
        simp only [jsonRep, jsonRepList, Bool.and_eq_true] at hrep
        simp only [numsOk, numsOkList, Bool.and_eq_true] at hnum
        rw [render_list_cons] at hf ⊢
        simp only [List.length_append, List.length_cons, List.length_nil] at hf
        simp only [List.append_assoc, List.cons_append, List.nil_append]
        rw [value_list_step lim f (lvl + 1)
          (value_render lim x hrep.1 hnum.1 (lvl + 1) f _ (by omega) (numStop_renderItems _ _ _))]
        exact itemsTail_render lim xs hrep.2 hnum.2 (lvl + 1) lvl f [x] rest (by omega)
    | dict kvs =>
      cases kvs with
      | nil => simp [render_dict_nil, value, skipWs, isWs, headIs]
      | cons p kvs =>
        obtain ⟨k, v⟩ := p
        have hnd := (jsonRep_dict_iff.mp hrep).1
        simp only [jsonRep, jsonRepKvs, Bool.and_eq_true] at hrep
        simp only [numsOk, numsOkKvs, Bool.and_eq_true] at hnum
        rw [render_dict_cons] at hf ⊢
        simp only [List.length_append, List.length_cons, List.length_nil] at hf
        simp only [List.append_assoc, List.cons_append, List.nil_append]
        -- a member costs two units of fuel: `value` calls `member` one below, `member` calls `value` for the member's value one below that
        cases f with
        | zero => omega
        | succ f =>
          rw [value_dict_step lim (f + 1) (lvl + 1) k _ (member_step lim f k
            (value_render lim v hrep.1.2 hnum.1 (lvl + 1) f _ (by omega) (numStop_renderKvs _ _ _)))]
          exact membersTail_render lim kvs hrep.2 hnum.2 (lvl + 1) lvl (f + 1) [(k, v)] rest (by omega) hnd
    | _ => exact value_scalar lim f lvl _ rest trivial hnum hstop
theorem itemsTail_render (lim : Nat) (xs : List PyVal) (hrep : jsonRepList xs = true) (hnum : numsOkList lim xs = true)
    (lvl n f : Nat) (acc : List PyVal) (rest : Str) (hf : (renderItems lvl xs).length < f) :
    itemsTail lim f acc (renderItems lvl xs ++ '\n' :: (indentStr n ++ ']' :: rest)) = .ok (.list (acc.reverse ++ xs), rest) := by
  cases f with
  | zero => omega
  | succ f =>
    cases xs with
    | nil => rw [renderItems_nil, List.nil_append, itemsTail_close, List.append_nil]
    | cons x xs =>
      simp only [jsonRepList, Bool.and_eq_true] at hrep
      simp only [numsOkList, Bool.and_eq_true] at hnum
      rw [renderItems_cons] at hf ⊢
      simp only [List.length_append, List.length_cons] at hf
      simp only [List.append_assoc, List.cons_append]
      rw [itemsTail_step lim f lvl acc
          (value_render lim x hrep.1 hnum.1 lvl f _ (by omega) (numStop_renderItems _ _ _)),
        itemsTail_render lim xs hrep.2 hnum.2 lvl n f (x :: acc) rest (by omega),
        List.reverse_cons, List.append_assoc, List.singleton_append]
theorem membersTail_render (lim : Nat) (kvs : List (Str × PyVal)) (hrep : jsonRepKvs kvs = true)
    (hnum : numsOkKvs lim kvs = true) (lvl n f : Nat) (acc : Kvs) (rest : Str) (hf : (renderKvs lvl kvs).length < f)
    (hnd : ((acc ++ kvs).map (·.1)).Nodup) :
    membersTail lim f acc (renderKvs lvl kvs ++ '\n' :: (indentStr n ++ '}' :: rest)) = .ok (.dict (acc ++ kvs), rest) := by
  cases f with
  | zero => omega
  | succ f =>
    cases kvs with
    | nil => rw [renderKvs_nil, List.nil_append, membersTail_close, List.append_nil]
    | cons p kvs =>
      obtain ⟨k, v⟩ := p
      simp only [jsonRepKvs, Bool.and_eq_true] at hrep
      simp only [numsOkKvs, Bool.and_eq_true] at hnum
      rw [renderKvs_cons] at hf ⊢
      simp only [List.length_append, List.length_cons] at hf
      simp only [List.append_assoc, List.cons_append]
      -- two units of fuel again: `membersTail` calls `member`, `member` calls `value`
      cases f with
      | zero => omega
      | succ f =>
        -- `k` is not among the keys read so far, so `setKey` appends it instead of overwriting
        have hsplit : (acc.map (·.1) ++ ((k, v) :: kvs).map (·.1)).Nodup := List.map_append ▸ hnd
        have hfresh : k ∉ acc.map (·.1) := fun hk =>
          (List.nodup_append.mp hsplit).2.2 k hk k List.mem_cons_self rfl
        rw [List.append_cons] at hnd
        rw [membersTail_step lim (f + 1) lvl acc k _ (member_step lim f k
            (value_render lim v hrep.1.2 hnum.1 lvl f _ (by omega) (numStop_renderKvs _ _ _))),
          setKey_fresh acc k v hfresh,
          membersTail_render lim kvs hrep.2 hnum.2 lvl n (f + 1) (acc ++ [(k, v)]) rest (by omega) hnd,
          List.append_assoc, List.singleton_append]
end

/-- The round trip, at any indentation level. -/
theorem parseWith_render (lim lvl : Nat) (v : PyVal) (hrep : jsonRep v = true) (hnum : numsOk lim v = true) :
    parseWith lim (render lvl v) = .ok v := by
  have h := value_render lim v hrep hnum lvl ((render lvl v).length + 1) [] (by omega) rfl
  rw [List.append_nil] at h
  simp [parseWith, skipWs_startsVal (startsVal_of_value h), h, skipWs]

/-- the same for CPython's default configuration (`int()` refuses more than 4300 digits) -/
theorem parse_render (lvl : Nat) (v : PyVal) (hrep : jsonRep v = true) (hnum : numsOk defaultLimit v = true) :
    parse (render lvl v) = .ok v := parseWith_render defaultLimit lvl v hrep hnum

theorem numsOkKvs_eq_all (lim : Nat) (l : Kvs) : numsOkKvs lim l = l.all fun p => numsOk lim p.2 := by
  induction l with
  | nil => rfl
  | cons p rest ih => obtain ⟨k, v⟩ := p; simp [numsOkKvs, ih]

theorem numsOkList_eq_all (lim : Nat) : ∀ xs : List PyVal, numsOkList lim xs = xs.all (numsOk lim)
  | [] => rfl
  | x :: xs => by rw [numsOkList, List.all_cons, numsOkList_eq_all lim xs]

theorem numsOkKvs_sortKvs (lim : Nat) (l : Kvs) : numsOkKvs lim (PyVal.sortKvs l) = numsOkKvs lim l := by
  rw [numsOkKvs_eq_all, numsOkKvs_eq_all, (sortKvs_perm l).all_eq]

theorem numsOkKvs_of_all (lim : Nat) (l : Kvs) (hv : ∀ p ∈ l, numsOk lim p.2 = true) : numsOkKvs lim l = true := by
  rw [numsOkKvs_eq_all, List.all_eq_true]
  exact hv

theorem rep_dict (lim : Nat) (l : Kvs) (hn : (l.map (·.1)).Nodup)
    (h : ∀ p ∈ l, jsonRep p.2 = true ∧ numsOk lim p.2 = true) : jsonRep (.dict l) = true ∧ numsOk lim (.dict l) = true :=
  ⟨jsonRep_dict_iff.mpr ⟨hn, fun p hp => (h p hp).1⟩, numsOkKvs_of_all lim l fun p hp => (h p hp).2⟩

theorem rep_list (lim : Nat) (l : List PyVal) (h : ∀ x ∈ l, jsonRep x = true ∧ numsOk lim x = true) :
    jsonRep (.list l) = true ∧ numsOk lim (.list l) = true := by
  rw [jsonRep_list_iff, numsOk, numsOkList_eq_all, List.all_eq_true]
  exact ⟨fun x hx => (h x hx).1, fun x hx => (h x hx).2⟩

theorem numsOk_canon (lim : Nat) (v : PyVal) : numsOk lim (PyVal.canon v) = numsOk lim v := by
  induction v using PyVal.induct with
  | list xs ih =>
    rw [canon_list, numsOk, numsOk, numsOkList_eq_all, numsOkList_eq_all, List.all_map]
    exact all_congr_mem ih
  | dict kvs ih =>
    rw [canon_dict, numsOk, numsOk, numsOkKvs_sortKvs, numsOkKvs_eq_all, numsOkKvs_eq_all, List.all_map]
    exact all_congr_mem ih
  | _ => rfl

theorem numsOkList_canonList (lim : Nat) (xs : List PyVal) : numsOkList lim (PyVal.canonList xs) = numsOkList lim xs :=
  numsOk_canon lim (.list xs)

theorem numsOkKvs_canonKvs (lim : Nat) (kvs : List (Str × PyVal)) : numsOkKvs lim (PyVal.canonKvs kvs) = numsOkKvs lim kvs := by
  rw [canonKvs_eq_map, numsOkKvs_eq_all, numsOkKvs_eq_all, List.all_map]
  exact all_congr_mem fun p _ => numsOk_canon lim p.2

/-- `json.loads(dumps(v))` is `v` with every dict in sorted key order -/
theorem parseWith_dumps (lim : Nat) (v : PyVal) (hrep : jsonRep v = true) (hnum : numsOk lim v = true) :
    parseWith lim (dumps v) = .ok (PyVal.canon v) :=
  parseWith_render lim 0 (PyVal.canon v) (jsonRep_canon v hrep) (by rw [numsOk_canon]; exact hnum)

theorem parse_dumps (v : PyVal) (hrep : jsonRep v = true) (hnum : numsOk defaultLimit v = true) :
    parse (dumps v) = .ok (PyVal.canon v) := parseWith_dumps defaultLimit v hrep hnum

/-- re-reading is Python-equal to the original (`==`, dict order irrelevant) -/
theorem parseWith_dumps_pyEq (lim : Nat) (v : PyVal) (hrep : jsonRep v = true) (hnum : numsOk lim v = true) :
    ∃ w, parseWith lim (dumps v) = .ok w ∧ PyVal.pyEq w v = true :=
  ⟨_, parseWith_dumps lim v hrep hnum, pyEq_canon v hrep⟩

theorem render_injective (lim lvl : Nat) (v w : PyVal) (hv : jsonRep v = true) (hw : jsonRep w = true)
    (nv : numsOk lim v = true) (nw : numsOk lim w = true) (h : render lvl v = render lvl w) : v = w := by
  have h1 := parseWith_render lim lvl v hv nv
  rw [h, parseWith_render lim lvl w hw nw] at h1
  exact (Except.ok.inj h1).symm

/-- the converse of `dumps_congr` (same canonical document ⇒ same bytes): same bytes ⇒ same canonical document -/
theorem dumps_injective (lim : Nat) (a b : PyVal) (ha : jsonRep a = true) (hb : jsonRep b = true)
    (na : numsOk lim a = true) (nb : numsOk lim b = true) (h : dumps a = dumps b) : PyVal.canon a = PyVal.canon b := by
  have h1 := parseWith_dumps lim a ha na
  rw [h, parseWith_dumps lim b hb nb] at h1
  exact (Except.ok.inj h1).symm

/-! What a reader sees in the parsed document: lookups commute with key sorting

(for the readers' side of the byte theorems: `json.load` hands the library `canon doc`, not the writer's `doc`; a reader
that only looks keys up — `d[k]`, `d.get(k)` — sees the key-sorted sub-documents of what it would see in `doc`) -/

theorem find?_eq_lookup (kvs : Kvs) (k : Str) : (kvs.find? (·.1 == k)).map (·.2) = lookup kvs k :=
  get?_dict kvs k

theorem get?_canon (v : PyVal) (k : Str) (h : jsonRep v = true) :
    (PyVal.canon v).get? k = (v.get? k).map PyVal.canon := by
  cases v with
  | dict kvs =>
    simp only [jsonRep] at h
    simp only [PyVal.canon, PyVal.get?, find?_eq_lookup, lookup_sortKvs_canonKvs kvs k h]
  | list xs => simp [PyVal.canon, PyVal.get?]
  | _ => rfl

theorem parseWith_dumps_get? (lim : Nat) (v : PyVal) (k : Str) (hrep : jsonRep v = true) (hnum : numsOk lim v = true) :
    ∃ w, parseWith lim (dumps v) = .ok w ∧ w.get? k = (v.get? k).map PyVal.canon :=
  ⟨_, parseWith_dumps lim v hrep hnum, get?_canon v k hrep⟩

/-- with the digit limit disabled (`sys.set_int_max_str_digits(0)`) every integer is read back -/
theorem intFits_zero (n : Int) : intFits 0 n = true := by simp [intFits, intLimited]

/-- under any limit, integers of at most 640 digits are read back (the limit is not even consulted) -/
theorem intFits_of_length (lim : Nat) (n : Int) (h : (natStr n.natAbs).length ≤ 640) : intFits lim n = true := by
  have h3 : ¬ 640 < (natStr n.natAbs).length := by omega
  simp [intFits, intLimited, h3]

theorem intFits_default (n : Int) (h : (natStr n.natAbs).length ≤ 4300) : intFits defaultLimit n = true := by
  have h3 : ¬ 4300 < (natStr n.natAbs).length := by omega
  simp [intFits, intLimited, defaultLimit, h3]

/-! Non-vacuity: a nested document with every kind of leaf; the kernel runs the reader on its text as well -/

def exampleDoc : PyVal :=
  .dict [(L "payload", .dict [(L "q\"uo\\te\n\x01\x7f.", .list [.int (-5), .int 123456789012345678901234567890, .bool true, .none,
            .float (L "1e+16"), .float (L "-0.0"), .float (L "2.5e-07"), .float (L "NaN"), .list [], .dict []]),
          (L "é😀", .str (L "astral 😀, BMP \u20ac, slash /"))]),
         (L "header", .dict [(L "version", .str (L "1.2"))])]

theorem exampleDoc_ok : jsonRep exampleDoc = true ∧ numsOk defaultLimit exampleDoc = true := by decide +kernel

example : jsonRep exampleDoc = true ∧ numsOk defaultLimit exampleDoc = true := exampleDoc_ok

example : parse (dumps exampleDoc) = .ok (PyVal.canon exampleDoc) :=
  parse_dumps exampleDoc exampleDoc_ok.1 exampleDoc_ok.2

/-- the same fact by evaluation in the kernel (independent of the proof above) -/
example : (match parse (dumps exampleDoc) with | .ok w => PyVal.beq w (PyVal.canon exampleDoc) | .error _ => false) = true := by
  decide +kernel

/-- float tokens: what `float.__repr__` produces is accepted, other spellings of numbers are not -/
example : floatTok (L "1.5") = true ∧ floatTok (L "-0.0") = true ∧ floatTok (L "1e+16") = true ∧ floatTok (L "2.5e-07") = true
    ∧ floatTok (L "1.7976931348623157e+308") = true ∧ floatTok (L "Infinity") = true
    ∧ floatTok (L "1") = false ∧ floatTok (L "1.") = false ∧ floatTok (L ".5") = false ∧ floatTok (L "1e") = false
    ∧ floatTok (L "01.5") = false ∧ floatTok (L "1.5 ") = false ∧ floatTok (L "inf") = false ∧ floatTok (L "nan") = false := by
  decide +kernel

/-- the side conditions are needed: a repeated key, a float token that is no number (`1.5.5`), a float token that reads as
an integer (`15`), and a foreign object do not come back -/
example : (match parse (render 0 (.dict [(L "a", .int 1), (L "a", .int 2)])) with
           | .ok w => PyVal.beq w (.dict [(L "a", .int 2)]) | .error _ => false) = true
    ∧ (match parse (render 0 (.list [.float (L "1.5.5")])) with | .ok _ => false | .error e => e == .valueError) = true
    ∧ (match parse (render 0 (.float (L "15"))) with | .ok w => PyVal.beq w (.int 15) | .error _ => false) = true
    ∧ (match parse (render 0 (.other true)) with | .ok _ => false | .error e => e == .valueError) = true := by
  decide +kernel

end PM.JsonParse
