import ProductMD.Proofs.CITop
import ProductMD.Proofs.C14Str
/-!
C01: a written, well-keyed forest has pairwise different UIDs.

The writer files every variant under its UID and refuses a second, different entry (`putEntry`).  So in the resulting
dict `d` every variant's UID maps to its own entry, in particular to its own id.  "Climbing" from a UID `x` means
dropping the suffix `-<id stored under x>`; from a child's UID this yields the parent's UID.  Two variants in different
sibling subtrees with the same UID would climb to both siblings' UIDs, hence one sibling's UID would be reachable by
climbing from the other's — impossible below a common parent (lengths) and impossible at the top level (a top-level
UID without its dashes is the non-empty id; climbing from it leaves only dashes).
-/
namespace PM.CI
open PM

/-- one step up, as recorded in the written dict: drop `-<id>` where `<id>` is the id stored under `x` -/
def Up (d : Flat) (x y : Str) : Prop := ∃ e, lookup x d = some e ∧ x = y ++ '-' :: e.id

def Climb (d : Flat) : Nat → Str → Str → Prop
  | 0, x, y => x = y
  | j + 1, x, y => ∃ z, Up d x z ∧ Climb d j z y

theorem Up.det {d : Flat} {x y z : Str} (h1 : Up d x y) (h2 : Up d x z) : y = z := by
  obtain ⟨e1, hl1, he1⟩ := h1
  obtain ⟨e2, hl2, he2⟩ := h2
  rw [hl1] at hl2
  cases hl2
  rw [he1] at he2
  exact List.append_cancel_right he2

theorem Up.length {d : Flat} {x y : Str} (h : Up d x y) : y.length < x.length := by
  obtain ⟨e, _, he⟩ := h
  rw [he]; simp

theorem Up.dashes {d : Flat} {x y : Str} (h : Up d x y) (hx : Str.removeChar '-' x = []) : Str.removeChar '-' y = [] := by
  obtain ⟨e, _, he⟩ := h
  rw [he] at hx
  simp [Str.removeChar, List.filter_append] at hx ⊢
  exact hx.1

theorem Climb.length {d : Flat} : ∀ {j : Nat} {x y : Str}, Climb d j x y → y.length ≤ x.length
  | 0, _, _, h => by simp only [Climb] at h; rw [h]; exact Nat.le_refl _
  | j + 1, _, _, h => by
    obtain ⟨z, hu, hc⟩ := h
    have := hu.length
    have := Climb.length hc
    omega

theorem Climb.dashes {d : Flat} : ∀ {j : Nat} {x y : Str}, Climb d j x y → Str.removeChar '-' x = [] → Str.removeChar '-' y = []
  | 0, _, _, h, hx => by simp only [Climb] at h; rw [← h]; exact hx
  | j + 1, _, _, h, hx => by
    obtain ⟨z, hu, hc⟩ := h
    exact Climb.dashes hc (hu.dashes hx)

theorem Climb.snoc {d : Flat} : ∀ {j : Nat} {x y z : Str}, Climb d j x y → Up d y z → Climb d (j + 1) x z
  | 0, _, _, _, h, hu => by simp only [Climb] at h; subst h; exact ⟨_, hu, rfl⟩
  | j + 1, _, _, _, h, hu => by
    obtain ⟨w, hw, hc⟩ := h
    exact ⟨w, hw, Climb.snoc hc hu⟩

/-- climbing is deterministic: the shorter climb is an initial part of the longer one -/
theorem Climb.diff {d : Flat} : ∀ {i k : Nat} {x a b : Str}, Climb d i x a → Climb d (i + k) x b → Climb d k a b
  | 0, k, _, _, _, h1, h2 => by simp only [Climb] at h1; subst h1; simpa using h2
  | i + 1, k, _, _, _, h1, h2 => by
    obtain ⟨z, hz, hc⟩ := h1
    have : i + 1 + k = (i + k) + 1 := by omega
    rw [this] at h2
    obtain ⟨z', hz', hc'⟩ := h2
    have := hz.det hz'
    subst this
    exact Climb.diff hc hc'

/-- Sibling subtrees have disjoint UID sets.  Third hypothesis: climbing from strictly above a sibling's UID never reaches a
sibling's UID. -/
theorem siblings_nodup (d : Flat) : ∀ (vs : List Variant),
    (∀ v ∈ vs, (uids v).Nodup ∧ ∀ x ∈ uids v, ∃ j, Climb d j x v.uid) →
    (vs.map Variant.uid).Nodup →
    (∀ a ∈ vs, ∀ y, Up d a.uid y → ∀ j z, Climb d j y z → ∀ b ∈ vs, z ≠ b.uid) →
    (uidsL vs).Nodup
  | [], _, _, _ => by simp [uidsL]
  | v :: vs, hsub, hn, hdead => by
    simp only [List.map_cons, List.nodup_cons] at hn
    have ih := siblings_nodup d vs (fun w hw => hsub w (by simp [hw])) hn.2
      (fun a ha y hy j z hc b hb => hdead a (by simp [ha]) y hy j z hc b (by simp [hb]))
    simp only [uidsL]
    rw [List.nodup_append]
    refine ⟨(hsub v (by simp)).1, ih, ?_⟩
    intro x hxv y hyb hxy
    subst hxy
    obtain ⟨b, hb, hxb⟩ := mem_uidsL.mp hyb
    obtain ⟨ja, hja⟩ := (hsub v (by simp)).2 x hxv
    obtain ⟨jb, hjb⟩ := (hsub b (by simp [hb])).2 x hxb
    have hne : v.uid ≠ b.uid := fun h => hn.1 (List.mem_map.mpr ⟨b, hb, h.symm⟩)
    -- the longer of two climbs from `x` goes through the end of the shorter (`Climb.diff`): on from one sibling's UID to the other's
    have meet : ∀ {a c : Variant} {ja jc : Nat}, a ∈ v :: vs → c ∈ v :: vs → a.uid ≠ c.uid →
        Climb d ja x a.uid → Climb d jc x c.uid → ja ≤ jc → False := by
      intro a c ja jc ha hc hne hja hjc hle
      obtain ⟨k, rfl⟩ := Nat.exists_eq_add_of_le hle
      have hac := Climb.diff hja hjc
      cases k with
      | zero => exact hne hac
      | succ k =>
        obtain ⟨y, hy, hyc⟩ := hac
        exact hdead a ha y hy k _ hyc c hc rfl
    rcases Nat.le_total ja jb with hle | hle
    · exact meet (by simp) (by simp [hb]) hne hja hjb hle
    · exact meet (by simp [hb]) (by simp) hne.symm hjb hja hle

/-- the pattern lists the generated `Variant` rules apply to `id` -/
def variantIdPatterns : List (List Re) :=
  Gen.rules_composeinfo_Variant.flat.filterMap fun r =>
    match r with
    | .re f ps => if f = k%"id" then some ps else none
    | _ => none

theorem variantId_rule : variantIdPatterns ≠ [] ∧ ∀ ps ∈ variantIdPatterns, ps.any (pyMatches · []) = false := by
  decide +kernel

theorem id_nonempty_of_valid (ctx : Ctx) (v : Variant)
    (h : validateClass "composeinfo.Variant" (variantObj ctx v) = .ok ()) : v.id ≠ [] := by
  obtain ⟨ps, hps⟩ := List.exists_mem_of_ne_nil _ variantId_rule.1
  have hfalse := variantId_rule.2 ps hps
  simp only [variantIdPatterns, List.mem_filterMap] at hps
  obtain ⟨r, hr, hrps⟩ := hps
  have hcheck := (validate_variant_iff _).mp h r hr
  cases v with
  | mk key id uid name type arches paths rel kids =>
  intro hid
  simp only [Variant.id] at hid
  subst hid
  cases r with
  | re f ps' =>
    simp only at hrps
    split at hrps
    · rename_i hf
      cases hrps
      subst hf
      simp [Rule.check, variantObj, Obj.get, hfalse] at hcheck
    · cases hrps
  | _ => simp at hrps

theorem entryOf_id (v : Variant) : (entryOf v).id = v.id := by cases v; rfl

theorem up_child {d : Flat} {P : Str} {k : Variant} (hal : k.uid = P ++ '-' :: k.id) (hl : lookup k.uid d = some (entryOf k)) :
    Up d k.uid P := ⟨entryOf k, hl, by rw [entryOf_id]; exact hal⟩

theorem uids_climb (d : Flat) (v : Variant) : ∀ (ctx : Ctx), Good ctx v → wellKeyed v = true →
    (∀ p ∈ flat v, lookup p.1 d = some p.2) → (uids v).Nodup ∧ ∀ x ∈ uids v, ∃ j, Climb d j x v.uid :=
  Good.induction (P := fun _ v => (∀ p ∈ flat v, lookup p.1 d = some p.2) → (uids v).Nodup ∧ ∀ x ∈ uids v, ∃ j, Climb d j x v.uid)
    (fun ctx v hg hk ih hE => by
    have hal := hg.aligned
    have hids := (wellKeyed_iff.mp hk).1
    generalize hkd : v.kids = kids at ih hal hids
    have hEk : ∀ p ∈ flats kids, lookup p.1 d = some p.2 := fun p hp => hE p (by rw [flat_eq, hkd]; simp [hp])
    have hkids : ∀ k ∈ kids, (uids k).Nodup ∧ ∀ x ∈ uids k, ∃ j, Climb d j x k.uid := fun k hkm =>
      ih k hkm fun p hp => hEk p (flat_sub_flats k kids hkm p hp)
    have hup : ∀ k ∈ kids, Up d k.uid v.uid := fun k hkm =>
      up_child (hal k hkm) (hEk _ (flat_sub_flats k kids hkm _ (self_mem_flat k)))
    have hlen : ∀ k ∈ kids, v.uid.length < k.uid.length := fun k hkm => by rw [hal k hkm]; simp
    have hnk : (uidsL kids).Nodup := by
      apply siblings_nodup d kids hkids
      · apply nodup_map_of_nodup_map Variant.uid Variant.id hids
        intro a ha b hb hab
        rw [hal a ha, hal b hb] at hab
        have := List.append_cancel_left hab
        exact (List.cons.inj this).2
      · intro a ha y hy j z hc b hb hz
        have := hy.det (hup a ha)
        subst this
        have h1 := hc.length
        have h2 := hlen b hb
        rw [hz] at h1
        omega
    have hclimb : ∀ x ∈ uidsL kids, ∃ k ∈ kids, ∃ j, Climb d j x k.uid := by
      intro x hx
      obtain ⟨k, hkm, hxk⟩ := mem_uidsL.mp hx
      obtain ⟨j, hj⟩ := (hkids k hkm).2 x hxk
      exact ⟨k, hkm, j, hj⟩
    rw [uids_eq, hkd]
    simp only [List.nodup_cons, List.mem_cons]
    refine ⟨⟨?_, hnk⟩, ?_⟩
    · intro hmem
      obtain ⟨k, hkm, j, hj⟩ := hclimb v.uid hmem
      have h1 := hj.length
      have h2 := hlen k hkm
      omega
    · intro x hx
      rcases hx with rfl | hx
      · exact ⟨0, rfl⟩
      · obtain ⟨k, hkm, j, hj⟩ := hclimb x hx
        exact ⟨j + 1, hj.snoc (hup k hkm)⟩) v

theorem uidsL_climb (d : Flat) : ∀ (vs : List Variant) (P : Str) (pa : List Str), GoodL (some (P, pa)) vs → wellKeyedL vs = true →
    (∀ p ∈ flats vs, lookup p.1 d = some p.2) → ∀ v ∈ vs, (uids v).Nodup ∧ ∀ x ∈ uids v, ∃ j, Climb d j x v.uid :=
  fun vs _ _ hg hk hE v hv => uids_climb d v _ (GoodL_iff.mp hg v hv) (wellKeyedL_iff.mp hk v hv).2
    fun p hp => hE p (flat_sub_flats v vs hv p hp)

theorem top_nodup (d : Flat) (top : List Variant) (hids : (top.map Variant.id).Nodup)
    (hg : ∀ t ∈ top, Good none t) (hk : ∀ t ∈ top, wellKeyed t = true)
    (hE : ∀ t ∈ top, ∀ p ∈ flat t, lookup p.1 d = some p.2) : (uidsL top).Nodup := by
  have htopid : ∀ t ∈ top, Str.removeChar '-' t.uid = t.id := fun t ht => id_of_valid_top t (hg t ht).valid
  apply siblings_nodup d top (fun t ht => uids_climb d t none (hg t ht) (hk t ht) (hE t ht)) (top_uids_nodup hids hg)
  · intro a ha y hy j z hc b hb hz
    obtain ⟨e, hl, he⟩ := hy
    rw [hE a ha _ (self_mem_flat a)] at hl
    cases hl
    rw [entryOf_id] at he
    have h1 := htopid a ha
    have hidem : Str.removeChar '-' a.id = a.id := by rw [← h1]; exact removeChar_idem _ _
    rw [he] at h1
    have h2 : Str.removeChar '-' y ++ a.id = a.id := by
      have : Str.removeChar '-' (y ++ '-' :: a.id) = Str.removeChar '-' y ++ Str.removeChar '-' a.id := by
        simp [Str.removeChar, List.filter_append]
      rw [this, hidem] at h1
      exact h1
    have hy0 : Str.removeChar '-' y = [] := by
      have := congrArg List.length h2
      simp at this
      exact this
    have hz0 := hc.dashes hy0
    rw [hz, htopid b hb] at hz0
    exact id_nonempty_of_valid none b (hg b hb).valid hz0

theorem variantsSer_distinct (top : List Variant) (d : Flat) (h : variantsSer top = .ok d) (hk : wellKeyedTop top = true) :
    (uidsL top).Nodup := by
  obtain ⟨hids, _, ht, hs, hd⟩ := variantsSer_keyed h hk
  exact top_nodup d top hids (fun t h => (ht t h).2.2) (fun t h => (ht t h).2.1)
    fun t h p hp => lookup_of_mem hs.keys_nodup ((hd p).mpr ⟨t, h, hp⟩)

end PM.CI

namespace PM
open CI

/-- all UIDs of the forest are different -/
def CI.UidsDistinct (ci : ComposeInfo) : Prop := (uidsL ci.variants).Nodup

instance (ci : ComposeInfo) : Decidable (CI.UidsDistinct ci) := by unfold CI.UidsDistinct; infer_instance

/-- dict keys are the variant ids and no dict holds a key twice, at every level (what `add()` produces) -/
def CI.WellKeyed (ci : ComposeInfo) : Prop := wellKeyedTop ci.variants = true

instance (ci : ComposeInfo) : Decidable (CI.WellKeyed ci) := by unfold CI.WellKeyed; infer_instance

end PM
