import ProductMD.Proofs.ForestQuery
import ProductMD.Model.ForestDel
/-! `VariantBase.__delitem__` (`Model/ForestDel.lean`) is a walk that designates one dict entry, followed by one deletion; `InvW`
and `Inv` survive the deletion (C11). -/
namespace PM.Forest

theorem derase_sublist (k : Str) : ∀ l : List (Str × Nat), (derase k l).Sublist l
  | [] => List.Sublist.slnil
  | kv :: r => by
    unfold derase
    split
    · exact List.sublist_cons_self _ _
    · exact (derase_sublist k r).cons_cons _

theorem mem_derase_of_ne {k k' : Str} {w : Nat} : ∀ {l : List (Str × Nat)}, (k', w) ∈ l → k' ≠ k → (k', w) ∈ derase k l
  | [], h, _ => by cases h
  | kv :: r, h, hne => by
    unfold derase
    rcases List.mem_cons.mp h with h1 | h1
    · subst h1
      simp [hne]
    · split
      · exact h1
      · exact List.mem_cons_of_mem _ (mem_derase_of_ne h1 hne)

theorem key_not_mem_derase {k : Str} : ∀ {l : List (Str × Nat)}, (l.map (·.1)).Nodup → k ∉ (derase k l).map (·.1)
  | [], _ => by simp [derase]
  | kv :: r, hn => by
    simp only [List.map_cons, List.nodup_cons] at hn
    unfold derase
    split
    · next hk => rw [← hk]; exact hn.1
    · next hk =>
      simp only [List.map_cons, List.mem_cons, not_or]
      exact ⟨fun e => hk e.symm, key_not_mem_derase hn.2⟩

theorem val_not_mem_derase {k : Str} {v : Nat} : ∀ {l : List (Str × Nat)}, (l.map (·.1)).Nodup → (l.map (·.2)).Nodup →
    (k, v) ∈ l → v ∉ (derase k l).map (·.2)
  | [], _, _, h => by cases h
  | kv :: r, hn, ho, h => by
    simp only [List.map_cons, List.nodup_cons] at hn ho
    unfold derase
    rcases List.mem_cons.mp h with h1 | h1
    · subst h1
      simp only [if_true]
      exact ho.1
    · have hk : kv.1 ≠ k := by
        intro e; apply hn.1; rw [e]; exact List.mem_map.mpr ⟨(k, v), h1, rfl⟩
      simp only [hk, if_false, List.map_cons, List.mem_cons, not_or]
      refine ⟨?_, val_not_mem_derase hn.2 ho.2 h1⟩
      intro e; apply ho.1; rw [← e]; exact List.mem_map.mpr ⟨(k, v), h1, rfl⟩

theorem dget_derase_self {k : Str} {l : List (Str × Nat)} (hn : (l.map (·.1)).Nodup) : dget k (derase k l) = none :=
  dget_eq_none_iff.mpr (key_not_mem_derase hn)

/-- the state `del` leaves when it designates the entry `k` of container `d` -/
def erased (s : State) (d : Cont) (k : Str) : State := s.setKids d (derase k (s.kidsOf d))

/-- `__delitem__` = find the designated entry, then one dict deletion (nothing is written on the way) -/
theorem delitemF_eq (s : State) : ∀ (f : Nat) (c : Cont) (name : Str), delitemF s f c name =
    match delResolveF s f c name with
    | .ok (d, k, _) => (erased s d k, .ok ())
    | .error e => (s, .error e)
  | 0, _, _ => rfl
  | f + 1, c, name => by
    -- the two functions branch alike: dashed non-key (two pieces: `head` no key / go down; else) or plain name (key / no key)
    rw [delitemF, delResolveF]
    split
    · split
      · split
        · rfl
        · exact delitemF_eq s f _ _
      · rfl
    · split <;> rfl

theorem delResolveF_ok {s : State} : ∀ {f : Nat} {c : Cont} {name : Str} {d : Cont} {k : Str} {v : Nat},
    delResolveF s f c name = .ok (d, k, v) →
    dget k (s.kidsOf d) = some v ∧ ((d = c ∧ k = name) ∨ ∃ w, d = some w ∧ Desc s c w)
  | 0, _, _, _, _, _, h => by cases h
  | f + 1, c, name, d, k, v, h => by
    rw [delResolveF] at h
    split at h
    · split at h
      · next head tail _ =>
        split at h
        · cases h
        · next hh hhead =>
          obtain ⟨h1, h2⟩ := delResolveF_ok h
          refine ⟨h1, Or.inr ?_⟩
          have hm := dget_mem hhead
          rcases h2 with ⟨rfl, -⟩ | ⟨w, rfl, hd⟩
          · exact ⟨hh, rfl, Desc.kid hm⟩
          · exact ⟨w, rfl, Desc.deep hm hd⟩
      · cases h
    · split at h
      · next v' hv =>
        cases h
        exact ⟨hv, Or.inl ⟨rfl, rfl⟩⟩
      · cases h

/-- with the fuel `delitem` hands over the walk never runs out, and the `head, tail = …` unpacking never fails: the only
exception is `KeyError` -/
theorem delResolveF_err {s : State} : ∀ {f : Nat} {c : Cont} {name : Str} {e : Err}, name.length < f →
    delResolveF s f c name = .error e → e = .keyError
  | 0, _, _, _, hf, _ => by cases hf
  | f + 1, c, name, e, hf, h => by
    rw [delResolveF] at h
    split at h
    · next hcond =>
      simp only [Bool.and_eq_true, List.contains_iff_mem] at hcond
      obtain ⟨a, b, rfl, ha⟩ := List.eq_append_cons_of_mem hcond.2
      rw [split1_append_cons '-' a b ha] at h
      simp only at h
      split at h
      · cases h; rfl
      · refine delResolveF_err ?_ h
        simp at hf; omega
    · split at h
      · cases h
      · cases h; rfl

theorem erased_kidsOf (s : State) (d : Cont) (k : Str) (x : Cont) :
    (erased s d k).kidsOf x = if x = d then derase k (s.kidsOf d) else s.kidsOf x := setKids_kidsOf s d x _

@[simp] theorem erased_parent (s : State) (d : Cont) (k : Str) : (erased s d k).parent = s.parent := setKids_parent s d _

theorem erased_sublist (s : State) (d : Cont) (k : Str) (x : Cont) : ((erased s d k).kidsOf x).Sublist (s.kidsOf x) := by
  rw [erased_kidsOf]
  by_cases hx : x = d
  · simp only [hx, if_true]; exact derase_sublist _ _
  · simp only [hx, if_false]; exact List.Sublist.refl _

theorem erased_sub {s : State} {d : Cont} {k : Str} {x : Cont} {kv : Str × Nat} (h : kv ∈ (erased s d k).kidsOf x) :
    kv ∈ s.kidsOf x := (erased_sublist s d k x).subset h

/-- every clause of `InvW` speaks about the entries that are there: removing one keeps it -/
theorem InvW.erased {U : Nat → Attrs} {s : State} (h : InvW U s) (d : Cont) (k : Str) : InvW U (erased s d k) := by
  refine ⟨?_, ?_, ?_⟩
  · intro p k' v hm; exact h.edge p k' v (erased_sub (x := some p) hm)
  · intro c k' v hm; exact h.fields c k' v (erased_sub hm)
  · intro c; exact ((erased_sublist s d k c).map _).nodup (h.keys c)

/-- the parent clause of `Inv` reads "an entry's object points at the container", which says nothing about objects that are in
no dict – the removed object keeps its stale pointer -/
theorem Inv.erased {U : Nat → Attrs} {s : State} (h : Inv U s) (d : Cont) (k : Str) : Inv U (erased s d k) := by
  refine ⟨h.weak.erased d k, ?_, ?_, ?_, ?_⟩
  · intro c k' v hm; rw [erased_parent]; exact h.parent c k' v (erased_sub hm)
  · intro c; exact ((erased_sublist s d k c).map _).nodup (h.once c)
  · intro k' v hm; exact h.topAligned k' v (erased_sub (x := none) hm)
  · intro k' v hm; exact h.topKey k' v (erased_sub (x := none) hm)

theorem delitem_of_resolve {s : State} {c : Cont} {name : Str} {d : Cont} {k : Str} {v : Nat}
    (h : delResolve s c name = .ok (d, k, v)) : delitem s c name = (erased s d k, .ok ()) := by
  unfold delResolve at h
  unfold delitem
  rw [delitemF_eq, h]

theorem delitem_cases (s : State) (c : Cont) (name : Str) :
    (delResolve s c name = .error .keyError ∧ delitem s c name = (s, .error .keyError)) ∨
    (∃ d k v, delResolve s c name = .ok (d, k, v) ∧ delitem s c name = (erased s d k, .ok ())) := by
  unfold delitem delResolve
  rw [delitemF_eq]
  cases hr : delResolveF s (name.length + 1) c name with
  | error e =>
    have := delResolveF_err (Nat.lt_succ_self _) hr
    subst this
    exact Or.inl ⟨rfl, rfl⟩
  | ok t =>
    obtain ⟨d, k, v⟩ := t
    exact Or.inr ⟨d, k, v, rfl, rfl⟩

end PM.Forest
