import ProductMD.Proofs.TreeInfoDoc
import ProductMD.Model.IniText
/-!
Lookups in the option lists the treeinfo writer builds (`[general]`, the path options, a variant's own section), each seen as a table
of optional entries (`Assoc.optsOf`): with the option names pairwise distinct, an option has the value its table entry gives it.
-/
namespace PM
namespace TI
open Ini

theorem withOpt_fresh {k : Str} {g : IniSec} (x : Option Str) (h : k ∉ g.map (·.1)) : withOpt k x g = g ++ Assoc.optsOf [(k, x)] := by
  cases x with
  | none => exact (List.append_nil g).symm
  | some p => exact setKV_append_fresh k p g h

theorem foldl_withOpt_eq : ∀ (tb : List (Str × Option Str)) (g : IniSec), (g.map (·.1) ++ tb.map (·.1)).Nodup →
    tb.foldl (fun g kx => withOpt kx.1 kx.2 g) g = g ++ Assoc.optsOf tb
  | [], g, _ => (List.append_nil g).symm
  | (k, x) :: tb, g, hn => by
    have hk : k ∉ g.map (·.1) := fun hm => (List.nodup_append.mp hn).2.2 k hm k (List.mem_cons_self ..) rfl
    have hsub : ((g ++ Assoc.optsOf [(k, x)]).map (·.1) ++ tb.map (·.1)).Nodup := by
      refine List.Nodup.sublist ?_ hn
      rw [List.map_append, List.append_assoc]
      exact List.Sublist.append_left ((Assoc.optsOf_keys_sublist [(k, x)]).append_right _) _
    rw [List.foldl_cons, withOpt_fresh x hk, foldl_withOpt_eq tb _ hsub, List.append_assoc, ← Assoc.optsOf_append]
    rfl

/-- `[general]` as `serGeneral` fills it, in the order of its `set` calls; `packagedir` / `repository` only when the chosen
variant has the path -/
def generalTable (t : TreeInfo) (n : Int) (key : Str) (v : Variant) : List (Str × Option Str) :=
  [(kWarn0, some vWarn0), (kWarn1, some vWarn1), (kName, some (t.release.name ++ ' ' :: t.release.version)),
   (kFamily, some t.release.name), (kVersion, some t.release.version), (kArch, some t.tree.arch),
   (kPlatforms, some (platformsStr t.tree)), (kTimestamp, some (Str.intStr n)),
   (kVariants, some (Str.joinWith ',' (Ini.sortS (t.variants.map Variant.key)))), (tVariant, some key),
   (kPackagedir, generalPath t.tree.arch v.paths "packages".toList "source_packages".toList),
   (kRepository, generalPath t.tree.arch v.paths "repository".toList "source_repository".toList)]

/-- `hn` is left to the caller: Proofs/C17General has it from `generalAsked_nodup`, one evaluation that also covers the option names
an older reader asks `[general]` for -/
theorem generalOpts_eq_table (t : TreeInfo) (n : Int) (key : Str) (v : Variant) (hn : ((generalTable t n key v).map (·.1)).Nodup) :
    generalOpts t n key v = Assoc.optsOf (generalTable t n key v) := by
  have some_eq : ∀ (k p : Str) (g : IniSec), withOpt k (some p) g = setKV k p g := fun _ _ _ => rfl
  have fold : generalOpts t n key v = (generalTable t n key v).foldl (fun g kx => withOpt kx.1 kx.2 g) [] := by
    simp only [generalOpts, generalBase, setsKV, generalTable, List.foldl, some_eq]
  rw [fold, foldl_withOpt_eq _ [] (by simpa using hn), List.nil_append]

theorem pathOpts_eq_table (paths : List (Str × Str)) :
    pathOpts paths = Assoc.optsOf (Gen.TREEINFO_PATH_FIELDS.map fun f => (f, paths.lookup f)) := by
  unfold pathOpts Assoc.optsOf
  rw [List.filterMap_map]
  rfl

theorem pathTable_keys (paths : List (Str × Str)) :
    (Gen.TREEINFO_PATH_FIELDS.map fun f => (f, paths.lookup f)).map (·.1) = Gen.TREEINFO_PATH_FIELDS := by
  rw [List.map_map]
  exact List.map_id _

theorem pathFields_nodup : Gen.TREEINFO_PATH_FIELDS.Nodup := by decide

theorem pathOpts_keys_sublist (paths : List (Str × Str)) : ((pathOpts paths).map (·.1)).Sublist Gen.TREEINFO_PATH_FIELDS := by
  rw [pathOpts_eq_table]
  exact pathTable_keys paths ▸ Assoc.optsOf_keys_sublist _

theorem pathOpts_lookup (paths : List (Str × Str)) (f : Str) (hf : f ∈ Gen.TREEINFO_PATH_FIELDS) :
    (pathOpts paths).lookup f = paths.lookup f := by
  rw [pathOpts_eq_table]
  exact Assoc.lookup_optsOf_of_mem (pathTable_keys paths ▸ pathFields_nodup) (List.mem_map.mpr ⟨f, hf, rfl⟩)

theorem pathOpts_idem (paths : List (Str × Str)) : pathOpts (pathOpts paths) = pathOpts paths :=
  (pathOpts_eq_table _).trans ((congrArg Assoc.optsOf
    (List.map_congr_left fun f hf => by rw [pathOpts_lookup paths f hf])).trans (pathOpts_eq_table paths).symm)

theorem pathFields_ne_varKeys : ∀ f ∈ Gen.TREEINFO_PATH_FIELDS,
    f ≠ kId ∧ f ≠ kUid ∧ f ≠ kName ∧ f ≠ kType ∧ f ≠ kParent ∧ f ≠ kAddons ∧ nc f = true := by decide

/-- the option names of a variant section, in the order in which they are written -/
def varNames : List Str := [kId, kUid, kName, kType] ++ Gen.TREEINFO_PATH_FIELDS ++ [kParent, kAddons]

theorem varNames_nodup : varNames.Nodup := by decide

/-- a variant's own section as a table: what each option is set to, if it is set -/
def varTable (pu : Option Str) : Variant → List (Str × Option Str)
  | .mk _ id uid name type paths kids =>
    [(kId, some id), (kUid, some uid), (kName, some name), (kType, some type)] ++
      Gen.TREEINFO_PATH_FIELDS.map (fun f => (f, paths.lookup f)) ++
      [(kParent, pu), (kAddons, if kids.isEmpty then none else some (Str.joinWith ',' (Str.sortDedup (kids.map Variant.uid))))]

theorem varTable_keys (pu : Option Str) (v : Variant) : (varTable pu v).map (·.1) = varNames := by
  cases v
  simp [varTable, varNames, List.map_map, Function.comp_def]

theorem varOpts_eq_table (pu : Option Str) (v : Variant) : varOpts pu v = Assoc.optsOf (varTable pu v) := by
  obtain ⟨key, id, uid, name, type, paths, kids⟩ := v
  have tail : ∀ (c : Bool) (x : Str), Assoc.optsOf [(kParent, pu), (kAddons, if c then none else some x)] =
      parentOpt pu ++ (if c then [] else [(kAddons, x)]) := by
    intro c x
    cases pu <;> cases c <;> rfl
  have e : Assoc.optsOf (varTable pu (.mk key id uid name type paths kids)) =
      ([(kId, id), (kUid, uid), (kName, name), (kType, type)] ++ (pathOpts paths ++ parentOpt pu)) ++
        (if kids.isEmpty then [] else [(kAddons, Str.joinWith ',' (Str.sortDedup (kids.map Variant.uid)))]) := by
    unfold varTable
    rw [Assoc.optsOf_append, Assoc.optsOf_append, ← pathOpts_eq_table, tail, List.append_assoc, List.append_assoc, List.append_assoc]
    rfl
  have hn : ((Assoc.optsOf (varTable pu (.mk key id uid name type paths kids))).map (·.1)).Nodup :=
    (Assoc.optsOf_keys_sublist _).nodup (varTable_keys pu _ ▸ varNames_nodup)
  rw [e] at hn ⊢
  have h0 := hn
  rw [List.map_append] at h0
  -- the option names are pairwise distinct, so every `set` of `varOpts_eq` appends
  rw [varOpts_eq, setsKV_nil_nodup _ (List.nodup_append.mp h0).1, setsKV_append_nodup _ _ hn]

theorem varOpts_keys (pu : Option Str) (w : Variant) : ∀ k ∈ (varOpts pu w).map (·.1), k ∈ varNames := by
  intro k hk
  rw [varOpts_eq_table] at hk
  exact varTable_keys pu w ▸ (Assoc.optsOf_keys_sublist _).subset hk

theorem varOpts_lookup (pu : Option Str) (key id uid name type : Str) (paths : List (Str × Str)) (kids : List Variant) :
    let o := varOpts pu (.mk key id uid name type paths kids)
    o.lookup kId = some id ∧ o.lookup kUid = some uid ∧ o.lookup kName = some name ∧ o.lookup kType = some type ∧
    (∀ f ∈ Gen.TREEINFO_PATH_FIELDS, o.lookup f = paths.lookup f) ∧
    o.lookup kParent = pu ∧
    o.lookup kAddons = if kids.isEmpty then none else some (Str.joinWith ',' (Str.sortDedup (kids.map Variant.uid))) := by
  intro o
  have hn := varNames_nodup
  rw [← varTable_keys pu (.mk key id uid name type paths kids)] at hn
  have look : ∀ {k : Str} {x : Option Str}, (k, x) ∈ varTable pu (.mk key id uid name type paths kids) → o.lookup k = x :=
    fun hm => by
      show (varOpts pu _).lookup _ = _
      rw [varOpts_eq_table]
      exact Assoc.lookup_optsOf_of_mem hn hm
  refine ⟨look ?_, look ?_, look ?_, look ?_, fun f hf => look ?_, look ?_, look ?_⟩
  · simp [varTable]
  · simp [varTable]
  · simp [varTable]
  · simp [varTable]
  · exact List.mem_append_left _ (List.mem_append_right _ (List.mem_map.mpr ⟨f, hf, rfl⟩))
  · simp [varTable]
  · simp [varTable]

end TI
end PM
