import ProductMD.Proofs.ImagesLoadExact
import ProductMD.Model.ImagesLegacy
/-!
C05, images: what every successful load — of a document of ANY format version, through `deserializeL` — has built.

* every filed image came out of `Image.deserialize` (hence validates and carries proper ints),
* every arch key passed `Images.add` (in the table, not refused),
* the compose section validates, the header carries the current version,
* the compose reader of `deserializeL` returns what that of `deserialize` returns wherever the latter returns
  (`compose_deserializeL_of_deserialize`; the rest of the two readers is the same text).
-/
namespace PM.Img
open PM PM.PyOps PM.Spec

/-- every filing holds an image with property `Q` under an arch key that `Images.add` accepts -/
def GoodCells (Q : Image → Prop) (cs : Cells) : Prop :=
  ∀ e ∈ entries cs, Q e.2.2.2 ∧ C10.Admissible e.2.1

/-- `validate()` is the reader's last statement, and the four integer attributes went through `int()` -/
theorem image_deserialize_good (ver d : PyVal) :
    Post (Image.deserialize ver d) fun img => img.validate = .ok () ∧ ProperInts img := by
  unfold Image.deserialize
  exact .bind fun _ => .bind fun _ => .bind fun _ => .bind fun _ => .bind fun _ => .bind fun _ => .bind fun _ => .bind fun _ =>
    .bind fun _ => .bind fun _ => .bind fun _ => .bind fun _ => .bind fun _ => .bind fun _ => .ite_bind fun _ => .bind fun _ =>
    .bind fun _ => .validated_ok fun hv => ⟨hv, ⟨_, rfl⟩, ⟨_, rfl⟩, ⟨_, rfl⟩, ⟨_, rfl⟩⟩

theorem compose_deserialize_valid (ver payload : PyVal) : Post (Compose.deserialize ver payload) fun c => c.validate = .ok () := by
  unfold Compose.deserialize
  exact .bind fun _ => .bind fun _ => .ite .error (.bind fun _ => .bind fun _ => .bind fun _ => .bind fun _ =>
    .bind fun _ => .bind fun _ => .bind fun _ => .validated_ok id)

theorem compose_deserializeL_valid (ver payload : PyVal) : Post (Compose.deserializeL ver payload) fun c => c.validate = .ok () := by
  unfold Compose.deserializeL
  exact .bind fun _ => .bind fun _ => .ite (.bind fun _ => .validated_ok id) (compose_deserialize_valid ver payload)

theorem compose_deserializeL_of_deserialize (ver payload : PyVal) (c : Compose)
    (h : Compose.deserialize ver payload = .ok c) : Compose.deserializeL ver payload = .ok c := by
  have h0 := h
  unfold Compose.deserialize at h
  obtain ⟨vt, hvt, h⟩ := bind_ok h
  obtain ⟨old, hold, h⟩ := bind_ok h
  cases old with
  | true => simp at h
  | false =>
    exact Returns.bind hvt <| Returns.bind hold <| Returns.ite_neg Bool.false_ne_true h0

theorem deserializeL_eq_readWith (doc : PyVal) : deserializeL doc = readWith Compose.deserializeL [] 0 doc := rfl

theorem deserializeL_good (doc : PyVal) (s : ImgState) (h : deserializeL doc = .ok s) :
    s.version = .str currentVersion ∧ s.compose.validate = .ok ()
    ∧ GoodCells (fun i => i.validate = .ok () ∧ ProperInts i) s.cells := by
  obtain ⟨ver, payload, comp, images, vs, r, _, _, hcomp, _, _, h6, rfl⟩ := readWith_ok ((deserializeL_eq_readWith doc).symm.trans h)
  have hst : AddStable ver (GoodCells fun i => i.validate = .ok () ∧ ProperInts i) :=
    .of_ok fun s v a id img d hd _ hp ha _ e he => by
      rcases mem_entries_cellsAdd he with rfl | he'
      · exact ⟨(image_deserialize_good ver d).elim hd, ha⟩
      · exact hp e he'
  obtain ⟨_, c, g⟩ := loadVariants_inv (s0 := { version := ver, compose := comp, cells := [] }) hst images vs 0 r
    (fun e he => by cases he) h6
  exact ⟨rfl, c ▸ (compose_deserializeL_valid ver payload).elim hcomp, g⟩

theorem ok_bind {α β : Type} (a : α) (f : α → Except Err β) : (Except.ok a >>= f) = f a := rfl

end PM.Img
