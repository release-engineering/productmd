import ProductMD.Proofs.JsonNum
/-!
The fuel of the JSON reader model is irrelevant: once it exceeds the length of the text, more fuel never changes the
answer (`value_fuel`, `parseWith_fuel`, `parseString_fuel`).  So the out-of-fuel answer of `Model/JsonParse.lean` is never
what `parseWith`/`parseString` return: the fuel they supply is already in the range where the answer is constant.
The idea: every reader returns a rest shorter than its input, so each recursive call is on a shorter text and fuel above
the text's length is never used up.  Both facts are one invariant (`Good`), proved for one more unit of fuel at a time.
-/
namespace PM.JsonParse
open PM Str

theorem skipWs_length_le : ∀ s : Str, (skipWs s).length ≤ s.length := by
  intro s
  induction s with
  | nil => simp [skipWs]
  | cons c cs ih =>
    simp only [skipWs]
    split
    · simp only [List.length_cons]; omega
    · simp

theorem hex4?_length (s r : Str) (n : Nat) (h : hex4? s = some (n, r)) : r.length + 4 = s.length := by
  unfold hex4? at h
  split at h
  · split at h
    · cases h
      simp
    · cases h
  · cases h

theorem dropPrefix?_length : ∀ (p s r : Str), dropPrefix? p s = some r → r.length + p.length = s.length := by
  intro p
  induction p with
  | nil => intro s r h; simp only [dropPrefix?, Option.some.injEq] at h; rw [h]; simp
  | cons c cs ih =>
    intro s r h
    cases s with
    | nil => simp [dropPrefix?] at h
    | cons d ds =>
      simp only [dropPrefix?] at h
      split at h
      · have := ih ds r h; simp only [List.length_cons]; omega
      · cases h

theorem literal?_length (s r : Str) (v : PyVal) (h : literal? s = some (v, r)) : r.length < s.length := by
  obtain ⟨p, hp, hq⟩ := List.exists_of_findSome?_eq_some h
  have hl : 0 < p.1.length := (by decide : ∀ p ∈ literals, 0 < p.1.length) p hp
  simp only [Option.map_eq_some_iff] at hq
  obtain ⟨r', hd, he⟩ := hq
  have := dropPrefix?_length _ _ _ hd
  simp only [Prod.mk.injEq] at he
  rw [← he.2]
  omega

theorem tail_length_of_headIs {t : Str} {c : Char} (h : headIs t c = true) : t.tail.length < t.length := by
  cases t with
  | nil => simp [headIs] at h
  | cons a as => simp

/-- Relates the answers of a reader at fuel `f` and at fuel `f + 1`: they are the same and, on success, the rest (`ρ` of the
payload) is shorter than `n`.  Two-sided, so that the congruence rules below walk both copies of a reader's body at once; the
shrinking half is what makes the hypothesis for the recursive calls applicable. -/
def Good {β : Type} (ρ : β → Str) (n : Nat) (x y : Except Err β) : Prop :=
  x = y ∧ ∀ b, x = .ok b → (ρ b).length < n

theorem Good.ok' {β} {ρ : β → Str} {n b} (h : (ρ b).length < n) : Good ρ n (.ok b) (.ok b) :=
  ⟨rfl, by rintro _ ⟨⟩; exact h⟩
/-- `ok'` for a reader that returns a pair with the rest second (all but `member`), the premise with the projection already reduced:
`by omega` does not see through `(a, r).snd` -/
theorem Good.ok {α} {n} {a : α} {r : Str} (h : r.length < n) : Good Prod.snd n (.ok (a, r)) (.ok (a, r)) := .ok' h
theorem Good.error {β} {ρ : β → Str} {n e} : Good ρ n (.error e : Except Err β) (.error e) := ⟨rfl, nofun⟩
theorem Good.mono {β} {ρ : β → Str} {m n x y} (h : Good ρ m x y) (hmn : m ≤ n) : Good ρ n x y :=
  ⟨h.1, fun b e => Nat.lt_of_lt_of_le (h.2 b e) hmn⟩
theorem Good.eq {β} {ρ : β → Str} {n x y} (h : Good ρ n x y) : x = y := h.1
theorem Good.lt {β} {ρ : β → Str} {n x y b} (h : Good ρ n x y) (e : x = .ok b) : (ρ b).length < n := h.2 b e

theorem Good.ite {β} {ρ : β → Str} {n} {c : Prop} [Decidable c] {a a' b b' : Except Err β}
    (ha : c → Good ρ n a a') (hb : ¬c → Good ρ n b b') : Good ρ n (if c then a else b) (if c then a' else b') := by
  split
  · exact ha ‹_›
  · exact hb ‹_›

theorem Good.ite' {β} {ρ : β → Str} {n} {c : Prop} [Decidable c] {a a' b b' : Except Err β}
    (ha : Good ρ n a a') (hb : Good ρ n b b') : Good ρ n (if c then a else b) (if c then a' else b') :=
  .ite (fun _ => ha) fun _ => hb

theorem number_good (lim : Nat) (s : Str) : Good Prod.snd s.length (number lim s) (number lim s) := by
  simp only [number]
  split
  · exact .error
  · rename_i n hs
    obtain ⟨c, t, hip, _⟩ := (scanNumber_parts hs).1.head
    have hl : n.rest.length < s.length := by
      rw [← scanNumber_tok_append_rest hs]; simp only [Num.tok, hip, List.length_append, List.length_cons]; omega
    exact .ite' (.ok hl) <| .ite' .error <| .ok hl

theorem unescape_good (s : Str) : Good Prod.snd s.length (unescape s) (unescape s) := by
  cases s with
  | nil => exact .error
  | cons e cs =>
    simp only [unescape, List.length_cons]
    have ok {ch : Char} : Good Prod.snd (cs.length + 1) (.ok (ch, cs)) (.ok (ch, cs)) := .ok (Nat.lt_succ_self _)
    refine .ite' ?_ <| .ite' ok <| .ite' ok <| .ite' ok <| .ite' ok <| .ite' ok <| .ite' ok <| .ite' ok <| .ite' ok .error
    split
    · exact .error
    · rename_i hi r hx
      have h1 := hex4?_length _ _ _ hx
      refine .ite' ?_ <| .ite' .error <| .ok (by omega)
      split
      · refine .ite' ?_ .error
        split
        · exact .error
        · rename_i lo r3 hy
          have h2 := hex4?_length _ _ _ hy
          exact .ite' (.ok (by simp only [List.length_cons] at h1; omega)) .error
      · exact .error

theorem scanStr_step : ∀ (f : Nat) (acc s : Str), s.length < f →
    Good Prod.snd s.length (scanStr f acc s) (scanStr (f + 1) acc s) := by
  intro f
  induction f with
  | zero => nofun
  | succ f ih =>
    intro acc s h
    cases s with
    | nil => exact .error
    | cons c cs =>
      simp only [List.length_cons] at h ⊢
      simp only [scanStr]
      refine .ite' (.ok (by omega)) <| .ite' ?_ <| .ite' .error <| (ih _ _ (by omega)).mono (by omega)
      split
      · rename_i ch rest hu
        have : rest.length < _ := (unescape_good cs).lt hu
        exact (ih _ _ (by omega)).mono (by omega)
      · exact .error

theorem parseString_good (s : Str) : Good Prod.snd s.length (parseString s) (parseString s) :=
  ⟨rfl, fun _ => (scanStr_step _ [] s (Nat.lt_succ_self _)).lt⟩

theorem close_length {s : Str} {c : Char} (h : headIs (skipWs s) c = true) : (skipWs s).tail.length < s.length :=
  Nat.lt_of_lt_of_le (tail_length_of_headIs h) (skipWs_length_le s)
theorem sep_length {s : Str} {c : Char} (h : headIs (skipWs s) c = true) :
    (skipWs (skipWs s).tail).length < s.length :=
  Nat.lt_of_le_of_lt (skipWs_length_le _) (close_length h)

theorem readers_step (lim : Nat) : ∀ f : Nat,
    (∀ s, s.length < f → Good Prod.snd s.length (value lim f s) (value lim (f + 1) s))
    ∧ (∀ acc s, s.length < f → Good Prod.snd s.length (itemsTail lim f acc s) (itemsTail lim (f + 1) acc s))
    ∧ (∀ s, s.length < f → Good (·.2.2) s.length (member lim f s) (member lim (f + 1) s))
    ∧ (∀ acc s, s.length < f → Good Prod.snd s.length (membersTail lim f acc s) (membersTail lim (f + 1) acc s)) := by
  intro f
  induction f with
  | zero => exact ⟨nofun, nofun, nofun, nofun⟩
  | succ f ih =>
    obtain ⟨ihv, ihi, ihm, ihd⟩ := ih
    refine ⟨?_, ?_, ?_, ?_⟩
    · intro s h
      cases s with
      | nil => exact .error
      | cons c cs =>
        have hsk := skipWs_length_le cs
        simp only [List.length_cons] at h ⊢
        simp only [value]
        have close {c} {v : PyVal} (hh : headIs (skipWs cs) c = true) :
            Good Prod.snd (cs.length + 1) (.ok (v, (skipWs cs).tail)) (.ok (v, (skipWs cs).tail)) :=
          .ok (Nat.lt_succ_of_lt (close_length hh))
        refine .ite' ?_ <| .ite' (.ite close fun _ => ?_) <| .ite' (.ite close fun _ => ?_) ?_
        · split
          · rename_i t r hp
            have : r.length < _ := (parseString_good cs).lt hp
            exact .ok (by omega)
          · exact .error
        · have hg := ihv (skipWs cs) (by omega)
          rw [← hg.eq]
          split
          · rename_i v r hv
            have : r.length < _ := hg.lt hv
            exact (ihi _ _ (by omega)).mono (by omega)
          · exact .error
        · have hg := ihm (skipWs cs) (by omega)
          rw [← hg.eq]
          split
          · rename_i k v r hv
            have : r.length < _ := hg.lt hv
            exact (ihd _ _ (by omega)).mono (by omega)
          · exact .error
        · split
          · rename_i p hl
            exact .ok (by have := literal?_length _ _ _ hl; simpa using this)
          · exact number_good lim _
    · intro acc s h
      simp only [itemsTail]
      refine .ite (fun hh => .ok (close_length hh)) fun _ => .ite (fun hh => ?_) fun _ => .error
      have := sep_length hh
      have hg := ihv (skipWs (skipWs s).tail) (by omega)
      rw [← hg.eq]
      split
      · rename_i v r hv
        have : r.length < _ := hg.lt hv
        exact (ihi _ _ (by omega)).mono (by omega)
      · exact .error
    · intro s h
      simp only [member]
      refine .ite (fun hh => ?_) fun _ => .error
      have ht := tail_length_of_headIs hh
      split
      · exact .error
      · rename_i k r hp
        have h0 : r.length < _ := (parseString_good _).lt hp
        refine .ite (fun hh => ?_) fun _ => .error
        have := sep_length hh
        have hg := ihv (skipWs (skipWs r).tail) (by omega)
        rw [← hg.eq]
        split
        · rename_i v r2 hv
          have : r2.length < _ := hg.lt hv
          exact .ok' (by omega : r2.length < _)
        · exact .error
    · intro acc s h
      simp only [membersTail]
      refine .ite (fun hh => .ok (close_length hh)) fun _ => .ite (fun hh => ?_) fun _ => .error
      have := sep_length hh
      have hg := ihm (skipWs (skipWs s).tail) (by omega)
      rw [← hg.eq]
      split
      · rename_i k v r hv
        have : r.length < _ := hg.lt hv
        exact (ihd _ _ (by omega)).mono (by omega)
      · exact .error

theorem value_fuel (lim : Nat) (s : Str) (f f' : Nat) (h : s.length < f) (h' : s.length < f') :
    value lim f s = value lim f' s := by
  have base : ∀ f, s.length < f → value lim f s = value lim (s.length + 1) s := fun f h => by
    induction h with
    | refl => rfl
    | step h ih => exact ((readers_step lim _).1 s h).eq.symm.trans ih
  exact (base f h).trans (base f' h').symm

/-- the left side is the body of `parseWith` (`Model/JsonParse.lean`) with `f` in place of its fuel `text.length + 1` -/
theorem parseWith_fuel (lim : Nat) (text : Str) (f : Nat) (h : text.length < f) :
    (match value lim f (skipWs text) with
     | .error e => .error e
     | .ok (v, r) => if (skipWs r).isEmpty then .ok v else .error .valueError) = parseWith lim text := by
  have := skipWs_length_le text
  unfold parseWith
  rw [value_fuel lim (skipWs text) f (text.length + 1) (by omega) (by omega)]
  generalize value lim (text.length + 1) (skipWs text) = x
  cases x with
  | error e => rfl
  | ok p => rfl

theorem parseString_fuel (s : Str) (f : Nat) (h : s.length < f) : scanStr f [] s = parseString s := by
  induction h with
  | refl => rfl
  | step h ih => exact (scanStr_step _ [] s h).eq.symm.trans ih

end PM.JsonParse
