import ProductMD.Proofs.ImagesFields
import ProductMD.Proofs.Canon
import ProductMD.Proofs.Assoc
/-!
The writer: `serializeCells` is a fold of `outAppend` over the manifest's filings; the resulting table has unique
keys at both levels and holds exactly the written dictionaries (as a multiset: each cell is sorted by path).  Observed through
look-ups, the cell `(v, a)` is the path-sorted list of the dictionaries filed under `(v, a)`, and a key exists exactly when a
filing has it.  `Writes` ties the three loops of the model to that fold: they return iff every image validates.
`json.dump` accepts a value iff it accepts its canonical form.
-/
namespace PM.Img
open PM PM.PyOps PM.Spec

theorem insertByPath_perm (d : PyVal) (l : List PyVal) : (insertByPath d l).Perm (d :: l) :=
  insertKey_perm insertByPath (fun _ => rfl) (fun _ _ _ => rfl) d l

theorem foldl_insert_perm (l acc : List PyVal) :
    (l.foldl (fun acc d => insertByPath d acc) acc).Perm (l ++ acc) := by
  induction l generalizing acc with
  | nil => exact List.Perm.refl _
  | cons x xs ih =>
    simp only [List.foldl_cons, List.cons_append]
    refine (ih _).trans ?_
    exact (List.Perm.append_left xs (insertByPath_perm x acc)).trans List.perm_middle

theorem sortByPath_perm (l : List PyVal) : (sortByPath l).Perm l := by
  have := foldl_insert_perm l []
  simpa [sortByPath] using this

theorem foldl_insert_sorted (l acc : List PyVal) (h : acc.Pairwise (KeyLe pathKey)) :
    (l.foldl (fun acc d => insertByPath d acc) acc).Pairwise (KeyLe pathKey) := by
  induction l generalizing acc with
  | nil => exact h
  | cons x xs ih => exact ih _ (insertKey_sorted insertByPath (fun _ => rfl) (fun _ _ _ => rfl) (fun _ _ => Str.le_of_lt_true)
      (fun _ _ => Str.le_of_lt_false) x acc h)

theorem sortByPath_sorted (l : List PyVal) : (sortByPath l).Pairwise (KeyLe pathKey) :=
  foldl_insert_sorted l [] List.Pairwise.nil

/-- the cell after the dictionaries `ds` were appended one by one, sorting after each append, as the loop of `Images.serialize`
does (`image_obj.serialize(images); images.sort(key=lambda x: x["path"])`) -/
def cellFold (init : List PyVal) (ds : List PyVal) : List PyVal := ds.foldl (fun l d => sortByPath (l ++ [d])) init

theorem cellFold_cons (init : List PyVal) (d : PyVal) (ds : List PyVal) :
    cellFold init (d :: ds) = cellFold (sortByPath (init ++ [d])) ds := rfl

theorem cellFold_perm_init (init ds : List PyVal) : (cellFold init ds).Perm (init ++ ds) := by
  induction ds generalizing init with
  | nil => simp [cellFold]
  | cons d rest ih =>
    rw [cellFold_cons]
    refine (ih _).trans ?_
    refine (List.Perm.append_right _ (sortByPath_perm _)).trans ?_
    simp

theorem cellFold_perm (ds : List PyVal) : (cellFold [] ds).Perm ds := by
  simpa using cellFold_perm_init [] ds

theorem cellFold_sorted_init (init ds : List PyVal) (h : init.Pairwise (KeyLe pathKey)) :
    (cellFold init ds).Pairwise (KeyLe pathKey) := by
  induction ds generalizing init with
  | nil => exact h
  | cons d rest ih =>
    rw [cellFold_cons]
    exact ih _ (sortByPath_sorted _)

theorem cellFold_sorted (ds : List PyVal) : (cellFold [] ds).Pairwise (KeyLe pathKey) :=
  cellFold_sorted_init [] ds List.Pairwise.nil

theorem archTriples_cons (v : Str) (al : Str × List PyVal) (as : List (Str × List PyVal)) :
    archTriples v (al :: as) = al.2.map (fun d => (v, al.1, d)) ++ archTriples v as := by
  simp [archTriples]

theorem outTriples_cons (va : Str × List (Str × List PyVal)) (o : OutCells) :
    outTriples (va :: o) = archTriples va.1 va.2 ++ outTriples o := by
  simp [outTriples]

theorem outArchAppend_eq (as : List (Str × List PyVal)) (a : Str) (d : PyVal) :
    outArchAppend as a d = upsert (fun l => sortByPath (l ++ [d])) [] as a := by
  induction as with
  | nil => rfl
  | cons al rest ih => rw [outArchAppend, upsert, ih]

theorem outAppend_eq (o : OutCells) (v a : Str) (d : PyVal) :
    outAppend o v a d = upsert (fun as => outArchAppend as a d) [] o v := by
  induction o with
  | nil => rfl
  | cons va rest ih => rw [outAppend, upsert, ih]

theorem outAppend_perm (v a : Str) (d : PyVal) (o : OutCells) :
    (outTriples (outAppend o v a d)).Perm ((v, a, d) :: outTriples o) := by
  rw [outAppend_eq]
  refine upsert_flatMap _ [] archTriples (fun _ => [(v, a, d)]) o v rfl fun as => ?_
  rw [outArchAppend_eq]
  refine upsert_flatMap _ [] (fun a l => l.map fun d => (v, a, d)) (fun _ => [(v, a, d)]) as a rfl fun l => ?_
  refine ((sortByPath_perm _).map _).trans ?_
  rw [List.map_append]
  exact List.perm_append_comm

theorem outAppend_nodup (v a : Str) (d : PyVal) (o : OutCells) (h : OutNodup o) : OutNodup (outAppend o v a d) := by
  rw [outAppend_eq]
  refine ⟨upsert_nodup _ _ o v h.1, upsert_forall _ [] (fun as => (as.map (·.1)).Nodup) o v h.2 (fun as has => ?_) ?_⟩
  · rw [outArchAppend_eq]; exact upsert_nodup _ _ as a has
  · exact List.pairwise_singleton _ a

theorem outFold_cons (t : Str × Str × Image) (ts : List (Str × Str × Image)) (out : OutCells) :
    outFold (t :: ts) out = outFold ts (outAppend out t.1 t.2.1 t.2.2.dict) := rfl

theorem outFold_nodup (ts : List (Str × Str × Image)) (out : OutCells) (h : OutNodup out) : OutNodup (outFold ts out) := by
  induction ts generalizing out with
  | nil => exact h
  | cons t rest ih => exact ih _ (outAppend_nodup _ _ _ _ h)

theorem outFold_perm (ts : List (Str × Str × Image)) (out : OutCells) :
    (outTriples (outFold ts out)).Perm (ts.map (fun t => (t.1, t.2.1, t.2.2.dict)) ++ outTriples out) := by
  induction ts generalizing out with
  | nil => exact List.Perm.refl _
  | cons t rest ih =>
    rw [outFold_cons, List.map_cons, List.cons_append]
    refine (ih _).trans ?_
    exact (List.Perm.append_left _ (outAppend_perm _ _ _ _)).trans List.perm_middle

theorem outFold_table (ts : List (Str × Str × Image)) :
    OutNodup (outFold ts []) ∧ (outTriples (outFold ts [])).Perm (ts.map fun t => (t.1, t.2.1, t.2.2.dict)) :=
  ⟨outFold_nodup _ [] ⟨List.nodup_nil, fun _ h => nomatch h⟩, by simpa [outTriples] using outFold_perm ts []⟩

theorem outFold_append (t1 t2 : List (Str × Str × Image)) (out : OutCells) :
    outFold (t1 ++ t2) out = outFold t2 (outFold t1 out) := by
  simp [outFold, List.foldl_append]

/-- the filings under variant `v`: the arch level of `triples` (`triples_eq`) -/
def archEntries (v : Str) (as : List (Str × Cell)) : List (Str × Str × Image) :=
  as.flatMap fun ac => ac.2.map fun e => (v, ac.1, e.2)

theorem triples_eq (cs : Cells) : triples cs = cs.flatMap fun va => archEntries va.1 va.2 := by
  simp [triples, entries, archEntries, List.map_flatMap, List.map_map, Function.comp_def]

theorem all_eq_triples (cs : Cells) : cs.all = (triples cs).map (·.2.2) := by
  simp [Cells.all, triples, entries, List.map_flatMap, List.map_map, Function.comp_def]

theorem mem_all_of_triple {cs : Cells} {t : Str × Str × Image} (h : t ∈ triples cs) : t.2.2 ∈ cs.all :=
  all_eq_triples _ ▸ List.mem_map.mpr ⟨t, h, rfl⟩

/-- `f` writes the filings `ts`: it returns exactly when each of their images validates, and then it has appended their dictionaries
to the table -/
def Writes (f : OutCells → Except Err OutCells) (ts : List (Str × Str × Image)) : Prop :=
  ∀ out o, f out = .ok o ↔ (∀ t ∈ ts, t.2.2.validate = .ok ()) ∧ o = outFold ts out

theorem Writes.nil {f : OutCells → Except Err OutCells} (h : ∀ out, f out = .ok out) : Writes f [] :=
  fun out o => by simp [h, outFold, eq_comm]

theorem Writes.bind {f g : OutCells → Except Err OutCells} {t₁ t₂ : List (Str × Str × Image)} (hf : Writes f t₁) (hg : Writes g t₂) :
    Writes (fun out => f out >>= g) (t₁ ++ t₂) := by
  intro out o
  simp only [bind_eq_ok, hf out, fun o₁ => hg o₁ o, outFold_append, List.forall_mem_append]
  exact ⟨fun ⟨_, ⟨v₁, rfl⟩, v₂, h⟩ => ⟨⟨v₁, v₂⟩, h⟩, fun ⟨⟨v₁, v₂⟩, h⟩ => ⟨_, ⟨v₁, rfl⟩, v₂, h⟩⟩

theorem serializeCell_writes (v a : Str) : ∀ c : Cell, Writes (serializeCell v a c) (c.map fun e => (v, a, e.2))
  | [] => .nil fun _ => rfl
  | (id, img) :: rest => fun out o => by
    simp only [serializeCell, Image.serialize, List.forall_mem_cons, List.map_cons]
    cases hv : img.validate with
    | error err => exact ⟨fun h => (nomatch h), fun h => (nomatch h.1.1)⟩
    | ok u =>
      cases u
      exact (serializeCell_writes v a rest _ o).trans ⟨fun h => ⟨⟨rfl, h.1⟩, h.2⟩, fun h => ⟨h.1.2, h.2⟩⟩

theorem serializeArches_writes (v : Str) : ∀ as : List (Str × Cell), Writes (serializeArches v as) (archEntries v as)
  | [] => .nil fun _ => rfl
  | (a, c) :: rest => (serializeCell_writes v a c).bind (serializeArches_writes v rest)

theorem serializeCells_writes : ∀ cs : Cells, Writes (serializeCells cs) (triples cs)
  | [] => .nil fun _ => rfl
  | (v, as) :: rest => by
    rw [triples_eq, List.flatMap_cons, ← triples_eq]
    exact (serializeArches_writes v as).bind (serializeCells_writes rest)

theorem serializeCells_ok : ∀ (cs : Cells) (out o : OutCells),
    serializeCells cs out = .ok o ↔ (∀ i ∈ cs.all, i.validate = .ok ()) ∧ o = outFold (triples cs) out := by
  intro cs out o
  rw [all_eq_triples, List.forall_mem_map]
  exact serializeCells_writes cs out o

theorem dict_eq_toObj (i : Image) : i.dict = .dict (if i.unified.truthy then i.toObj else i.toObj.take 13) := by
  cases i; rfl

theorem toObj_keys_nodup (i : Image) : (i.toObj.map (·.1)).Nodup := by
  -- the keys are literals, the same for every image
  have h : ((default : Image).toObj.map (·.1)).Nodup := by decide +kernel
  exact h

theorem dict_get_path (i : Image) : i.dict.get? (L "path") = some i.path := by
  unfold Image.dict
  split <;> rfl

theorem pathKey_dict (i : Image) : pathKey i.dict = match i.path with | .str s => s | _ => [] := by
  unfold pathKey
  rw [dict_get_path]
  cases i.path <;> rfl

theorem find_key {β γ : Type} (g : β → γ) (l : List (Str × β)) (k : Str) (x : β) (hn : (l.map (·.1)).Nodup) (hm : (k, x) ∈ l) :
    (l.map fun p => (p.1, g p.2)).find? (·.1 == k) = some (k, g x) :=
  find_of_mem_nodup (·.1) _ (k, g x) k (by rw [List.map_map]; exact hn) (List.mem_map.mpr ⟨_, hm, rfl⟩) rfl

theorem archAt_eq (o : OutCells) (v : Str) : archAt o v = valAt [] o v := by
  unfold archAt valAt
  cases o.find? (·.1 == v) <;> rfl

/-- the dictionaries of a filing list that go to cell `(v, a)`, in order -/
def dictsFor (ts : List (Str × Str × Image)) (v a : Str) : List PyVal :=
  (ts.filter fun t => t.1 == v && t.2.1 == a).map (·.2.2.dict)

theorem cell_outFold (ts : List (Str × Str × Image)) (out : OutCells) (v a : Str) :
    valAt [] (archAt (outFold ts out) v) a = cellFold (valAt [] (archAt out v) a) (dictsFor ts v a) := by
  induction ts generalizing out with
  | nil => rfl
  | cons t rest ih =>
    obtain ⟨tv, ta, ti⟩ := t
    rw [outFold_cons, ih, archAt_eq, archAt_eq, outAppend_eq, valAt_upsert]
    -- the filing `(tv, ta, ti)` is the head of `dictsFor` for its own cell (one more step of `cellFold`) and is filtered out for every other
    by_cases hv : v = tv
    · subst hv
      simp only [↓reduceIte, outArchAppend_eq, valAt_upsert]
      by_cases ha : a = ta
      · subst ha
        simp [dictsFor, cellFold, List.filter]
      · have : (ta == a) = false := by simpa using fun e => ha e.symm
        simp [dictsFor, List.filter, this, ha]
    · have : (tv == v) = false := by simpa using fun e => hv e.symm
      simp [dictsFor, List.filter, this, hv]

theorem keys_outFold (ts : List (Str × Str × Image)) (out : OutCells) (v : Str) :
    v ∈ (outFold ts out).map (·.1) ↔ v ∈ out.map (·.1) ∨ ∃ t ∈ ts, t.1 = v := by
  induction ts generalizing out with
  | nil => simp [outFold]
  | cons t rest ih =>
    rw [outFold_cons, ih, outAppend_eq, mem_upsert_keys]
    simp only [List.mem_cons, exists_eq_or_imp]
    exact or_assoc.trans (or_left_comm.trans (or_congr_right (or_congr_left eq_comm)))

theorem archKeys_outFold (ts : List (Str × Str × Image)) (out : OutCells) (v a : Str) :
    a ∈ (archAt (outFold ts out) v).map (·.1) ↔ a ∈ (archAt out v).map (·.1) ∨ ∃ t ∈ ts, t.1 = v ∧ t.2.1 = a := by
  induction ts generalizing out with
  | nil => simp [outFold]
  | cons t rest ih =>
    rw [outFold_cons, ih, archAt_eq, archAt_eq, outAppend_eq, valAt_upsert]
    simp only [List.mem_cons, exists_eq_or_imp]
    by_cases hv : v = t.1
    · subst hv
      simp only [↓reduceIte, outArchAppend_eq, mem_upsert_keys, true_and]
      exact or_assoc.trans (or_left_comm.trans (or_congr_right (or_congr_left eq_comm)))
    · have hv' : ¬ t.1 = v := fun e => hv e.symm
      simp [hv, hv']

theorem archAt_of_mem {o : OutCells} (hn : (o.map (·.1)).Nodup) {v : Str} {as : List (Str × List PyVal)} (h : (v, as) ∈ o) :
    archAt o v = as := by
  simp [archAt, find_of_mem_nodup (·.1) o (v, as) v hn h rfl]

theorem jsonSafeKvs_all : ∀ l, jsonSafeKvs l = l.all (fun kv => jsonSafe kv.2) := by
  intro l
  induction l with
  | nil => rfl
  | cons kv rest ih => obtain ⟨k, v⟩ := kv; simp [jsonSafeKvs, ih]

theorem jsonSafeList_all : ∀ l, jsonSafeList l = l.all jsonSafe := by
  intro l
  induction l with
  | nil => rfl
  | cons x rest ih => simp [jsonSafeList, ih]

theorem jsonSafe_canon : ∀ v : PyVal, jsonSafe (PyVal.canon v) = jsonSafe v := by
  intro v
  induction v using PyVal.induct with
  | list xs ih =>
    rw [canon_list, jsonSafe, jsonSafe, jsonSafeList_all, jsonSafeList_all, List.all_map]
    exact all_congr_mem ih
  | dict kvs ih =>
    rw [canon_dict, jsonSafe, jsonSafe, jsonSafeKvs_all, jsonSafeKvs_all, (sortKvs_perm _).all_eq, List.all_map]
    exact all_congr_mem ih
  | _ => rfl

theorem jsonSafe_canonList : ∀ l : List PyVal, jsonSafeList (PyVal.canonList l) = jsonSafeList l :=
  fun l => jsonSafe_canon (.list l)

theorem jsonSafe_canonKvs : ∀ l : List (Str × PyVal), jsonSafeKvs (PyVal.canonKvs l) = jsonSafeKvs l := by
  intro l
  rw [canonKvs_eq_map, jsonSafeKvs_all, jsonSafeKvs_all, List.all_map]
  exact all_congr_mem fun p _ => jsonSafe_canon p.2

theorem images_no_validators : validateClass "images.Images" [] = .ok () := by decide +kernel

/-- `Images.dumps()`: the header is set to the current version (also when the call raises later), the document is built, and
`json.dump` refuses foreign objects -/
theorem dumps_eq (s : ImgState) : dumps s = ({ s with version := .str currentVersion },
    (serialize s).2.bind fun doc => if jsonSafe doc then .ok (JsonText.dumps doc) else .error .typeError) := by
  unfold dumps
  rw [images_no_validators]
  rcases h : serialize s with ⟨s', r⟩
  obtain rfl : { s with version := .str currentVersion } = s' := congrArg Prod.fst h
  cases r <;> rfl

theorem dumps_state (s : ImgState) : (dumps s).1 = { s with version := .str currentVersion } := by
  rw [dumps_eq]

/-- `Images.loads` on the parsed text is `deserialize`: the final `validate()` has no rule to run -/
theorem loads_eq (doc : PyVal) : loads doc = deserialize doc := by
  unfold loads
  rw [images_no_validators]
  cases deserialize doc <;> rfl

theorem dumps_text (m : ImgState) (doc : PyVal) (t : Str) (hs : (serialize m).2 = .ok doc) (ht : (dumps m).2 = .ok t) :
    t = JsonText.dumps doc := by
  rw [dumps_eq, hs] at ht
  simp only [Except.bind] at ht
  split at ht
  · exact (Except.ok.inj ht).symm
  · cases ht

end PM.Img
