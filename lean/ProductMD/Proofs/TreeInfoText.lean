import ProductMD.Proofs.IniTextTie
import ProductMD.Proofs.TreeInfoReadback
/-!
From the written document to its text and back: the document the text reader returns for the rendering of a
written document is again a view of the same sections.
-/
namespace PM
namespace TI
open Ini

theorem readDoc_lookup (d : Ini) (s : Str) :
    (readDoc d).lookup s = (d.lookup s).map fun o => (sortKV o).filter fun kv => !IniText.isCommentName kv.1 := by
  unfold readDoc IniText.dropComments IniText.canon
  rw [Assoc.lookup_map, Assoc.lookup_map, lookup_sortKV]
  cases d.lookup s <;> rfl

theorem readDoc_names (d : Ini) : ((readDoc d).map (·.1)).Perm (d.map (·.1)) := by
  unfold readDoc IniText.dropComments IniText.canon
  simp only [List.map_map, Function.comp_def]
  exact (sortKV_perm d).map _

/-- no comment-named option: the condition under which `items()` of the re-read section is the sorted section -/
def NoCommentKeys (o : IniSec) : Prop := ∀ kv ∈ o, nc kv.1 = true

theorem noCommentKeys_checksums {cs : List (Str × Str × Str)} (hn : (cs.map (·.1)).Nodup) (h : ∀ c ∈ cs, nc c.1 = true) :
    NoCommentKeys (checksumOpts cs) := by
  intro kv hkv
  rw [checksumOpts_eq _ hn] at hkv
  obtain ⟨c, hc, rfl⟩ := List.mem_map.mp hkv
  exact h c hc

theorem noCommentKeys_setsKV {kvs : List (Str × Str)} (hn : (kvs.map (·.1)).Nodup) (h : ∀ kv ∈ kvs, nc kv.1 = true) :
    NoCommentKeys (setsKV [] kvs) := by
  rw [setsKV_nil_nodup _ hn]
  exact h

theorem view_readDoc {L : List (Str × IniSec)} {d : Ini} (V : View (fun _ => True) L d) : View NoCommentKeys L (readDoc d) := by
  refine ⟨?_, ?_, ?_, (readDoc_names d).trans V.names⟩
  · rw [readDoc_lookup, V.noDefault]; rfl
  · intro s o hs
    obtain ⟨o', ho', hl, hsrt⟩ := V.sec s o hs
    refine ⟨(sortKV o').filter fun kv => !IniText.isCommentName kv.1, by rw [readDoc_lookup, ho']; rfl, ?_, ?_⟩
    · intro k hk
      rw [Assoc.lookup_filter_key (fun k => !IniText.isCommentName k) _ k hk, lookup_sortKV, hl k hk]
    · intro hC
      have hso : sortKV o' = sortKV o := hsrt trivial
      rw [hso]
      have : ((sortKV o).filter fun kv => !IniText.isCommentName kv.1) = sortKV o := by
        apply List.filter_eq_self.mpr
        intro kv hkv
        exact hC kv ((mem_sortKV _ _).mp hkv)
      rw [this, sortKV_idem]
  · intro s hs
    rw [readDoc_lookup, V.nosec s hs]; rfl

end TI
end PM
