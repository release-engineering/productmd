import ProductMD.Proofs.Validation
/-!
Exception classes of `validate()` (C06, error-class half).  A translated rule fails with TypeError or ValueError by
construction; a hand-bound body (`customs2`) does too, except where the model answers `Err.other` ("cannot know": `%s` of a
list/dict/foreign parent uid, `in` on a foreign arch container) or where the SKELETON has the wrong shape (a treeinfo platform
table that is not a dict: `.items()` raises AttributeError; a checksum table that is a list, a str or a foreign object: the loop
over it calls `.startswith` on whatever it yields, which the model does not follow).  `Part.InDomain` names exactly those
situations, per hand-bound rule that the part's class actually runs.
-/
namespace PM.Val
open PM

theorem pySortedOk_tv (v : PyVal) : Fails (pySortedOk v) TV := by
  unfold pySortedOk
  split
  · exact .ite (fun _ => .ok) fun _ => .error tv_type
  · exact .ok
  · exact .ok
  · exact .error tv_type

theorem hashable_tv (v : PyVal) : Fails (hashable v) TV := by
  unfold hashable
  split
  · exact .error tv_type
  · exact .error tv_type
  · exact .ok

theorem hashableElems_tv (v : PyVal) : Fails (hashableElems v) TV := by
  unfold hashableElems
  split
  · exact .ite (fun _ => .ok) fun _ => .error tv_type
  · exact .ok

theorem pyIntOk_tv (v : PyVal) : Fails (pyIntOk v) TV := by
  unfold pyIntOk
  split
  · exact .error tv_type
  · exact .ok

theorem verifyLabel_tv (v : PyVal) : Fails (verifyLabel v) TV := by
  unfold verifyLabel
  split
  · exact .ok
  · exact .ite (fun _ => .ok) fun _ => .error tv_value
  · exact .error tv_type

theorem pyContains_err (c x : PyVal) (e : Err) (h : pyContains c x = .error e) : e = .typeError ∨ isForeign c = true := by
  cases c with
  | other _ => exact Or.inr rfl
  | list _ => cases h
  | dict _ | str _ => cases x <;> cases h <;> exact Or.inl rfl
  | none | bool _ | int _ | float _ => cases h; exact Or.inl rfl

theorem allIn_tv (c : PyVal) (hc : isForeign c = false) (l : List PyVal) : Fails (allIn c l) TV := by
  fun_induction allIn c l with
  | case1 => exact .ok
  | case2 _ _ _ ih => exact ih
  | case3 => exact .error tv_value
  | case4 a _ e' he => exact .error ((pyContains_err c a _ he).elim Or.inl fun h1 => by rw [hc] at h1; cases h1)

theorem parentArch_tv (o : Obj) (hd : parentArchesKnown o = true) : Fails (ciVariantParentArch2 o) TV := by
  unfold ciVariantParentArch2
  unfold parentArchesKnown at hd
  refine .ite (fun _ => .ok) fun hn => ?_
  split
  · exact .error tv_type
  · exact allIn_tv _ (by simpa [hn] using hd) _

theorem alignedWith_tv (o : Obj) (u : Str) (hp : (pyFormat (parentAttr o c!"uid")).isSome = true)
    (hid : (o.get c!"id").isinstance .str = true) : Fails (alignedWith o u) TV := by
  unfold alignedWith
  obtain ⟨pu, hf⟩ := Option.isSome_iff_exists.mp hp
  -- `id` is a string, so both operands of `"%s-%s" %` can be formatted and the `Err.other` branch is not taken
  cases hi : o.get c!"id" with
  | str s =>
    have hfi : pyFormat (.str s) = some s := rfl
    rw [hf, hfi]
    exact .ite (fun _ => .ok) fun _ => .error tv_value
  | _ =>
    rw [hi] at hid
    cases hid

theorem ciUid_tv (o : Obj) (hd : parentUidKnown o = true) (hid : (o.get c!"id").isinstance .str = true) :
    Fails (ciVariantUid2 o) TV := by
  unfold ciVariantUid2
  unfold parentUidKnown at hd
  split
  · exact .ite (fun _ => .ite (fun _ => .ok) fun _ => .error tv_value) fun hn =>
      alignedWith_tv o _ (by simpa [hn] using hd) hid
  · exact .error tv_type

theorem tiUid_tv (o : Obj) (hd : parentUidKnown o = true) (hid : (o.get c!"id").isinstance .str = true) :
    Fails (tiVariantUid2 o) TV := by
  unfold tiVariantUid2
  unfold parentUidKnown at hd
  refine .ite (fun _ => .ok) fun hn => ?_
  split
  · exact alignedWith_tv o _ (by simpa [hn] using hd) hid
  · exact .error tv_value

theorem variantKeys_tv (o : Obj) : Fails (validateVariantKeys o) TV := by
  unfold validateVariantKeys
  split
  · exact .ite (fun _ => .error tv_value) fun _ => .ok
  · exact .ok

theorem discTimestamp_tv (o : Obj) : Fails (discTimestamp o) TV := by
  unfold discTimestamp
  exact .ite (fun _ => .error tv_value) fun _ => .ite (fun _ => .ok) fun _ => .error tv_type

theorem checksumPaths_tv (o : Obj) (hd : checksumsShape o = true) : Fails (tiChecksumPaths o) TV := by
  rw [tiChecksumPaths]
  rw [checksumsShape] at hd
  cases hv : o.get c!"checksums" with
  | dict kvs => exact .ite (fun _ => .error tv_value) fun _ => .ok
  | none | bool _ | int _ | float _ => exact .error tv_type
  | list _ | str _ | other _ => simp only [hv] at hd; cases hd

theorem pathsOk_tv (l : List (Str × PyVal)) : Fails (pathsOk l) TV := by
  fun_induction pathsOk l with
  | case1 => exact .ok
  | case2 => exact .error tv_value
  | case3 _ _ _ _ ih => exact ih
  | case4 => exact .error tv_type

theorem platsOk_tv (l : List (Str × PyVal)) (hd : tablesAreDicts l = true) : Fails (platsOk l) TV := by
  fun_induction tablesAreDicts l with
  | case1 => exact .ok
  | case2 _ kv _ ih =>
    rw [platsOk]
    split
    · exact ih hd
    · rename_i hp
      exact .error ((pathsOk_tv kv).elim hp)
  | case3 => cases hd

theorem imagePaths_tv (o : Obj) (hd : imagesShape o = true) : Fails (tiImagePaths2 o) TV := by
  unfold tiImagePaths2
  unfold imagesShape at hd
  split
  · rename_i plats hp
    simp only [hp] at hd
    exact platsOk_tv plats hd
  · exact .ok

theorem imagePlatforms_tv (o : Obj) : Fails (tiImagePlatforms o) TV := by
  unfold tiImagePlatforms
  split
  · exact .ite (fun _ => .ok) fun _ => .error tv_value
  · exact .ok

theorem customs2_tv (n : Str) (o : Obj) (hn : n ∈ Spec.customNames) (hd : nameDomain n o = true)
    (hid : (n = Spec.cCiUid ∨ n = Spec.cTiUid) → (o.get c!"id").isinstance .str = true) : Fails (customs2 n o) TV := by
  simp only [Spec.customNames, List.mem_cons, List.not_mem_nil, or_false] at hn
  -- one case per name, in the order of the `if` chain of `customs2`; at a literal name `customs2 n o` reduces to the body bound
  -- to it (the comparisons with the names before it fail by evaluation), so each `exact` is checked up to that unfolding
  rcases hn with rfl | rfl | rfl | rfl | rfl | rfl | rfl | rfl | rfl
  · exact verifyLabel_tv _
  · exact parentArch_tv o hd
  · exact ciUid_tv o hd (hid (Or.inl rfl))
  · exact variantKeys_tv o
  · exact discTimestamp_tv o
  · exact checksumPaths_tv o hd
  · exact imagePaths_tv o hd
  · exact imagePlatforms_tv o
  · exact tiUid_tv o hd (hid (Or.inr rfl))

theorem precededBy_mem {a b : Rule} (hab : a ≠ b) {rs pre post : List Rule} (h : precededBy a b rs = true)
    (hs : rs = pre ++ b :: post) : a ∈ pre := by
  fun_induction precededBy a b rs generalizing pre with
  | case1 => cases pre <;> cases hs
  | case2 rs =>                       -- the head is `a`
    cases pre with
    | nil => cases hs; exact absurd rfl hab
    | cons x pre' => cases hs; exact List.mem_cons_self
  | case3 rs _ => cases h             -- the head is `b`
  | case4 r rs _ hrb ih =>
    cases pre with
    | nil => cases hs; exact absurd rfl hrb
    | cons x pre' => cases hs; exact List.mem_cons_of_mem _ (ih h rfl)

/-- `validate()` of a part in the domain fails with TypeError or ValueError only.  Hypotheses on the generated rule lists
(discharged by `decide` in `Properties/C06.lean`): hand-bound rules occur bare and are the nine named ones; the uid rules are
preceded by `_assert_type("id", str)` (method order `_validate_id` < `_validate_uid`). -/
theorem validate2_tv
    (hbare : ∀ cls, ∀ r ∈ genRules cls, ∀ n ∈ Rule.customNamesIn r, r = .custom n ∧ n ∈ Spec.customNames)
    (hprec : ∀ cls, precededBy idRule (.custom Spec.cCiUid) (genRules cls) = true ∧ precededBy idRule (.custom Spec.cTiUid) (genRules cls) = true)
    (p : Part) (hd : p.InDomain = true) (e : Err) (h : (Step.validate p).run = .error e) : TV e := by
  obtain ⟨pre, r, post, hs, hpre, hr⟩ := runRules_first_failure customs2 p.obj (genRules p.cls) e h
  have hmem : r ∈ genRules p.cls := by rw [hs]; simp
  rcases (Rule.check_errclass customs2 p.obj r).elim hr with h1 | ⟨n, hn, hc⟩
  · exact h1
  · obtain ⟨hrn, hnames⟩ := hbare p.cls r hmem n hn
    have hdom : nameDomain n p.obj = true := by
      unfold Part.InDomain at hd
      exact List.all_eq_true.mp hd n (List.mem_flatMap.mpr ⟨r, hmem, hn⟩)
    refine (customs2_tv n p.obj hnames hdom ?_).elim hc
    -- the two uid bodies need `id` to be a string: `idRule` stands before them in the list (`hprec`) and has passed (`hpre`)
    intro hu
    have hidmem : idRule ∈ pre := by
      rcases hu with rfl | rfl
      · exact precededBy_mem (by decide) (hprec p.cls).1 (hrn ▸ hs)
      · exact precededBy_mem (by decide) (hprec p.cls).2 (hrn ▸ hs)
    have := hpre idRule hidmem
    simpa [idRule] using Rule.check_type_any this

end PM.Val
