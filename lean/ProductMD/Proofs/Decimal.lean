import ProductMD.Model.Nvra
/-!
Decimal rendering (`Str.natStr`, Python `"%s" % n` / `str(n)`) against the model of `int()` on a `\d+` capture
(`pyIntDigits`) and the generated `\d` class: `natStr n` is a non-empty string of ASCII digits, of at most `k`
characters when `n < 10^k`, without leading zero, whose value is `n`; the other way round, the value `int()` reads off a digit
string renders within `int()`'s digit limit again (`pyIntDigits_canon`: a value has no more digits than the string it was read from).
-/
namespace PM.Dec
open PM PM.Str

/-- ASCII digit characters, as `natStr` produces them -/
def IsDig (c : Char) : Prop := ∃ d, d < 10 ∧ c = digitChar d

theorem digitChar_facts : ∀ d, d < 10 →
    digitVal (digitChar d) = some d ∧ digitCls.mem (digitChar d) = true ∧ isAsciiDigit (digitChar d) = true
    ∧ (digitChar d).toNat = 48 + d := by decide

theorem digitChar_ne_zero : ∀ d, d < 10 → d ≠ 0 → digitChar d ≠ '0' := by decide

theorem IsDig.cls {c} (h : IsDig c) : digitCls.mem c = true := by
  obtain ⟨d, hd, rfl⟩ := h; exact (digitChar_facts d hd).2.1

theorem IsDig.ascii {c} (h : IsDig c) : isAsciiDigit c = true := by
  obtain ⟨d, hd, rfl⟩ := h; exact (digitChar_facts d hd).2.2.1

theorem IsDig.toNat {c} (h : IsDig c) : 48 ≤ c.toNat ∧ c.toNat ≤ 57 := by
  obtain ⟨d, hd, rfl⟩ := h
  have := (digitChar_facts d hd).2.2.2
  omega

theorem IsDig.val {c} (h : IsDig c) : digitVal c = some (c.toNat - 48) := by
  obtain ⟨d, hd, rfl⟩ := h
  have := digitChar_facts d hd
  rw [this.1, this.2.2.2]
  simp

theorem IsDig.ne {c x : Char} (h : IsDig c) (hx : x.toNat < 48 ∨ 57 < x.toNat) : c ≠ x := by
  intro e; subst e; have := h.toNat; omega

theorem digitsVal_append : ∀ (x y : Str) (a : Nat),
    digitsVal (x ++ y) a = (digitsVal x a).bind (digitsVal y) := by
  intro x
  induction x with
  | nil => intro y a; rfl
  | cons c cs ih =>
    intro y a
    simp only [List.cons_append, digitsVal]
    cases digitVal c with
    | none => rfl
    | some d => exact ih y _

theorem natDigitsAux_acc : ∀ (n fuel : Nat) (acc : Str), n < fuel →
    natDigitsAux fuel n acc = natDigitsAux (n + 1) n [] ++ acc := by
  intro n
  induction n using Nat.strongRecOn with
  | _ n ih =>
    intro fuel acc hf
    cases fuel with
    | zero => omega
    | succ fuel =>
      by_cases hn : n < 10
      · simp [natDigitsAux, hn]
      · have hlt : n / 10 < n := Nat.div_lt_self (by omega) (by omega)
        simp only [natDigitsAux, hn, if_false]
        rw [ih (n / 10) hlt fuel _ (by omega), ih (n / 10) hlt n [digitChar (n % 10)] hlt]
        simp

theorem natStr_rec (n : Nat) :
    natStr n = if n < 10 then [digitChar n] else natStr (n / 10) ++ [digitChar (n % 10)] := by
  by_cases hn : n < 10
  · simp [natStr, natDigitsAux, hn]
  · have hlt : n / 10 < n := Nat.div_lt_self (by omega) (by omega)
    simp only [hn, if_false]
    have h1 : natStr n = natDigitsAux n (n / 10) [digitChar (n % 10)] := by
      simp [natStr, natDigitsAux, hn]
    rw [h1, natDigitsAux_acc (n / 10) n _ hlt]
    rfl

theorem natStr_spec (n : Nat) : natStr n ≠ [] ∧ (∀ c ∈ natStr n, IsDig c)
    ∧ digitsVal (natStr n) 0 = some n ∧ (∀ k, 0 < k → n < 10 ^ k → (natStr n).length ≤ k)
    ∧ (n ≠ 0 → ∃ c t, natStr n = c :: t ∧ c ≠ '0') := by
  induction n using Nat.strongRecOn with
  | _ n ih =>
    rw [natStr_rec]
    by_cases hn : n < 10
    · simp only [hn, if_true]
      refine ⟨by simp, fun c hc => ⟨n, hn, by simpa using hc⟩, by simp [digitsVal, (digitChar_facts n hn).1], ?_,
        fun h0 => ⟨_, [], rfl, digitChar_ne_zero n hn h0⟩⟩
      intro k hk _; simp; omega
    · have hlt : n / 10 < n := Nat.div_lt_self (by omega) (by omega)
      have hm : n % 10 < 10 := Nat.mod_lt _ (by omega)
      obtain ⟨_, h2, h3, h4, h5⟩ := ih (n / 10) hlt
      simp only [hn, if_false]
      refine ⟨by simp, ?_, ?_, ?_, ?_⟩
      · intro c hc
        rcases List.mem_append.mp hc with hc | hc
        · exact h2 c hc
        · exact ⟨n % 10, hm, by simpa using hc⟩
      · rw [digitsVal_append, h3]
        simp only [Option.bind, digitsVal, (digitChar_facts _ hm).1]
        congr 1
        omega
      · intro k hk hnk
        cases k with
        | zero => omega
        | succ k =>
          have hk0 : 0 < k := by
            cases k with
            | zero => simp at hnk; omega
            | succ k => omega
          have : n / 10 < 10 ^ k := by
            rw [Nat.pow_succ] at hnk
            exact Nat.div_lt_of_lt_mul (by rw [Nat.mul_comm]; exact hnk)
          have := h4 k hk0 this
          simp; omega
      · intro _
        obtain ⟨c, t, e, hc⟩ := h5 (by omega)
        exact ⟨c, t ++ [digitChar (n % 10)], by rw [e]; rfl, hc⟩

theorem natStr_ne_nil (n : Nat) : natStr n ≠ [] := (natStr_spec n).1
theorem natStr_dig (n : Nat) : ∀ c ∈ natStr n, IsDig c := (natStr_spec n).2.1
theorem natStr_val (n : Nat) : digitsVal (natStr n) 0 = some n := (natStr_spec n).2.2.1
theorem natStr_len (n k : Nat) (hk : 0 < k) (h : n < 10 ^ k) : (natStr n).length ≤ k := (natStr_spec n).2.2.2.1 k hk h
theorem natStr_lead (n : Nat) (h0 : n ≠ 0) : ∃ c t, natStr n = c :: t ∧ c ≠ '0' := (natStr_spec n).2.2.2.2 h0

/-- `int(str(n)) == n` within the interpreter's digit limit -/
theorem pyIntDigits_natStr (n : Nat) (h : (natStr n).length ≤ intMaxStrDigits) : pyIntDigits (natStr n) = .ok n := by
  have hne := natStr_ne_nil n
  have hv := natStr_val n
  unfold pyIntDigits
  rw [List.isEmpty_eq_false_iff.mpr hne]
  simp only [Bool.false_eq_true, if_false]
  rw [if_neg (by omega), hv]

theorem pyIntDigits_natStr_limit (n : Nat) (h : intMaxStrDigits < (natStr n).length) :
    pyIntDigits (natStr n) = .error .valueError := by
  unfold pyIntDigits
  rw [List.isEmpty_eq_false_iff.mpr (natStr_ne_nil n)]
  simp only [Bool.false_eq_true, if_false]
  rw [if_pos h]

theorem digitVal_lt {c : Char} {d : Nat} (h : digitVal c = some d) : d < 10 := by
  unfold digitVal at h
  cases hf : Gen.digitRanges.find? (fun r => decide (r.1 ≤ c.toNat) && decide (c.toNat ≤ r.2)) with
  | none => rw [hf] at h; cases h
  | some r =>
    rw [hf] at h
    simp only [Option.map, Option.some.injEq] at h
    rw [← h]
    exact Nat.mod_lt _ (by decide)

theorem digitsVal_lt : ∀ (D : Str) (acc E : Nat), digitsVal D acc = some E → E < (acc + 1) * 10 ^ D.length := by
  intro D
  induction D with
  | nil => intro acc E h; simp [digitsVal] at h; subst h; simp
  | cons c cs ih =>
    intro acc E h
    simp only [digitsVal] at h
    cases hd : digitVal c with
    | none => rw [hd] at h; cases h
    | some d =>
      rw [hd] at h
      have hlt := digitVal_lt hd
      have := ih _ E h
      have h2 : (acc * 10 + d + 1) * 10 ^ cs.length ≤ ((acc + 1) * 10) * 10 ^ cs.length :=
        Nat.mul_le_mul_right _ (by omega)
      rw [List.length_cons, Nat.pow_succ, Nat.mul_comm (10 ^ cs.length) 10, ← Nat.mul_assoc]
      omega

theorem pyIntDigits_canon {D : Str} {E : Nat} (h : pyIntDigits D = .ok E) :
    (Str.natStr E).length ≤ intMaxStrDigits := by
  unfold pyIntDigits at h
  split at h
  · cases h
  · split at h
    · cases h
    · rename_i hne hlim
      cases hv : digitsVal D 0 with
      | none => rw [hv] at h; cases h
      | some n =>
        rw [hv] at h
        simp only [Except.ok.injEq] at h
        subst h
        have hlt := digitsVal_lt D 0 n hv
        have hpos : 0 < D.length := by
          cases D with
          | nil => simp at hne
          | cons _ _ => simp
        have := natStr_len n D.length hpos (by simpa using hlt)
        omega

end PM.Dec
