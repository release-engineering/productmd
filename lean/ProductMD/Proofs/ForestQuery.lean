import ProductMD.Proofs.ForestInv
import ProductMD.Proofs.SortBy
/-! `get_variants` and `__getitem__` on the variant forest (C11): sorting, filters, completeness, lookups; then that the UIDs
below a variant are pairwise distinct under `InvW`. -/
namespace PM.Forest

theorem insertByUid_eq (U : Nat → Attrs) (x : Nat) : ∀ l, insertByUid U x l = Ini.insertBy (fun v => (U v).uid) x l
  | [] => rfl
  | y :: ys => by
    simp only [insertByUid, Ini.insertBy, Str.lt, decide_eq_true_eq, insertByUid_eq U x ys]
    by_cases h : (U x).uid ≤ (U y).uid
    · rw [if_pos h, if_neg (List.not_lt.mpr h)]
    · rw [if_neg h, if_pos (List.not_le.mp h)]

theorem sortByUid_eq (U : Nat → Attrs) (l : List Nat) : sortByUid U l = Ini.sortBy (fun v => (U v).uid) l := by
  unfold sortByUid Ini.sortBy
  congr 1
  funext x l
  exact insertByUid_eq U x l

theorem sortByUid_perm (U : Nat → Attrs) (l : List Nat) : (sortByUid U l).Perm l := sortByUid_eq U l ▸ Ini.sortBy_perm _ l

theorem mem_sortByUid {U : Nat → Attrs} {l : List Nat} {x : Nat} : x ∈ sortByUid U l ↔ x ∈ l :=
  (sortByUid_perm U l).mem_iff

theorem sortByUid_sorted (U : Nat → Attrs) (l : List Nat) : (sortByUid U l).Pairwise (KeyLe fun v => (U v).uid) :=
  sortByUid_eq U l ▸ Ini.sortBy_sorted _ l

theorem gvKids_cons_ok {one : Nat → Except Err (List Nat)} {kv : Str × Nat} {r : List (Str × Nat)} {body : List Nat}
    (h : gvKids one (kv :: r) = .ok body) : ∃ a b, one kv.2 = .ok a ∧ gvKids one r = .ok b ∧ body = a ++ b := by
  rw [gvKids] at h
  cases h1 : one kv.2 with
  | error e => simp [h1] at h
  | ok a =>
    cases h2 : gvKids one r with
    | error e => simp [h1, h2] at h
    | ok b => exact ⟨a, b, rfl, rfl, by simpa [h1, h2] using h.symm⟩

theorem gvKids_ok {one : Nat → Except Err (List Nat)} : ∀ {l : List (Str × Nat)} {body : List Nat},
    gvKids one l = .ok body →
    (∀ kv ∈ l, ∃ a, one kv.2 = .ok a) ∧ (∀ x, x ∈ body ↔ ∃ kv ∈ l, ∃ a, one kv.2 = .ok a ∧ x ∈ a)
  | [], body, h => by
    cases h
    simp
  | kv :: r, body, h => by
    obtain ⟨a, b, h1, h2, rfl⟩ := gvKids_cons_ok h
    obtain ⟨ihA, ihB⟩ := gvKids_ok h2
    refine ⟨List.forall_mem_cons.mpr ⟨⟨a, h1⟩, ihA⟩, fun x => ?_⟩
    rw [List.mem_append, ihB x]
    simp [h1]

theorem Desc.climb {s : State} {P : Nat → Prop} (hedge : ∀ {w k y}, (k, y) ∈ s.kids w → P y → P w) {w x : Nat}
    (hd : Desc s (some w) x) (hx : P x) : P w := by
  generalize hc : some w = c at hd
  induction hd generalizing w with
  | kid hm => subst hc; exact hedge hm hx
  | deep hm _ ih => subst hc; exact hedge hm (ih hx rfl)

theorem Desc.last {s : State} {c : Cont} {x : Nat} (h : Desc s c x) :
    ∃ d k, (k, x) ∈ s.kidsOf d ∧ (d = c ∨ ∃ w, d = some w ∧ Desc s c w) := by
  induction h with
  | kid hm => exact ⟨_, _, hm, Or.inl rfl⟩
  | @deep c k w v hm hd ih =>
    obtain ⟨d, k', hm', hor⟩ := ih
    refine ⟨d, k', hm', Or.inr ?_⟩
    rcases hor with rfl | ⟨w', rfl, hd'⟩
    · exact ⟨w, rfl, Desc.kid hm⟩
    · exact ⟨w', rfl, Desc.deep hm hd'⟩

/-- under `Inv` an object has one position: `w` is the container the descent to `v` ends in -/
theorem Desc.container_top {U : Nat → Attrs} {s : State} (hI : Inv U s) {w : Nat} {k : Str} {v : Nat} (hm : (k, v) ∈ s.kids w)
    (htop : Desc s none v) : Desc s none w := by
  obtain ⟨d, k', hm', hor⟩ := htop.last
  have hd : d = some w := (hI.parent d k' v hm').symm.trans (hI.parent (some w) k v hm)
  rcases hor with rfl | ⟨w', rfl, hd'⟩
  · cases hd
  · cases hd; exact hd'

theorem Desc.up {U : Nat → Attrs} {s : State} (hI : Inv U s) {w x : Nat} (hd : Desc s (some w) x) (htop : Desc s none x) :
    Desc s none w :=
  hd.climb (Desc.container_top hI) htop

theorem selfT_not_type : selfT ∉ Gen.VARIANT_TYPES := by decide

theorem not_mem_filter_self (types : List Str) : selfT ∉ types.filter (· ≠ selfT) := by
  simp

/-- what one child contributes to the loop of `get_variants` -/
def gvOne (U : Nat → Attrs) (s : State) (f : Nat) (arch : Option Str) (types : List Str) (recursive : Bool) (v : Nat) :
    Except Err (List Nat) :=
  if passes U arch types v then
    if recursive then
      match getVariants U s f (some v) arch (types.filter (· ≠ selfT)) true with
      | .ok sub => .ok (v :: sub)
      | .error e => .error e
    else .ok [v]
  else .ok []

theorem getVariants_succ (U : Nat → Attrs) (s : State) (f : Nat) (c : Cont) (arch : Option Str) (types : List Str)
    (recursive : Bool) :
    getVariants U s (f + 1) c arch types recursive =
      match gvKids (gvOne U s f arch types recursive) (s.kidsOf c) with
      | .error e => .error e
      | .ok body =>
        if types.contains selfT then
          match c with
          | none => .error .attributeError
          | some i => .ok (sortByUid U (i :: body))
        else .ok (sortByUid U body) := rfl

theorem getVariants_ok {U : Nat → Attrs} {s : State} {f : Nat} {c : Cont} {arch : Option Str} {types : List Str}
    {recursive : Bool} {res : List Nat} (h : getVariants U s (f + 1) c arch types recursive = .ok res) :
    ∃ body, gvKids (gvOne U s f arch types recursive) (s.kidsOf c) = .ok body ∧
      ((types.contains selfT = true ∧ ∃ i, c = some i ∧ res = sortByUid U (i :: body)) ∨
       (types.contains selfT = false ∧ res = sortByUid U body)) := by
  rw [getVariants_succ] at h
  cases hb : gvKids (gvOne U s f arch types recursive) (s.kidsOf c) with
  | error e => rw [hb] at h; cases h
  | ok body =>
    rw [hb] at h
    refine ⟨body, rfl, ?_⟩
    cases hs : types.contains selfT with
    | false => rw [hs] at h; cases h; exact Or.inr ⟨rfl, rfl⟩
    | true =>
      rw [hs] at h
      cases c with
      | none => cases h
      | some i => cases h; exact Or.inl ⟨rfl, i, rfl, rfl⟩

theorem gvOne_ok {U : Nat → Attrs} {s : State} {f : Nat} {arch : Option Str} {types : List Str} {recursive : Bool}
    {v : Nat} {a : List Nat} (h : gvOne U s f arch types recursive v = .ok a) :
    (passes U arch types v = false ∧ a = []) ∨
    (passes U arch types v = true ∧ recursive = false ∧ a = [v]) ∨
    (passes U arch types v = true ∧ recursive = true ∧
      ∃ sub, getVariants U s f (some v) arch (types.filter (· ≠ selfT)) true = .ok sub ∧ a = v :: sub) := by
  rw [gvOne] at h
  cases hp : passes U arch types v with
  | false => rw [hp] at h; cases h; exact Or.inl ⟨rfl, rfl⟩
  | true =>
    rw [hp] at h
    cases recursive with
    | false => cases h; exact Or.inr (Or.inl ⟨rfl, rfl, rfl⟩)
    | true =>
      cases hr : getVariants U s f (some v) arch (types.filter (· ≠ selfT)) true with
      | error e => rw [hr] at h; cases h
      | ok sub => rw [hr] at h; cases h; exact Or.inr (Or.inr ⟨rfl, rfl, sub, rfl, rfl⟩)

theorem passes_iff {U : Nat → Attrs} {arch : Option Str} {types : List Str} {x : Nat} : passes U arch types x = true ↔
    (types = [] ∨ (U x).type ∈ types) ∧
    (arch = none ∨ arch = some [] ∨ arch = some srcA ∨ ∃ a, arch = some a ∧ a ∈ (U x).arches) := by
  cases arch <;> simp [passes, or_comm, or_left_comm]

theorem passes_of_filter {U : Nat → Attrs} {arch : Option Str} {types : List Str} {x : Nat}
    (h : passes U arch (types.filter (· ≠ selfT)) x = true)
    (hne : types = [] ∨ types.filter (· ≠ selfT) ≠ []) : passes U arch types x = true := by
  rw [passes_iff] at h ⊢
  refine ⟨?_, h.2⟩
  rcases h.1 with h1 | h1
  · exact Or.inl (hne.resolve_right fun h2 => h2 h1)
  · exact Or.inr (List.mem_filter.mp h1).1

/-- an arch filter lets a variant through only if it lets its parent through (`arches ⊆ parent's`) -/
theorem passes_up_edge {U : Nat → Attrs} {s : State} (hI : InvW U s) {arch : Option Str} {w : Nat} {k : Str} {y : Nat}
    (hm : (k, y) ∈ s.kids w) (hp : passes U arch [] y = true) : passes U arch [] w = true := by
  rw [passes_iff] at hp ⊢
  refine ⟨Or.inl rfl, ?_⟩
  rcases hp.2 with h | h | h | ⟨a, e, ha⟩
  · exact Or.inl h
  · exact Or.inr (Or.inl h)
  · exact Or.inr (Or.inr (Or.inl h))
  · exact Or.inr (Or.inr (Or.inr ⟨a, e, (hI.edge w k y hm).arches a ha⟩))

/-- what `get_variants` selects below container `c`: a child that passes the filters, or – when `recursive` – what is selected
below such a child with `'self'` struck from the types -/
inductive Sel (U : Nat → Attrs) (s : State) (arch : Option Str) : List Str → Bool → Cont → Nat → Prop
  | kid {types : List Str} {r : Bool} {c : Cont} {k : Str} {v : Nat} :
      (k, v) ∈ s.kidsOf c → passes U arch types v = true → Sel U s arch types r c v
  | deep {types : List Str} {c : Cont} {k : Str} {w x : Nat} :
      (k, w) ∈ s.kidsOf c → passes U arch types w = true → Sel U s arch (types.filter (· ≠ selfT)) true (some w) x →
      Sel U s arch types true c x

theorem mem_getVariants {U : Nat → Attrs} {s : State} {arch : Option Str} : ∀ (f : Nat) (c : Cont) (types : List Str)
    (r : Bool) (res : List Nat), getVariants U s f c arch types r = .ok res →
    ∀ x, x ∈ res ↔ (c = some x ∧ selfT ∈ types) ∨ Sel U s arch types r c x := by
  intro f
  induction f with
  | zero => intro c types r res h; cases h
  | succ f ih =>
    intro c types r res h x
    obtain ⟨body, hb, hres⟩ := getVariants_ok h
    have hbody : x ∈ body ↔ Sel U s arch types r c x := by
      rw [(gvKids_ok hb).2 x]
      constructor
      · rintro ⟨kv, hkv, a, ha, hxa⟩
        rcases gvOne_ok ha with ⟨-, rfl⟩ | ⟨hp, -, rfl⟩ | ⟨hp, rfl, sub, hsub, rfl⟩
        · cases hxa
        · obtain rfl := List.mem_singleton.mp hxa
          exact .kid hkv hp
        · rcases List.mem_cons.mp hxa with rfl | hxs
          · exact .kid hkv hp
          · exact .deep hkv hp (((ih _ _ _ _ hsub x).mp hxs).resolve_left fun hs => not_mem_filter_self types hs.2)
      · intro hsel
        have hin : ∀ {k w}, (k, w) ∈ s.kidsOf c → passes U arch types w = true →
            (x = w ∨ (r = true ∧ Sel U s arch (types.filter (· ≠ selfT)) true (some w) x)) →
            ∃ kv ∈ s.kidsOf c, ∃ a, gvOne U s f arch types r kv.2 = .ok a ∧ x ∈ a := by
          intro k w hkv hp hx
          obtain ⟨a, ha⟩ := (gvKids_ok hb).1 _ hkv
          refine ⟨_, hkv, a, ha, ?_⟩
          rcases gvOne_ok ha with ⟨h0, -⟩ | ⟨-, rfl, rfl⟩ | ⟨-, rfl, sub, hsub, rfl⟩
          · rw [hp] at h0; cases h0
          · exact List.mem_singleton.mpr (hx.resolve_right fun h => nomatch h.1)
          · exact List.mem_cons.mpr (hx.imp_right fun h => (ih _ _ _ _ hsub x).mpr (.inr h.2))
        cases hsel with
        | kid hkv hp => exact hin hkv hp (.inl rfl)
        | deep hkv hp hd => exact hin hkv hp (.inr ⟨rfl, hd⟩)
    rcases hres with ⟨hs, i, rfl, rfl⟩ | ⟨hs, rfl⟩
    · rw [mem_sortByUid, List.mem_cons, hbody]; simp [List.contains_iff_mem.mp hs, eq_comm]
    · rw [mem_sortByUid, hbody]; simp [show selfT ∉ types by simpa using hs]

/-- what is selected lies below the container and passes the filters of the CALL (a child's type is never `'self'`, so the
type filter of the levels below is the call's) -/
theorem Sel.sound {U : Nat → Attrs} {s : State} (hI : InvW U s) {arch : Option Str} {types : List Str} {r : Bool} {c : Cont}
    {x : Nat} (h : Sel U s arch types r c x) :
    Desc s c x ∧ passes U arch types x = true ∧ (r = false → ∃ k, (k, x) ∈ s.kidsOf c) := by
  induction h with
  | kid hkv hp => exact ⟨.kid hkv, hp, fun _ => ⟨_, hkv⟩⟩
  | @deep types c k w x hkv hp _ ih =>
    refine ⟨.deep hkv ih.1, passes_of_filter ih.2.1 ?_, nofun⟩
    refine (passes_iff.mp hp).1.imp_right fun h1 => List.ne_nil_of_mem (List.mem_filter.mpr ⟨h1, ?_⟩)
    exact decide_eq_true fun e => selfT_not_type (e ▸ (hI.fields c k w hkv).type_ok)

theorem Sel.of_desc {U : Nat → Attrs} {s : State} (hI : InvW U s) {arch : Option Str} {c : Cont} {x : Nat}
    (hp : passes U arch [] x = true) (hd : Desc s c x) : Sel U s arch [] true c x := by
  induction hd with
  | kid hkv => exact .kid hkv hp
  | deep hkv hd ih => exact .deep hkv (hd.climb (passes_up_edge hI) hp) (ih hp)

theorem contains_dash (a b : Str) : (a ++ '-' :: b).contains '-' = true := by simp

theorem getitemF_key {U : Nat → Attrs} {s : State} {f : Nat} {c : Cont} {k : Str} {v : Nat}
    (hn : ((s.kidsOf c).map (·.1)).Nodup) (hm : (k, v) ∈ s.kidsOf c) : getitemF U s (f + 1) c k = .ok v := by
  rw [getitemF, dget_of_mem hn hm]
  simp

theorem getitemF_desc {U : Nat → Attrs} {s : State} : ∀ {f : Nat} {c : Cont} {name : Str} {x : Nat},
    getitemF U s f c name = .ok x → Desc s c x
  | 0, _, _, _, h => by cases h
  | f + 1, c, name, x, h => by
    rw [getitemF] at h
    split at h
    · split at h
      · next kv hfind =>
        cases h
        exact Desc.kid (k := kv.1) (List.mem_of_find?_eq_some hfind)
      · split at h
        · split at h
          · cases h
          · next hh hhead => exact Desc.deep (dget_mem hhead) (getitemF_desc h)
        · cases h
    · split at h
      · next v hv => cases h; exact Desc.kid (dget_mem hv)
      · cases h

/-- `v` is reached from variant `a` along the relative dashed path `r` (ids of the variants below `a`, joined by dashes):
`Desc s (some a) v` carrying the name that `__getitem__` resolves to `v` -/
inductive Path (U : Nat → Attrs) (s : State) : Nat → Str → Nat → Prop
  | kid {a : Nat} {k : Str} {v : Nat} : (k, v) ∈ s.kids a → Path U s a (U v).id v
  | deep {a : Nat} {k : Str} {w : Nat} {r : Str} {v : Nat} :
      (k, w) ∈ s.kids a → Path U s w r v → Path U s a ((U w).id ++ '-' :: r) v

theorem Path.uid {U : Nat → Attrs} {s : State} (hI : InvW U s) {a : Nat} {r : Str} {v : Nat} (hp : Path U s a r v) :
    (U v).uid = (U a).uid ++ '-' :: r := by
  induction hp with
  | kid hm => exact (hI.edge _ _ _ hm).uid
  | deep hm _ ih => rw [ih, (hI.edge _ _ _ hm).uid]; simp

theorem Path.desc {U : Nat → Attrs} {s : State} {a : Nat} {r : Str} {v : Nat} (hp : Path U s a r v) :
    Desc s (some a) v := by
  induction hp with
  | kid hm => exact Desc.kid hm
  | deep hm _ ih => exact Desc.deep hm ih

theorem Desc.path {U : Nat → Attrs} {s : State} {a v : Nat} (hd : Desc s (some a) v) : ∃ r, Path U s a r v := by
  generalize hc : some a = c at hd
  induction hd generalizing a with
  | kid hm => subst hc; exact ⟨_, Path.kid hm⟩
  | deep hm _ ih => subst hc; obtain ⟨r, hr⟩ := ih rfl; exact ⟨_, Path.deep hm hr⟩

theorem getitemF_path {U : Nat → Attrs} {s : State} (hI : InvW U s) {a : Nat} {r : Str} {v : Nat}
    (hp : Path U s a r v) : NoShadow U s v → ∀ f, r.length < f → getitemF U s f (some a) r = .ok v := by
  induction hp with
  | kid hm =>
    intro _ f hf
    cases f with
    | zero => omega
    | succ f =>
      have hk := (hI.edge _ _ _ hm).key
      subst hk
      exact getitemF_key (hI.keys (some _)) hm
  | @deep a k w r v hm hp' ih =>
    intro hns f hf
    cases f with
    | zero => omega
    | succ f =>
      have hw := hI.fields (some a) k w hm
      have huidv : (U v).uid = (U a).uid ++ '-' :: ((U w).id ++ '-' :: r) := (Path.deep hm hp').uid hI
      rw [getitemF]
      -- the dashed name is not a key: keys are ids
      have hnk : dget ((U w).id ++ '-' :: r) (s.kidsOf (some a)) = none := by
        apply dget_eq_none_iff.mpr
        intro hmem
        obtain ⟨kv, hkv, hkk⟩ := List.mem_map.mp hmem
        have h1 := (hI.edge a kv.1 kv.2 hkv).key
        have h2 := (hI.fields (some a) kv.1 kv.2 hkv).id_nodash
        apply h2
        rw [← h1, hkk]; simp
      -- the scan over the children's UIDs finds nothing: `NoShadow`
      have hscan : (s.kidsOf (some a)).find? (fun kv => (U kv.2).uid = (U w).id ++ '-' :: r) = none := by
        apply List.find?_eq_none.mpr
        intro kv hkv
        have := hns a (Path.deep hm hp').desc kv hkv
        rw [huidv] at this
        simp only [decide_eq_true_eq]
        intro e; apply this; rw [e]
      have hdw : dget (U w).id (s.kidsOf (some a)) = some w := by
        have hk := (hI.edge _ _ _ hm).key
        subst hk
        exact dget_of_mem (hI.keys (some a)) hm
      simp only [hnk, Option.isNone_none, contains_dash, Bool.and_self, if_true, hscan,
        split1_append_cons _ _ _ hw.id_nodash, hdw]
      apply ih hns
      simp at hf; omega

theorem key_eq_uid_of_dashless {a : Attrs} {k : Str} (halign : Str.removeChar '-' a.uid = a.id)
    (hkey : k = a.id ∨ k = a.uid) (hnd : '-' ∉ a.uid) : k = a.uid := by
  rcases hkey with h | h
  · rw [h, ← halign, removeChar_id hnd]
  · exact h

/-- `ci[uid]` from the top finds a variant `v` at or below the top-level variant `t`.  The proof follows `__getitem__`: the UID
is a key of the top-level dict, or the scan over the top-level UIDs finds it, or the name is split at its first dash and the rest
is walked down along `Path`.  Hypotheses: `hkey` excludes F29 (a top-level key that is neither id nor UID), `hdist` F14 (another
top-level variant with `v`'s UID), `hns` F27 (a sibling shadowing the path); `halign` is the top-level branch of `_validate_uid`;
`hchild` leaves out the children of a dashed top-level UID, where the split at the first dash cuts the UID of `t` itself. -/
theorem getitem_top {U : Nat → Attrs} {s : State} (hI : InvW U s)
    (hkey : ∀ k t, (k, t) ∈ s.top → k = (U t).id ∨ k = (U t).uid)
    {kt : Str} {t v : Nat} (ht : (kt, t) ∈ s.top) (halign : Str.removeChar '-' (U t).uid = (U t).id)
    (hpath : v = t ∨ ∃ r, Path U s t r v)
    (hchild : '-' ∈ (U t).uid → s.kids t = [])
    (hdist : ∀ k' t', (k', t') ∈ s.top → (U t').uid = (U v).uid → t' = v)
    (hns : NoShadow U s v) : getitem U s none (U v).uid = .ok v := by
  unfold getitem
  rw [getitemF]
  have hkeys := hI.keys none
  have hscan_some : ∀ kv, (s.kidsOf none).find? (fun kv => (U kv.2).uid = (U v).uid) = some kv → kv.2 = v := by
    intro kv hf
    have h1 := List.find?_some hf
    have h2 := List.mem_of_find?_eq_some hf
    exact hdist kv.1 kv.2 h2 (by simpa using h1)
  cases hd : dget (U v).uid (s.kidsOf none) with
  | some t' =>
    simp only [Option.isNone_some, Bool.false_and, Bool.false_eq_true, if_false]
    have hm' : ((U v).uid, t') ∈ s.top := dget_mem hd
    congr 1
    rcases hkey _ _ hm' with hk | hk
    · -- the name is the (dashless) id of t'
      have hnd : '-' ∉ (U v).uid := by rw [hk]; exact (hI.fields none _ _ hm').id_nodash
      rcases hpath with rfl | ⟨r, hr⟩
      · obtain rfl := key_eq_uid_of_dashless halign (hkey _ _ ht) hnd
        have := dget_of_mem hkeys ht
        rw [hd] at this; exact Option.some.inj this
      · exfalso; apply hnd; rw [hr.uid hI]; simp
    · exact hdist _ _ hm' hk.symm
  | none =>
    have hdash : (U v).uid.contains '-' = true := by
      rcases hpath with rfl | ⟨r, hr⟩
      · -- the UID is not a key, so by `key_eq_uid_of_dashless` it is dashed
        have hkt : kt ≠ (U v).uid := by
          intro e; subst e
          have := dget_of_mem hkeys ht
          rw [hd] at this; cases this
        simp only [List.contains_iff_mem]
        exact Classical.byContradiction fun hnd => hkt (key_eq_uid_of_dashless halign (hkey _ _ ht) hnd)
      · rw [hr.uid hI]; exact contains_dash _ _
    simp only [Option.isNone_none, hdash, Bool.and_self, if_true]
    cases hf : (s.kidsOf none).find? (fun kv => (U kv.2).uid = (U v).uid) with
    | some kv => simp only; rw [hscan_some kv hf]
    | none =>
      simp only
      rcases hpath with rfl | ⟨r, hr⟩
      · exfalso
        have := List.find?_eq_none.mp hf (kt, v) ht
        simp at this
      · have hkids : s.kids t ≠ [] := by
          cases hr with
          | kid hm => intro e; rw [e] at hm; simp at hm
          | deep hm _ => intro e; rw [e] at hm; simp at hm
        have hnd : '-' ∉ (U t).uid := fun h => hkids (hchild h)
        obtain rfl := key_eq_uid_of_dashless halign (hkey _ _ ht) hnd
        rw [hr.uid hI, split1_append_cons _ _ _ hnd]
        simp only [dget_of_mem hkeys ht]
        apply getitemF_path hI hr hns
        simp; omega

/-- what may follow an id inside a UID: nothing, or a dash and the rest -/
abbrev Tail (t : Str) : Prop := t = [] ∨ ∃ r, t = '-' :: r

theorem takeWhile_dashless {a t : Str} (ha : '-' ∉ a) (ht : Tail t) : (a ++ t).takeWhile (· ≠ '-') = a := by
  rw [List.takeWhile_append_of_pos (p := (· ≠ '-')) fun c hc => decide_eq_true fun (e : c = '-') => ha (e ▸ hc)]
  rcases ht with rfl | ⟨r, rfl⟩ <;> simp

theorem dashless_cancel (a b t1 t2 : Str) (ha : '-' ∉ a) (hb : '-' ∉ b) (h1 : Tail t1) (h2 : Tail t2)
    (he : a ++ t1 = b ++ t2) : a = b := by
  rw [← takeWhile_dashless ha h1, he, takeWhile_dashless hb h2]

theorem ext_of_below {U : Nat → Attrs} {s : State} (hI : InvW U s) {w x : Nat} (h : x = w ∨ Desc s (some w) x) :
    ∃ t, Tail t ∧ (U x).uid = (U w).uid ++ t := by
  rcases h with rfl | hd
  · exact ⟨[], Or.inl rfl, by simp⟩
  · obtain ⟨r, hr⟩ := hd.path (U := U)
    exact ⟨'-' :: r, Or.inr ⟨r, rfl⟩, hr.uid hI⟩

theorem siblings_apart {U : Nat → Attrs} {s : State} (hI : InvW U s) {p : Nat} {kv kv' : Str × Nat}
    (h1 : kv ∈ s.kids p) (h2 : kv' ∈ s.kids p) (hne : kv.1 ≠ kv'.1) {x y : Str}
    (hx : ∃ t, Tail t ∧ x = (U kv.2).uid ++ t) (hy : ∃ t, Tail t ∧ y = (U kv'.2).uid ++ t) : x ≠ y := by
  obtain ⟨t1, ht1, rfl⟩ := hx
  obtain ⟨t2, ht2, rfl⟩ := hy
  have e1 := hI.edge p kv.1 kv.2 h1
  have e2 := hI.edge p kv'.1 kv'.2 h2
  have f1 := hI.fields (some p) kv.1 kv.2 h1
  have f2 := hI.fields (some p) kv'.1 kv'.2 h2
  intro he
  rw [e1.uid, e2.uid] at he
  simp only [List.append_assoc, List.cons_append, List.append_cancel_left_eq, List.cons.injEq, true_and] at he
  have := dashless_cancel _ _ t1 t2 f1.id_nodash f2.id_nodash ht1 ht2 he
  apply hne; rw [e1.key, e2.key, this]

/-- `R kv x`: what entry `kv` may contribute; contributions of entries with different keys share no `g`-value -/
theorem gvKids_nodup {β : Type} {one : Nat → Except Err (List Nat)} (g : Nat → β) (R : Str × Nat → Nat → Prop) :
    ∀ {l : List (Str × Nat)} {body : List Nat}, gvKids one l = .ok body → (l.map (·.1)).Nodup →
    (∀ kv ∈ l, ∀ a, one kv.2 = .ok a → (a.map g).Nodup ∧ ∀ x ∈ a, R kv x) →
    (∀ kv ∈ l, ∀ kv' ∈ l, kv.1 ≠ kv'.1 → ∀ x y, R kv x → R kv' y → g x ≠ g y) → (body.map g).Nodup
  | [], body, h, _, _, _ => by cases h; exact List.nodup_nil
  | kv :: r, body, h, hnd, hone, hapart => by
    obtain ⟨a, b, ha, hb, rfl⟩ := gvKids_cons_ok h
    obtain ⟨hk, hnd⟩ := List.nodup_cons.mp hnd
    obtain ⟨hna, hRa⟩ := hone kv List.mem_cons_self a ha
    have hnb := gvKids_nodup g R hb hnd (fun kv' h' => hone kv' (List.mem_cons_of_mem _ h'))
      (fun kv' h' kv'' h'' => hapart kv' (List.mem_cons_of_mem _ h') kv'' (List.mem_cons_of_mem _ h''))
    rw [List.map_append]
    refine List.nodup_append.mpr ⟨hna, hnb, ?_⟩
    intro ux hux uy huy
    obtain ⟨x, hx, rfl⟩ := List.mem_map.mp hux
    obtain ⟨y, hy, rfl⟩ := List.mem_map.mp huy
    obtain ⟨kv', hkv', a', ha', hya'⟩ := ((gvKids_ok hb).2 y).mp hy
    have hne : kv.1 ≠ kv'.1 := fun e => hk (List.mem_map.mpr ⟨kv', hkv', e.symm⟩)
    exact hapart kv List.mem_cons_self kv' (List.mem_cons_of_mem _ hkv') hne x y (hRa x hx)
      ((hone kv' (List.mem_cons_of_mem _ hkv') a' ha').2 y hya')

theorem gvOne_unique {U : Nat → Attrs} {s : State} (hI : InvW U s) {f : Nat} {arch : Option Str} {types : List Str}
    {recursive : Bool} {v : Nat} {a : List Nat} (ha : gvOne U s f arch types recursive v = .ok a)
    (hsub : ∀ sub, getVariants U s f (some v) arch (types.filter (· ≠ selfT)) true = .ok sub → (sub.map fun x => (U x).uid).Nodup) :
    (a.map fun x => (U x).uid).Nodup ∧ ∀ x ∈ a, x = v ∨ Desc s (some v) x := by
  rcases gvOne_ok ha with ⟨-, rfl⟩ | ⟨-, -, rfl⟩ | ⟨-, -, sub, hs, rfl⟩
  · exact ⟨List.nodup_nil, nofun⟩
  · exact ⟨List.pairwise_singleton _ _, fun x hx => Or.inl (List.mem_singleton.mp hx)⟩
  · have hbelow : ∀ x ∈ sub, Desc s (some v) x := by
      intro x hx
      exact ((((mem_getVariants f _ _ true sub hs x).mp hx).resolve_left fun h => not_mem_filter_self types h.2).sound hI).1
    refine ⟨List.nodup_cons.mpr ⟨?_, hsub sub hs⟩, fun x hx => (List.mem_cons.mp hx).imp_right (hbelow x)⟩
    -- the UIDs below `v` are longer than its own
    intro hm
    obtain ⟨x, hx, he⟩ := List.mem_map.mp hm
    obtain ⟨r, hr⟩ := (hbelow x hx).path (U := U)
    rw [hr.uid hI] at he
    simpa using congrArg List.length he

/-- one level of `get_variants`; `hapart` is `siblings_apart` below a variant and the hypothesis `TopApart` at the top -/
theorem gv_unique_level {U : Nat → Attrs} {s : State} (hI : InvW U s) {f : Nat} {c : Cont} {arch : Option Str} {types : List Str}
    {recursive : Bool} {res : List Nat} (h : getVariants U s (f + 1) c arch types recursive = .ok res)
    (hsub : ∀ v sub, getVariants U s f (some v) arch (types.filter (· ≠ selfT)) true = .ok sub →
      (sub.map fun x => (U x).uid).Nodup)
    (hapart : ∀ kv ∈ s.kidsOf c, ∀ kv' ∈ s.kidsOf c, kv.1 ≠ kv'.1 → ∀ x y, (x = kv.2 ∨ Desc s (some kv.2) x) →
      (y = kv'.2 ∨ Desc s (some kv'.2) y) → (U x).uid ≠ (U y).uid) :
    (res.map fun x => (U x).uid).Nodup := by
  obtain ⟨body, hb, hres⟩ := getVariants_ok h
  have hone : ∀ kv ∈ s.kidsOf c, ∀ a, gvOne U s f arch types recursive kv.2 = .ok a →
      (a.map fun x => (U x).uid).Nodup ∧ ∀ x ∈ a, x = kv.2 ∨ Desc s (some kv.2) x :=
    fun kv _ a ha => gvOne_unique hI ha (hsub kv.2)
  have hbody := gvKids_nodup (fun x => (U x).uid) (fun kv x => x = kv.2 ∨ Desc s (some kv.2) x) hb (hI.keys c) hone hapart
  rcases hres with ⟨-, i, rfl, rfl⟩ | ⟨-, rfl⟩
  · refine ((sortByUid_perm U _).map _).nodup_iff.mpr (List.nodup_cons.mpr ⟨?_, hbody⟩)
    -- the receiver's UID is shorter than any below it
    intro hm
    obtain ⟨x, hx, he⟩ := List.mem_map.mp hm
    obtain ⟨kv, hkv, a, ha, hxa⟩ := ((gvKids_ok hb).2 x).mp hx
    obtain ⟨t, -, ht⟩ := ext_of_below hI ((hone kv hkv a ha).2 x hxa)
    rw [ht, (hI.edge i kv.1 kv.2 hkv).uid] at he
    simpa using congrArg List.length he
  · exact ((sortByUid_perm U _).map _).nodup_iff.mpr hbody

/-- below a variant no two variants share a UID (`siblings_apart`) -/
theorem gv_unique {U : Nat → Attrs} {s : State} (hI : InvW U s) : ∀ (f : Nat) (p : Nat) (arch : Option Str)
    (types : List Str) (recursive : Bool) (res : List Nat),
    getVariants U s f (some p) arch types recursive = .ok res → (res.map fun x => (U x).uid).Nodup
  | 0, _, _, _, _, _, h => by cases h
  | f + 1, p, arch, types, recursive, res, h =>
    gv_unique_level hI h (fun v sub => gv_unique hI f v arch _ true sub)
      fun kv hkv kv' hkv' hne _ _ hx hy => siblings_apart hI hkv hkv' hne (ext_of_below hI hx) (ext_of_below hI hy)

theorem gv_unique_top {U : Nat → Attrs} {s : State} (hI : InvW U s) (hsep : TopApart U s) (f : Nat)
    (arch : Option Str) (types : List Str) (recursive : Bool) (res : List Nat)
    (h : getVariants U s f none arch types recursive = .ok res) : (res.map fun x => (U x).uid).Nodup := by
  cases f with
  | zero => cases h
  | succ f => exact gv_unique_level hI h (fun v sub => gv_unique hI f v arch _ true sub) hsep

theorem topApart_of_dashless {U : Nat → Attrs} {s : State} (hI : Inv U s)
    (hnd : ∀ kv ∈ s.top, '-' ∉ (U kv.2).uid) : TopApart U s := by
  intro kv hkv kv' hkv' hne x y hx hy
  have key_uid : ∀ kv ∈ s.top, kv.1 = (U kv.2).uid := fun kv hkv =>
    key_eq_uid_of_dashless (hI.topAligned kv.1 kv.2 hkv) (hI.topKey kv.1 kv.2 hkv) (hnd kv hkv)
  obtain ⟨t1, ht1, e1⟩ := ext_of_below hI.weak hx
  obtain ⟨t2, ht2, e2⟩ := ext_of_below hI.weak hy
  intro he
  rw [e1, e2] at he
  have := dashless_cancel _ _ t1 t2 (hnd kv hkv) (hnd kv' hkv') ht1 ht2 he
  apply hne
  rw [key_uid kv hkv, key_uid kv' hkv', this]

end PM.Forest
