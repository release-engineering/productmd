import ProductMD.Proofs.C05CIDown
/-! Example descriptions on which the hypotheses of `deserialize_down` hold, or fail and are needed. -/
namespace PM
namespace CI

/-- a depth-2 compose description: layered release with base product, label, a dashed top-level UID, a layered-product child
with its own release, an optional child -/
def exDown : ComposeInfo :=
  { compose := { id := k%"F-22-20150522.n.3", type := k%"nightly", date := k%"20150522", respin := 3, label := some k%"RC-1.0", final := true },
    release := { name := k%"Fedora", short := k%"F", version := k%"22", type := k%"updates", isLayered := true, internal := true },
    base := some { name := k%"Base", short := k%"b", version := k%"7.1", type := k%"eus" },
    variants :=
      [.mk k%"Server" k%"Server" k%"Server" k%"Server" k%"variant" [k%"x86_64", k%"i386"]
          [(k%"os_tree", [(k%"x86_64", k%"Server/x86_64/os"), (k%"i386", [])])] none
          [.mk k%"optional" k%"optional" k%"Server-optional" k%"opt" k%"optional" [k%"x86_64"] [] none [],
           .mk k%"LP" k%"LP" k%"Server-LP" k%"lp" k%"layered-product" [k%"i386"] []
             (some { name := k%"L", short := k%"l", version := k%"1", type := k%"eus", isLayered := false, internal := true }) []],
       .mk k%"ClientX" k%"ClientX" k%"Client-X" k%"Client" k%"variant" [k%"x86_64"] [] none []] }

/-- three levels: `A` → `A-B` → `A-B-C` (the F32 shape) -/
def exDeep : ComposeInfo :=
  { exDown with
    variants :=
      [.mk k%"A" k%"A" k%"A" k%"A" k%"variant" [k%"x86_64"] [] none
        [.mk k%"B" k%"B" k%"A-B" k%"B" k%"variant" [k%"x86_64"] [] none
          [.mk k%"C" k%"C" k%"A-B-C" k%"C" k%"variant" [k%"x86_64"] [] none []]]] }

/-- the hypotheses of `deserialize_down` hold on `exDown` for 0.2 (every loss at once) and 0.9; the 0.2, 0.9 and 1.1 documents exist -/
theorem exDown_hyps :
    WellKeyed exDown ∧ LegacyDomain (0, 2) exDown ∧ LegacyDomain (0, 9) exDown
    ∧ isOk (down k%"0.2" (0, 2) false exDown) = true ∧ isOk (down k%"0.9" (0, 9) false exDown) = true
    ∧ isOk (down k%"1.1" (1, 1) true exDown) = true := by
  decide +kernel

theorem exDown_idDerivable : IdDerivable exDown.compose := ⟨3, rfl, by decide +kernel⟩

/-- what is lost at 0.2, concretely: both release types and the base product's, every `internal`; nothing else -/
theorem exDown_expected_0_2 :
    let x := expected (0, 2) false exDown
    (x.compose == exDown.compose && x.release.type == k%"ga" && !x.release.internal && x.release.isLayered
     && (x.base.map (·.type)) == some k%"ga"
     && x.variants.map Variant.uid == [k%"Client-X", k%"Server"]
     && (x.variants.map fun v => v.kids.map Variant.uid) == [[], [k%"Server-LP", k%"Server-optional"]]
     && (x.variants.flatMap fun v => v.kids.map fun c => c.release.map fun r => (r.type, r.internal)) == [some (k%"ga", false), none]) = true := by
  decide +kernel

/-- … and nothing at 1.1 when the writer already wrote `internal` -/
theorem exDown_expected_1_1 : expected (1, 1) true exDown = exDown.norm := by rfl

end CI
end PM
