import ProductMD.Proofs.TreeInfoText
import ProductMD.Model.TreeInfoText
/-!
`TextOK`, the hypothesis of the text-level theorems: what it gives (`parse_render_textOK`: the text reader returns `readDoc d` for
the file of `d`; `dumps_parse`: the same of the text `dumps` returns), and that the Boolean criterion `IniText.Representable` (what
the driver reports per case) implies it for CPython's blank predicate `Str.isPySpace` (`textOK_of_representable`).
-/
namespace PM
namespace TI
open Ini IniText

theorem dumps_ok {t : TreeInfo} {mv : Option Str} {text : Str} (h : dumps t mv = .ok text) :
    ∃ d, serialize t mv = .ok d ∧ IniText.render d = text := by
  unfold dumps at h
  cases hser : serialize t mv with
  | error e => rw [hser] at h; cases h
  | ok d => rw [hser] at h; exact ⟨d, rfl, Except.ok.inj h⟩

theorem parse_render_textOK {sp : Char → Bool} (hsp : IniParse.SpOK sp) (hh : sp '#' = false) (hs : sp ';' = false) {d : Ini}
    (h0 : d.lookup DEFAULT = none) (ht : TextOK sp d) : IniParse.parse sp (IniText.render d) = .ok (readDoc d) := by
  rw [render_eq_canon d h0]
  exact IniParse.parse_render_dropComments hsp hh hs _ ht.1 ht.2

theorem dumps_parse {sp : Char → Bool} (hsp : IniParse.SpOK sp) (hh : sp '#' = false) (hs : sp ';' = false)
    {t : TreeInfo} {mv : Option Str} {text : Str} (h : dumps t mv = .ok text)
    (htext : ∀ d, serialize t mv = .ok d → TextOK sp d) :
    ∃ d, serialize t mv = .ok d ∧ IniParse.parse sp text = .ok (readDoc d) := by
  obtain ⟨d, hser, rfl⟩ := dumps_ok h
  obtain ⟨_, _, _, w⟩ := serialize_spec hser
  exact ⟨d, hser, parse_render_textOK hsp hh hs w.view.noDefault (htext d hser)⟩

theorem spOK_py : IniParse.SpOK Str.isPySpace := ⟨by decide, by decide, by decide, by decide, by decide⟩
theorem py_hash : Str.isPySpace '#' = false := by decide
theorem py_semi : Str.isPySpace ';' = false := by decide

theorem nodupKeys_sound {α} : ∀ l : List (Str × α), nodupKeys l = true → (l.map (·.1)).Nodup
  | [], _ => List.nodup_nil
  | x :: xs, h => by
    simp only [nodupKeys, Bool.and_eq_true, Bool.not_eq_true', List.any_eq_false, beq_iff_eq] at h
    simp only [List.map_cons, List.nodup_cons, List.mem_map, not_exists, not_and]
    exact ⟨fun y hy e => h.1 y hy e, nodupKeys_sound xs h.2⟩

theorem not_contains {s : Str} {c : Char} (h : (!s.contains c) = true) : c ∉ s := by
  intro hm
  simp at h
  exact h hm

theorem singleLine_sound {s : Str} (h : singleLine s = true) : '\n' ∉ s := not_contains h

theorem noOuterBlank_sound {s : Str} (h : noOuterBlank s = true) :
    IniParse.StartsOk Str.isPySpace s ∧ IniParse.EndsOk Str.isPySpace s := by
  cases s with
  | nil => exact ⟨IniParse.startsOk_nil, IniParse.endsOk_nil⟩
  | cons c t =>
    simp only [noOuterBlank, Bool.and_eq_true, Bool.not_eq_true'] at h
    refine ⟨IniParse.startsOk_cons h.1 t, ?_⟩
    · intro i c' e
      have hl : (c :: t).getLast? = some c' := by rw [e]; simp
      rw [hl] at h
      exact h.2

theorem nameOK_sound {k : Str} (h : nameOK k = true) : IniParse.KeyOk Str.isPySpace k := by
  simp only [nameOK, Bool.and_eq_true] at h
  obtain ⟨⟨⟨⟨⟨h1, h2⟩, h3⟩, h4⟩, h5⟩, h6⟩ := h
  obtain ⟨hs, he⟩ := noOuterBlank_sound h3
  refine ⟨?_, singleLine_sound h2, ?_, hs, he, ?_⟩
  · intro e; subst e; simp at h1
  · intro c hc
    have n1 := not_contains h4
    have n2 := not_contains h5
    simp only [IniParse.isDelim, Bool.or_eq_false_iff, beq_eq_false_iff_ne, ne_eq]
    exact ⟨fun e => n1 (e ▸ hc), fun e => n2 (e ▸ hc)⟩
  · intro c t e
    subst e
    simp only [Str.startsWith, List.isPrefixOf, Bool.and_true, Bool.not_eq_true', Bool.or_eq_false_iff, beq_eq_false_iff_ne, ne_eq] at h6
    exact ⟨fun e => h6.1.1 e.symm, fun e => h6.1.2 e.symm, fun e => h6.2 e.symm⟩

theorem valueOK_sound {v : Str} (h : valueOK v = true) : IniParse.ValOk Str.isPySpace v := by
  simp only [valueOK, Bool.and_eq_true] at h
  obtain ⟨hs, he⟩ := noOuterBlank_sound h.2
  exact ⟨singleLine_sound h.1, hs, he⟩

theorem textOK_of_representable (d : Ini) (h : IniText.Representable d = true) : TextOK Str.isPySpace d := by
  simp only [IniText.Representable, Bool.and_eq_true, List.all_eq_true] at h
  obtain ⟨hnd, hsec⟩ := h
  have hopt : ∀ s0 ∈ d, ∀ kv ∈ s0.2, '\n' ∉ kv.1 ∧ '\n' ∉ kv.2 ∧
      (isCommentName kv.1 = false → IniParse.KeyOk Str.isPySpace kv.1 ∧ IniParse.ValOk Str.isPySpace kv.2) := by
    intro s0 hs0 kv hkv
    have := (hsec s0 hs0).2 kv hkv
    simp only [Bool.or_eq_true, Bool.and_eq_true] at this
    rcases this with ⟨⟨⟨hc, _⟩, h1⟩, h2⟩ | ⟨h1, h2⟩
    · exact ⟨singleLine_sound h1, singleLine_sound h2, fun e => by rw [e] at hc; cases hc⟩
    · have hk := nameOK_sound h1
      have hv := valueOK_sound h2
      exact ⟨hk.2.1, hv.1, fun _ => ⟨hk, hv⟩⟩
  have hname : ∀ s0 ∈ d, s0.1 ≠ [] ∧ '\n' ∉ s0.1 ∧ s0.1 ≠ "DEFAULT".toList := by
    intro s0 hs0
    have := (hsec s0 hs0).1.1
    simp only [secNameOK, Bool.and_eq_true, Bool.not_eq_true', bne_iff_ne, ne_eq] at this
    refine ⟨?_, singleLine_sound this.1.2, this.2⟩
    intro e; rw [e] at this; simp at this
  constructor
  · intro s hs
    simp only [IniText.canon, List.mem_map] at hs
    obtain ⟨s0, hs0, rfl⟩ := hs
    have hs0' := (mem_sortKV _ _).mp hs0
    exact ⟨(hname s0 hs0').2.1, fun kv hkv => by
      have := hopt s0 hs0' kv ((mem_sortKV _ _).mp hkv)
      exact ⟨this.1, this.2.1⟩⟩
  · constructor
    · intro s hs
      simp only [readDoc, IniText.dropComments, IniText.canon, List.mem_map] at hs
      obtain ⟨s1, ⟨s0, hs0, rfl⟩, rfl⟩ := hs
      have hs0' := (mem_sortKV _ _).mp hs0
      refine ⟨hname s0 hs0', ?_, ?_⟩
      · intro kv hkv
        obtain ⟨hm, hc⟩ := List.mem_filter.mp hkv
        have := hopt s0 hs0' kv ((mem_sortKV _ _).mp hm)
        exact this.2.2 (by simpa using hc)
      · have h1 := nodupKeys_sound _ (hsec s0 hs0').1.2
        have h2 := nodup_keys_sortKV _ h1
        exact ((List.filter_sublist (l := sortKV s0.2)).map (·.1)).nodup h2
    · exact (readDoc_names d).nodup_iff.mpr (nodupKeys_sound d hnd)

end TI
end PM
