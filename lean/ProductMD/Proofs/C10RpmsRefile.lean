import ProductMD.Proofs.C10Rpms
/-!
C10, rpms side: the source RPM re-filed by the 0.3 reader.

For a binary arch `a` of variant `v` that lists packages built from the source package `k`, and an entry `sd` for `k`
in the variant's `src` table, the converted mapping holds at `[v][a][K][K]` (K = canonical N-E:V-R.A of `k`) the
record `{sigkey: lower(sd.sigkey), path: sd.path, category: "source"}`.

Argument: *last write wins*.  Inside the group of `k` every binary RPM is followed by the `add` of the source RPM, so
the last write of the group is that record (`Rpms.add_content`); everything the reader does afterwards addresses
another source-package key, another arch or another variant (`Rpms.add_frame`).
-/
namespace PM.Mf.C10
open PM
open PM.PyOps (iter subscript item pyEq)

theorem add_ok_plan {s s' : PyVal} {args : RpmsArgs} (h : Rpms.add s args = (s', .ok ())) : ∃ p, rpmsCheck args = .ok p := by
  rw [Rpms.add_eq] at h
  cases hc : rpmsCheck args with
  | error e => rw [hc] at h; simp only [Prod.mk.injEq] at h; cases h.2
  | ok p => exact ⟨p, rfl⟩

theorem nodup_keys_str {kvs : Kvs} (h : (kvs.map (·.1)).Nodup) : (kvs.map fun kv => PyVal.str kv.1).Nodup :=
  List.pairwise_map.mpr ((List.pairwise_map.mp h).imp fun hne e => hne (PyVal.str.inj e))

theorem subscript_of_mem (kvs : Kvs) (k : Str) (x : PyVal) (hn : (kvs.map (·.1)).Nodup) (hm : (k, x) ∈ kvs) :
    subscript (.dict kvs) (.str k) = .ok x := by
  simp only [subscript, PM.find_of_mem_nodup (·.1) kvs (k, x) k hn hm rfl]

theorem add_frame_variant (v' : Str) (rest : List Str) (c : Option PyVal) (s : PyVal) (args : RpmsArgs) (hne : args.variant ≠ v')
    (h : getPath s (v' :: rest) = c) : getPath (Rpms.add s args).1 (v' :: rest) = c := by
  cases hc : rpmsCheck args with
  | error e => rw [Rpms.add_error _ hc]; exact h
  | ok p => rw [Rpms.add_frame s hc (v' :: rest) (Off.head hne.symm)]; exact h

theorem add_frame_arch (v a' : Str) (rest : List Str) (c : Option PyVal) (s : PyVal) (args : RpmsArgs) (hv : args.variant = v)
    (hne : args.arch ≠ a') (h : getPath s (v :: a' :: rest) = c) : getPath (Rpms.add s args).1 (v :: a' :: rest) = c := by
  cases hc : rpmsCheck args with
  | error e => rw [Rpms.add_error _ hc]; exact h
  | ok p =>
    rw [← hv, Rpms.add_frame s hc (args.variant :: a' :: rest) (Off.cons fun _ => Off.head hne.symm), hv]
    exact h

theorem add_frame_key {s s' : PyVal} {args : RpmsArgs} {p : RpmsPlan} (hadd : Rpms.add s args = (s', .ok ())) (hc : rpmsCheck args = .ok p)
    (K : Str) (q : List Str) (hne : p.srpmKey ≠ K) :
    getPath s' (args.variant :: args.arch :: K :: q) = getPath s (args.variant :: args.arch :: K :: q) := by
  have := Rpms.add_frame s hc (args.variant :: args.arch :: K :: q) (Off.cons fun _ => Off.cons fun _ => Off.head hne.symm)
  rw [hadd] at this
  exact this

theorem loadRpms03_frame_key (v a k' : Str) (sd' : PyVal) (K : Str) (q : List Str) (hne : k' ≠ [])
    (hd : ∀ d', parseNvra k' = .ok d' → canonNvra d' ≠ K) :
    ∀ (its : List (Str × PyVal)) (s s' : PyVal), loadRpms03 v a k' sd' its s = .ok s' →
      getPath s' (v :: a :: K :: q) = getPath s (v :: a :: K :: q) := by
  intro its
  induction its with
  | nil => intro s s' h; rw [loadRpms03_nil] at h; injection h with h; subst h; rfl
  | cons it rest ih =>
    intro s s' h
    obtain ⟨nevra, data⟩ := it
    obtain ⟨cat0, path, sigkey, s1, s2, _, _, _, h4, h5, h6⟩ := loadRpms03_cons h
    have e1 : getPath s1 (v :: a :: K :: q) = getPath s (v :: a :: K :: q) := by
      obtain ⟨p, cat, sk, _, _, _, hadd⟩ := addDyn_ok h4
      obtain ⟨pl, hc⟩ := add_ok_plan hadd
      have acc := rpmsCheck_ok hc
      have hkey : pl.srpmKey ≠ K := by
        by_cases hcat : cat = lit "source"
        · have := (acc.source_no_srpm hcat).1
          cases this
        · obtain ⟨s0, hs0, hdis⟩ := acc.binary_srpm hcat
          injection hs0 with hs0
          subst hs0
          rcases hdis with ⟨he, _⟩ | ⟨_, _, d, hp, hk⟩
          · exact absurd he hne
          · rw [hk]; exact hd d hp
      exact add_frame_key hadd hc K q hkey
    have e2 : getPath s2 (v :: a :: K :: q) = getPath s1 (v :: a :: K :: q) := by
      rcases srcStep_ok h5 with ⟨_, rfl⟩ | ⟨_, sp, sk, _, _, hadd'⟩
      · rfl
      · obtain ⟨p, cat, skk, _, hcat, _, hadd⟩ := addDyn_ok hadd'
        injection hcat with hcat
        subst hcat
        obtain ⟨pl, hc⟩ := add_ok_plan hadd
        have acc := rpmsCheck_ok hc
        obtain ⟨d, hp, hk, _⟩ := acc.parsed
        have hkey : pl.srpmKey ≠ K := by
          rw [(acc.source_no_srpm rfl).2, hk]; exact hd d hp
        exact add_frame_key hadd hc K q hkey
    rw [ih s2 s' h6, e2, e1]

theorem loadSrpms03_frame_key (v a : Str) (srcTable : PyVal) (K : Str) (q : List Str) :
    ∀ (its : List (Str × PyVal)) (s s' : PyVal),
      (∀ it ∈ its, it.1 ≠ [] ∧ ∀ d', parseNvra it.1 = .ok d' → canonNvra d' ≠ K) →
      loadSrpms03 v a srcTable its s = .ok s' → getPath s' (v :: a :: K :: q) = getPath s (v :: a :: K :: q) := by
  intro its
  induction its with
  | nil => intro s s' _ h; rw [loadSrpms03_nil] at h; injection h with h; subst h; rfl
  | cons it rest ih =>
    intro s s' hall h
    obtain ⟨k', rpms⟩ := it
    obtain ⟨sd, its', s1, _, _, h3, h4⟩ := loadSrpms03_cons h
    have hk := hall (k', rpms) List.mem_cons_self
    rw [ih s1 s' (fun it hit => hall it (List.mem_cons_of_mem _ hit)) h4,
        loadRpms03_frame_key v a k' sd K q hk.1 hk.2 its' s s1 h3]

theorem loadRpms03_content (v a k : Str) (sd : PyVal) (hsd : sd ≠ .none) :
    ∀ (its : List (Str × PyVal)) (s s' : PyVal), its ≠ [] → loadRpms03 v a k sd its s = .ok s' →
      ∃ (p : Str) (sk : Option Str) (d : Nvra), item sd (lit "path") = .ok (.str p) ∧ item sd (lit "sigkey") = .ok (optStr sk) ∧
        parseNvra k = .ok d ∧
        getPath s' [v, a, canonNvra d, canonNvra d] = some (rpmRecord (sk.map Str.lowerAscii) p (lit "source")) := by
  intro its
  induction its with
  | nil => intro s s' hne; exact absurd rfl hne
  | cons it rest ih =>
    intro s s' _ h
    obtain ⟨nevra, data⟩ := it
    obtain ⟨cat0, path, sigkey, s1, s2, _, _, _, h4, h5, h6⟩ := loadRpms03_cons h
    -- only the last entry of the group counts: the `add` of the source RPM after it is the group's last write
    by_cases hrest : rest = []
    · subst hrest
      rw [loadRpms03_nil] at h6
      injection h6 with h6
      subst h6
      rcases srcStep_ok h5 with ⟨hn, _⟩ | ⟨_, sp, sk, hp, hk, hadd'⟩
      · exact absurd hn hsd
      · obtain ⟨p, cat, skk, hpath, hcat, hsig, hadd⟩ := addDyn_ok hadd'
        injection hcat with hcat
        subst hcat
        subst hpath hsig
        obtain ⟨pl, hc⟩ := add_ok_plan hadd
        have acc := rpmsCheck_ok hc
        obtain ⟨d, hparse, hkey, _⟩ := acc.parsed
        have hcontent := Rpms.add_content s1 hc (by rw [hadd])
        rw [hadd] at hcontent
        simp only at hcontent
        rw [(acc.source_no_srpm rfl).2, hkey, acc.record] at hcontent
        exact ⟨p, skk, d, hp, hk, hparse, hcontent⟩
    · exact ih s2 s' hrest h6

theorem loadSrpms03_content (v a : Str) (st : Kvs) (k : Str) (sd : PyVal) (hst : lookup st k = some sd) (hsd : sd ≠ .none)
    (dk : Nvra) (hparse : parseNvra k = .ok dk) (rl : Kvs) (hrl : rl ≠ []) :
    ∀ (its : List (Str × PyVal)) (s s' : PyVal), (its.map (·.1)).Nodup → (k, PyVal.dict rl) ∈ its →
      (∀ it ∈ its, it.1 ≠ k → it.1 ≠ [] ∧ ∀ d', parseNvra it.1 = .ok d' → canonNvra d' ≠ canonNvra dk) →
      loadSrpms03 v a (.dict st) its s = .ok s' →
      ∃ (p : Str) (sk : Option Str), item sd (lit "path") = .ok (.str p) ∧ item sd (lit "sigkey") = .ok (optStr sk) ∧
        getPath s' [v, a, canonNvra dk, canonNvra dk] = some (rpmRecord (sk.map Str.lowerAscii) p (lit "source")) := by
  intro its
  induction its with
  | nil => intro s s' _ hm; cases hm
  | cons it rest ih =>
    intro s s' hn hm hdist h
    obtain ⟨k', rpms⟩ := it
    obtain ⟨sd', its', s1, h1, h2, h3, h4⟩ := loadSrpms03_cons h
    simp only [List.map_cons, List.nodup_cons] at hn
    by_cases hk : k' = k
    · subst hk
      have hrp : rpms = .dict rl := by
        rcases List.mem_cons.mp hm with e | e
        · exact (Prod.mk.inj e).2.symm
        · exact absurd (List.mem_map.mpr ⟨(k', .dict rl), e, rfl⟩) hn.1
      subst hrp
      -- `Except.ok.inj`, not `injection`: its closing `assumption` would compare the goal with `hparse` and unfold `parseNvra`
      have hsd' : sd' = sd := by
        simp only [dictGetD, hst, Option.getD_some] at h1
        exact (Except.ok.inj h1).symm
      subst hsd'
      have hits : its' = rl := by
        simp only [dictItems] at h2
        exact (Except.ok.inj h2).symm
      subst hits
      obtain ⟨p, sk, d, hp, hsk, hpd, hcontent⟩ := loadRpms03_content v a k' sd' hsd its' s s1 hrl h3
      rw [hparse] at hpd
      have hpd := Except.ok.inj hpd
      subst hpd
      refine ⟨p, sk, hp, hsk, ?_⟩
      rw [loadSrpms03_frame_key v a (.dict st) (canonNvra dk) [canonNvra dk] rest s1 s' ?_ h4]
      · exact hcontent
      · intro it hit
        have hne : it.1 ≠ k' := fun e => hn.1 (e ▸ List.mem_map.mpr ⟨it, hit, rfl⟩)
        exact hdist it (List.mem_cons_of_mem _ hit) hne
    · exact ih s1 s' hn.2 (List.mem_of_ne_of_mem (fun e => hk (Prod.mk.inj e).1.symm) hm) (fun it hit => hdist it (List.mem_cons_of_mem _ hit)) h4

/-! In the arch table `as` of variant `v` (`payload[variant]` in `Rpms.deserialize_0_3`, distinct keys): the binary arch `a` has the cell
`cell` (`payload[variant][arch]`, distinct keys), which lists the packages `rl` (`rpms`, keyed by `rpm_nevra`) built from source package `k`;
the `src` table `st` (`payload[variant]["src"]`) knows `k` (entry `sd`); no other source package of the cell has the canonical name of `k`. -/
section refile
variable (v : Str) (as : Kvs) (has : (as.map (·.1)).Nodup) (a : Str) (ha : a ≠ lit "src")
  (cell : Kvs) (hcell : (a, PyVal.dict cell) ∈ as) (hcn : (cell.map (·.1)).Nodup)
  (st : Kvs) (hsrc : (lit "src", PyVal.dict st) ∈ as) (k : Str) (sd : PyVal) (hst : lookup st k = some sd) (hsd : sd ≠ .none)
  (dk : Nvra) (hparse : parseNvra k = .ok dk) (rl : Kvs) (hrl : rl ≠ []) (hk : (k, PyVal.dict rl) ∈ cell)
  (hdist : ∀ it ∈ cell, it.1 ≠ k → it.1 ≠ [] ∧ ∀ d', parseNvra it.1 = .ok d' → canonNvra d' ≠ canonNvra dk)
include has ha hcell hcn hsrc hst hsd hparse hrl hk hdist

theorem loadArches03_content :
    ∀ (keys : List PyVal) (s s' : PyVal), keys.Nodup → PyVal.str a ∈ keys → loadArches03 v (.dict as) keys s = .ok s' →
      ∃ (p : Str) (sk : Option Str), item sd (lit "path") = .ok (.str p) ∧ item sd (lit "sigkey") = .ok (optStr sk) ∧
        getPath s' [v, a, canonNvra dk, canonNvra dk] = some (rpmRecord (sk.map Str.lowerAscii) p (lit "source")) := by
  intro keys
  induction keys with
  | nil => intro s s' _ hm; cases hm
  | cons x rest ih =>
    intro s s' hn hm h
    simp only [List.nodup_cons] at hn
    rcases loadArches03_cons h with ⟨hsrcx, h'⟩ | ⟨hnsrc, cellV, its, srcTable, arch, s1, h1, h2, h3, h4, h5, h6⟩
    · have hx : x ≠ .str a := by
        rintro rfl
        exact ha ((PyOps.pyEq_str a _).mp hsrcx)
      exact ih s s' hn.2 (List.mem_of_ne_of_mem hx.symm hm) h'
    · have hx := strKey_ok h4
      subst hx
      by_cases harch : arch = a
      · subst harch
        rw [subscript_of_mem as arch (.dict cell) has hcell] at h1
        have h1 := Except.ok.inj h1
        subst h1
        simp only [dictItems] at h2
        have h2 := Except.ok.inj h2
        subst h2
        have hst' : srcTable = .dict st := by
          have : lookup as sSrcArch = some (.dict st) := lookup_of_mem as _ _ has hsrc
          simp only [dictGetD, this, Option.getD_some] at h3
          exact (Except.ok.inj h3).symm
        subst hst'
        obtain ⟨p, sk, hp, hsk, hcontent⟩ := loadSrpms03_content v arch st k sd hst hsd dk hparse rl hrl cell s s1 hcn hk hdist h5
        refine ⟨p, sk, hp, hsk, ?_⟩
        exact loadArches03_inv (fun t => getPath t [v, arch, canonNvra dk, canonNvra dk] = some (rpmRecord (sk.map Str.lowerAscii) p (lit "source")))
          (variant := v) (.dict as) rest
          (fun t args hv hmem ht => add_frame_arch v arch _ _ t args hv (by rintro rfl; exact hn.1 hmem) ht) s1 s' h6 hcontent
      · exact ih s1 s' hn.2 (List.mem_of_ne_of_mem (fun e => harch (PyVal.str.inj e).symm) hm) h6

theorem loadVariants03_content (vs : Kvs) (hvs : (vs.map (·.1)).Nodup) (hv : (v, PyVal.dict as) ∈ vs) :
    ∀ (keys : List PyVal) (s s' : PyVal), keys.Nodup → PyVal.str v ∈ keys → loadVariants03 (.dict vs) keys s = .ok s' →
      ∃ (p : Str) (sk : Option Str), item sd (lit "path") = .ok (.str p) ∧ item sd (lit "sigkey") = .ok (optStr sk) ∧
        getPath s' [v, a, canonNvra dk, canonNvra dk] = some (rpmRecord (sk.map Str.lowerAscii) p (lit "source")) := by
  intro keys
  induction keys with
  | nil => intro s s' _ hm; cases hm
  | cons x rest ih =>
    intro s s' hn hm h
    simp only [List.nodup_cons] at hn
    obtain ⟨archs, akeys, variant, s1, h1, h2, h3, h4, h5⟩ := loadVariants03_cons h
    have hx := strKey_ok h3
    subst hx
    by_cases hvar : variant = v
    · subst hvar
      rw [subscript_of_mem vs variant (.dict as) hvs hv] at h1
      injection h1 with h1
      subst h1
      simp only [iter] at h2
      injection h2 with h2
      subst h2
      have hamem : PyVal.str a ∈ as.map fun kv => PyVal.str kv.1 := List.mem_map.mpr ⟨(a, .dict cell), hcell, rfl⟩
      obtain ⟨p, sk, hp, hsk, hcontent⟩ := loadArches03_content variant as has a ha cell hcell hcn st hsrc k sd hst hsd dk hparse rl hrl hk hdist
        _ s s1 (nodup_keys_str has) hamem h4
      refine ⟨p, sk, hp, hsk, ?_⟩
      exact loadVariants03_inv (fun t => getPath t [variant, a, canonNvra dk, canonNvra dk] = some (rpmRecord (sk.map Str.lowerAscii) p (lit "source")))
        (.dict vs) rest (fun t args hmem ht => add_frame_variant variant _ _ t args (by rintro rfl; exact hn.1 hmem) ht) s1 s' h5 hcontent
    · exact ih s1 s' hn.2 (List.mem_of_ne_of_mem (fun e => hvar (PyVal.str.inj e).symm) hm) h5

theorem manifest03_refile (pl s : PyVal) (h : manifest03 pl = .ok s)
    (vs : Kvs) (hpl : getItem pl (lit "manifest") = .ok (.dict vs)) (hvs : (vs.map (·.1)).Nodup) (hv : (v, PyVal.dict as) ∈ vs) :
    ∃ (p : Str) (sk : Option Str), item sd (lit "path") = .ok (.str p) ∧ item sd (lit "sigkey") = .ok (optStr sk) ∧
      getPath s [v, a, canonNvra dk, canonNvra dk] = some (rpmRecord (sk.map Str.lowerAscii) p (lit "source")) := by
  obtain ⟨payload, keys, h1, h2, h3⟩ := manifest03_ok h
  rw [hpl] at h1
  injection h1 with h1
  subst h1
  simp only [iter] at h2
  injection h2 with h2
  subst h2
  exact loadVariants03_content v as has a ha cell hcell hcn st hsrc k sd hst hsd dk hparse rl hrl hk hdist vs hvs hv
    _ empty s (nodup_keys_str hvs) (List.mem_map.mpr ⟨(v, .dict as), hv, rfl⟩) h3

end refile

end PM.Mf.C10
