import ProductMD.Model.Rules
import ProductMD.Spec.ValWords
/-! Soundness of the decidable inclusion of rule lists `rulesSubset` (`Spec/ValWords.lean`, with the decidable equality of the rule
syntax by which it and `precededBy` compare rules; used to `decide` the inclusion catalogue ⊆ generated rules).  Then what a passed
rule says, one iff per rule form that has a field to speak of, whatever the interpretation of the hand-bound rules (for `.type` see
`Rule.check_type_ok` / `Rule.check_type_any` in `Model/Rules.lean`; `.custom` is its interpretation). -/
namespace PM

theorem rulesSubset_sound {xs ys : List Rule} (h : rulesSubset xs ys = true) : ∀ r ∈ xs, r ∈ ys := by
  intro r hr
  have := List.all_eq_true.mp h r hr
  obtain ⟨q, hq, he⟩ := List.any_eq_true.mp this
  have : r = q := of_decide_eq_true he
  exact this ▸ hq

section
variable {cu : Str → Obj → Except Err Unit} {o : Obj} {f : Str}

theorem Rule.check_value_iff {table : List Str} :
    Rule.check cu o (.value f table) = .ok () ↔ ∃ s, o.get f = .str s ∧ s ∈ table := by
  rw [Rule.check]
  cases o.get f with
  | str s =>
    by_cases hs : s ∈ table
    · simp [hs]
    · simp [hs]
  | _ => simp

theorem Rule.check_notBlank_iff : Rule.check cu o (.notBlank f) = .ok () ↔ (o.get f).truthy = true := by
  rw [Rule.check]
  cases (o.get f).truthy <;> simp

theorem Rule.check_re_iff {pats : List Re} :
    Rule.check cu o (.re f pats) = .ok () ↔ ∃ s, o.get f = .str s ∧ pats.any (pyMatches · s) = true := by
  rw [Rule.check]
  cases o.get f with
  | str s => cases pats.any (pyMatches · s) <;> simp
  | _ => simp

theorem Rule.check_failIf_iff {c : Cond} :
    Rule.check cu o (.failIf c) = .ok () ↔ c.wellTyped o = true ∧ c.eval o = false := by
  rw [Rule.check]
  cases c.wellTyped o <;> cases c.eval o <;> simp

theorem Rule.check_guarded_iff {c : Cond} {r : Rule} :
    Rule.check cu o (.guarded c r) = .ok () ↔ c.wellTyped o = true ∧ (c.eval o = true → r.check cu o = .ok ()) := by
  rw [Rule.check]
  cases c.wellTyped o <;> cases c.eval o <;> simp

end

end PM
