import ProductMD.Proofs.C08History
import ProductMD.Model.BuilderSlots
/-!
C08 for whole histories, the three builders: each `add` (the interpreted statement list of the source, through
`Rpms.add_eq` / `Modules.add_eq` / `ExtraFiles.add_eq`) satisfies `Hist.Commutes` for the independence relation "not the same
order-sensitive cell":

* rpms         cell = `[variant, arch, srpm key, rpm key]` (two writes of one slot: the later wins);
* modules      cell = `[variant, arch, canonical uid]` (repeated adds extend the caller-ordered rpm list, rewrite metadata);
* extra_files  cell = `[variant, arch]` (the caller-ordered entry list);
* a call the precondition checks refuse has no cell (it writes nothing, whatever the mapping).

Also `rpms_overwrite`: an rpms write that the next call replaces leaves no trace.
-/
namespace PM.Mf
open PM

theorem rpmsLeaf_keeps (k : Str) {r : PyVal} (hr : NodupAll r) : Keeps NodupAll (rpmsLeaf k r) :=
  -- `trivial`, here and below: `NodupAll` of a default that is no dict (`None`, `[]`) is `True`
  rpmsLeaf_eq k r ▸ sub_keeps _ k trivial fun _ _ => hr

theorem rpmsLeaf_resp (k : Str) (r : PyVal) : Resp (rpmsLeaf k r) :=
  rpmsLeaf_eq k r ▸ sub_resp _ k trivial (const_resp r)

/-- `Comm (rpmsLeaf k1 r1) (rpmsLeaf k2 r2)` written out -/
theorem rpmsLeaf_comm (k1 k2 : Str) (r1 r2 : PyVal) (hne : k1 ≠ k2) (x : PyVal) (hx : NodupAll x) :
    JEq (rpmsLeaf k2 r2 (rpmsLeaf k1 r1 x).1).1 (rpmsLeaf k1 r1 (rpmsLeaf k2 r2 x).1).1 ∧
    (rpmsLeaf k2 r2 (rpmsLeaf k1 r1 x).1).2 = (rpmsLeaf k2 r2 x).2 ∧
    (rpmsLeaf k1 r1 (rpmsLeaf k2 r2 x).1).2 = (rpmsLeaf k1 r1 x).2 := by
  simp only [rpmsLeaf_eq]
  exact sub_comm_ne _ _ _ _ _ _ hne x hx

theorem nodupAll_rpmRecord (sk : Option Str) (path cat : Str) : NodupAll (rpmRecord sk path cat) := by
  unfold rpmRecord
  simp only [NodupAll, NodupAllK, List.map_cons, List.map_nil]
  refine ⟨by decide, ?_⟩
  cases sk <;> simp [optStr, NodupAll]

theorem rpms_commutes : Hist.Commutes Rpms.add (CellIndep rpmsSlot) :=
  Hist.commutes_of_setPath (check := rpmsCheck) (path := fun a p => [a.variant, a.arch, p.srpmKey]) (leaf := fun _ p => rpmsLeaf p.key p.record)
    (fun s _ _ hc => Rpms.add_error s hc) (fun s _ _ hc => Rpms.add_ok s hc) 3 (fun _ _ => rfl)
    (fun _ _ hc => rpmsLeaf_keeps _ ((rpmsCheck_ok hc).record ▸ nodupAll_rpmRecord _ _ _))
    (fun _ _ _ => rpmsLeaf_resp _ _)
    -- two calls for one source package write different slots of its table
    (fun a b pa pb ha hb hi hp => rpmsLeaf_comm pa.key pb.key pa.record pb.record fun e =>
      hi.ne (x := [a.variant, a.arch, pa.srpmKey] ++ [pa.key]) (y := [b.variant, b.arch, pb.srpmKey] ++ [pb.key])
        (by rw [rpmsSlot, ha]; rfl) (by rw [rpmsSlot, hb]; rfl) (by rw [hp, e]))

theorem rpmsLeaf_overwrite (k : Str) (r1 r2 x : PyVal) : (rpmsLeaf k r2 (rpmsLeaf k r1 x).1).1 = (rpmsLeaf k r2 x).1 := by
  rcases PyVal.dict_or_not x with ⟨e, rfl⟩ | hv
  · simp only [rpmsLeaf_dict, put_put_same]
  · simp only [rpmsLeaf_nondict _ _ x hv]

theorem rpms_overwrite (s : PyVal) (a b : RpmsArgs) (hab : rpmsSlot a = rpmsSlot b) (hb : rpmsSlot b ≠ Option.none) :
    (Rpms.add (Rpms.add s a).1 b).1 = (Rpms.add s b).1 := by
  simp only [Rpms.add_eq]
  cases ha' : rpmsCheck a with
  | error e => rfl
  | ok pa =>
    cases hb' : rpmsCheck b with
    | error e => simp [rpmsSlot, hb'] at hb
    | ok pb =>
      simp only [rpmsSlot, ha', hb', Option.some.injEq, List.cons.injEq, and_true] at hab
      obtain ⟨h1, h2, h3, h4⟩ := hab
      simp only [h1, h2, h3, h4]
      rw [setPathS_fuse]
      exact setPathS_fst_congr _ _ (fun x => rpmsLeaf_overwrite pb.key pa.record pb.record x) _ s

theorem modulesLeaf_keeps (p : ModulesPlan) (hp : NodupAll p.metadata) : Keeps NodupAll (modulesLeaf p) :=
  modulesLeaf_eq p ▸ seqL_keeps (rpmsLeaf_keeps _ hp)
    (seqL_keeps (sub_keeps _ _ nodupAll_empty (rpmsLeaf_keeps p.category (r := .str p.path) trivial)) (sub_keeps _ _ trivial (appendL_keeps _)))

theorem modulesLeaf_resp (p : ModulesPlan) (hp : NodupAll p.metadata) : Resp (modulesLeaf p) :=
  modulesLeaf_eq p ▸ seqL_resp (rpmsLeaf_keeps _ hp) (rpmsLeaf_resp _ _)
    (seqL_resp (sub_keeps _ _ nodupAll_empty (rpmsLeaf_keeps p.category (r := .str p.path) trivial))
      (sub_resp _ _ nodupAll_empty (rpmsLeaf_resp _ _)) (sub_resp _ _ trivial (appendL_resp _)))

theorem nodupAll_moduleMetadata (uid : Str) (u : UidParts) (tag : Str) : NodupAll (moduleMetadata uid u tag) := by
  unfold moduleMetadata
  simp only [NodupAll, NodupAllK, List.map_cons, List.map_nil]
  exact ⟨by decide, by simp⟩

theorem modulesCheck_metadata_nodup (a : ModulesArgs) (p : ModulesPlan) (h : modulesCheck a = .ok p) : NodupAll p.metadata := by
  obtain ⟨_, _, _, _, _, _, hm⟩ := (modulesCheck_ok h).uid
  exact hm ▸ nodupAll_moduleMetadata _ _ _

theorem modules_commutes : Hist.Commutes Modules.add (CellIndep modulesSlot) :=
  Hist.commutes_of_setPath (check := modulesCheck) (path := fun a p => [a.variant, a.arch, p.uid]) (leaf := fun _ p => modulesLeaf p)
    (fun s _ _ hc => Modules.add_error s hc) (fun s _ _ hc => Modules.add_ok s hc) 3 (fun _ _ => rfl)
    (fun a p hc => modulesLeaf_keeps _ (modulesCheck_metadata_nodup a p hc))
    (fun a p hc => modulesLeaf_resp _ (modulesCheck_metadata_nodup a p hc))
    -- the address is the cell: independent calls do not meet
    (fun a b pa pb ha hb hi hp => absurd hp (hi.ne (by rw [modulesSlot, ha]) (by rw [modulesSlot, hb])))

/-- `Comm (extraLeaf a1 r1) (extraLeaf a2 r2)` written out -/
theorem extraLeaf_comm (a1 a2 : Str) (r1 r2 : PyVal) (hne : a1 ≠ a2) (x : PyVal) (hx : NodupAll x) :
    JEq (extraLeaf a2 r2 (extraLeaf a1 r1 x).1).1 (extraLeaf a1 r1 (extraLeaf a2 r2 x).1).1 ∧
    (extraLeaf a2 r2 (extraLeaf a1 r1 x).1).2 = (extraLeaf a2 r2 x).2 ∧
    (extraLeaf a1 r1 (extraLeaf a2 r2 x).1).2 = (extraLeaf a1 r1 x).2 := by
  simp only [extraLeaf_eq]
  exact sub_comm_ne _ _ _ _ _ _ hne x hx

theorem extra_commutes : Hist.Commutes ExtraFiles.add (CellIndep extraSlot) :=
  Hist.commutes_of_setPath (check := extraCheck) (path := fun a _ => [a.variant]) (leaf := fun a r => extraLeaf a.arch r)
    (fun s _ _ hc => ExtraFiles.add_error s hc) (fun s _ _ hc => ExtraFiles.add_ok s hc) 1 (fun _ _ => rfl)
    (fun a r _ => extraLeaf_eq a.arch r ▸ sub_keeps _ _ trivial (appendL_keeps _))
    (fun a r _ => extraLeaf_eq a.arch r ▸ sub_resp _ _ trivial (appendL_resp _))
    -- two calls for one variant append to the lists of different arches
    (fun a b ra rb ha hb hi hp => extraLeaf_comm a.arch b.arch ra rb fun e =>
      hi.ne (x := [a.variant] ++ [a.arch]) (y := [b.variant] ++ [b.arch])
        (by rw [extraSlot, ha]; rfl) (by rw [extraSlot, hb]; rfl) (by rw [hp, e]))

end PM.Mf
