import ProductMD.Proofs.C05WitnessTI
/-!
C05: the tree the pre-productmd witness loads to.  That every carried hypothesis of `C05_ti_idempotent` holds of it (non-vacuity) is
evaluated in the kernel as `wT00_facts` (`Proofs/FactsTreeInfo.lean`).
-/
namespace PM
open PM.TI PM.Ini

/-- the tree the witness loads to -/
def wT00 : TreeInfo := match TI.Legacy.deserialize intOracle wTI00 with | .ok t => t | .error _ => C04_exTree

end PM
