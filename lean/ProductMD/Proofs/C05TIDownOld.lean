import ProductMD.Proofs.C05TIDownNew
import ProductMD.Proofs.C05TI00
/-!
C05, treeinfo down-conversion to 0.1 – 0.3.  The conversion of a variant section is a renaming of option names (`rho`), so a lookup
in the converted section is a lookup in the written one (`conv_lookup`).  On a file that says about the forest what `OldDoc` states,
the ≤ 0.3 forest reader (`has_section` choice of the section, children under `addons` or `variants`, `option_lookup` chains,
source-tree swap) unfolds on every node to `nodeRead` (`rd03_node`), hence returns the normal form of the forest (`tops_ok`), for any
number of variants at any depth.  With the `[product]` reader, any such file is loaded as the normal form of the tree
(`legacy_of_oldDoc`); the converted file of a written tree is one (`oldDoc_of_written`).
-/
namespace PM.TI
open Ini

/-- the conversion of one option, as a renaming of its name (`none`: dropped) -/
def rho (src : Bool) (ck : Str) (k : Str) : Option Str :=
  if k == kParent then none
  else if k == kAddons then some ck
  else if src && k == kSourcePackages' then some kPackages'
  else if src && k == kSourceRepository' then some kRepository
  else some k

theorem downVarOpt_eq (src : Bool) (ck : Str) : downVarOpt src ck = fun kv => (rho src ck kv.1).map fun k => (k, kv.2) := by
  funext kv
  unfold downVarOpt rho
  repeat' split
  all_goals rfl

/-- `k? = none`: no name present is renamed to `k'` -/
theorem lookup_rename (r : Str → Option Str) (k? : Option Str) (k' : Str) (hk : ∀ k, k? = some k → r k = some k') : ∀ o : IniSec,
    (∀ j ∈ o.map (·.1), r j = some k' → k? = some j) →
    (o.filterMap fun kv => (r kv.1).map fun x => (x, kv.2)).lookup k' = k?.bind fun k => o.lookup k
  | [], _ => by cases k? <;> rfl
  | (j, v) :: o, h => by
    have ih := lookup_rename r k? k' hk o (fun x hx => h x (List.mem_cons_of_mem _ hx))
    -- an entry that is not renamed to `k'` is not the entry of `k?`
    have skip : r j ≠ some k' → (k?.bind fun k => ((j, v) :: o).lookup k) = k?.bind fun k => o.lookup k := by
      intro hne
      cases k? with
      | none => rfl
      | some k =>
        have : j ≠ k := fun e => hne (e ▸ hk k rfl)
        simp only [Option.bind_some, lookup_cons_eq, if_neg this]
    simp only [List.filterMap_cons]
    cases hr : r j with
    | none => simp only [Option.map_none]; rw [ih, skip (by rw [hr]; exact nofun)]
    | some x =>
      simp only [Option.map_some]
      rw [lookup_cons_eq]
      by_cases e : x = k'
      · rw [if_pos e, h j (by simp) (by rw [hr, e]), Option.bind_some, lookup_cons_eq, if_pos rfl]
      · rw [if_neg e, ih, skip (by rw [hr]; exact fun e' => e (Option.some.inj e'))]

/-- `viewKey` on a source tree: the source paths stand under `packages` / `repository`, nothing under `source_*` -/
def srcKey (f : Str) : Option Str :=
  if f = kPackages' then some kSourcePackages'
  else if f = kRepository then some kSourceRepository'
  else if f = kSourcePackages' ∨ f = kSourceRepository' then none
  else some f

/-- the path attribute whose value the ≤ 0.3 file holds under path option `f` (`none`: the option is not written) -/
def viewKey (src : Bool) (f : Str) : Option Str := if src then srcKey f else some f

/-- what a ≤ 0.3 reader finds under path option `f` of the section of a variant with these paths -/
def srcView (src : Bool) (paths : List (Str × Str)) (f : Str) : Option Str :=
  (viewKey src f).bind fun k => paths.lookup k

/-- among the option names a variant's section can have (`varNames`), leaving out `ex`, only `k?` (no name, if `none`) is
renamed to `k'` -/
def uniq (src : Bool) (ck : Str) (ex : List Str) (k? : Option Str) (k' : Str) : Bool :=
  varNames.all fun j => ex.contains j || rho src ck j != some k' || k? == some j

theorem uniq_spec {src : Bool} {ck : Str} {ex : List Str} {k? : Option Str} {k' : Str} (h : uniq src ck ex k? k' = true)
    {o : IniSec} (hk : ∀ j ∈ o.map (·.1), j ∈ varNames) (hex : ∀ j ∈ ex, j ∉ o.map (·.1)) :
    ∀ j ∈ o.map (·.1), rho src ck j = some k' → k? = some j := by
  intro j hj hr
  have := List.all_eq_true.mp h j (hk j hj)
  simp only [Bool.or_eq_true, bne_iff_ne, ne_eq, beq_iff_eq] at this
  rcases this with (h1 | h2) | h3
  · exact absurd hj (hex j (by simpa using h1))
  · exact absurd hr h2
  · exact h3

/-- the names `uniq` leaves out: on a source tree `packages` / `repository` are not option names (`SrcRepresentable`) -/
def exOf (src : Bool) : List Str := if src then [kPackages', kRepository] else []

/-- The finite facts about the renaming `rho src ck` on which `conv_lookup` rests: the four fixed names and the children list
are found under their new names and nothing else is renamed to those; the other spelling of the children list is absent; a
path option `f` shows what stood under `viewKey src f`.  One Boolean over the finite list `varNames`, decided once
(`convTable_true`). -/
def convTable (src : Bool) (ck : Str) : Bool :=
  [(kId, kId), (kUid, kUid), (kName, kName), (kType, kType), (kAddons, ck)].all
    (fun p => uniq src ck (exOf src) (some p.1) p.2 && rho src ck p.1 == some p.2)
  && [kAddons, kVariants].all (fun k => k == ck || uniq src ck (exOf src) none k)
  && Gen.TREEINFO_PATH_FIELDS.all fun f =>
      uniq src ck (exOf src) (viewKey src f) f
      && (viewKey src f).all fun k => Gen.TREEINFO_PATH_FIELDS.contains k && rho src ck k == some f

/-- four evaluations of a table over `varNames` (no reader runs, no witness document is decoded, so it stands here and not in a
facts structure) -/
theorem convTable_true : ∀ src, ∀ ck ∈ [kAddons, kVariants], convTable src ck = true := by decide +kernel

theorem conv_lookup (src : Bool) (ck : Str) (hck : ck = kAddons ∨ ck = kVariants) (pu : Option Str)
    (key id uid name type : Str) (paths : List (Str × Str)) (kids : List Variant) (hsrc : SrcRepresentable src paths) :
    let o' := (varOpts pu (.mk key id uid name type paths kids)).filterMap (downVarOpt src ck)
    o'.lookup kId = some id ∧ o'.lookup kUid = some uid ∧ o'.lookup kName = some name ∧ o'.lookup kType = some type ∧
    o'.lookup ck = (if kids.isEmpty then none else some (Str.joinWith ',' (Str.sortDedup (kids.map Variant.uid)))) ∧
    (ck = kVariants → o'.lookup kAddons = none) ∧ (ck = kAddons → o'.lookup kVariants = none) ∧
    (∀ f ∈ Gen.TREEINFO_PATH_FIELDS, o'.lookup f = srcView src paths f) := by
  intro o'
  obtain ⟨l1, l2, l3, l4, l5, l6, l7⟩ := varOpts_lookup pu key id uid name type paths kids
  have allk := varOpts_keys pu (.mk key id uid name type paths kids)
  have e : o' = (varOpts pu (.mk key id uid name type paths kids)).filterMap fun kv => (rho src ck kv.1).map fun x => (x, kv.2) :=
    congrArg (List.filterMap · _) (downVarOpt_eq src ck)
  have hex : ∀ j ∈ exOf src, j ∉ (varOpts pu (.mk key id uid name type paths kids)).map (·.1) := by
    intro j hj hm
    cases hs : src with
    | false => simp [exOf, hs] at hj
    | true =>
      have := Assoc.lookup_isSome_iff.mpr hm
      simp only [exOf, hs, if_true, List.mem_cons, List.not_mem_nil, or_false] at hj
      rcases hj with rfl | rfl
      · rw [l5 _ (by decide), (hsrc hs).1] at this; cases this
      · rw [l5 _ (by decide), (hsrc hs).2] at this; cases this
  have U : ∀ k? k', uniq src ck (exOf src) k? k' = true → (∀ k, k? = some k → rho src ck k = some k') →
      o'.lookup k' = k?.bind fun k => (varOpts pu (.mk key id uid name type paths kids)).lookup k :=
    fun k? k' hu hr => e ▸ lookup_rename _ k? k' hr _ (uniq_spec hu allk hex)
  have T := convTable_true src ck (by rcases hck with rfl | rfl <;> simp)
  simp only [convTable, Bool.and_eq_true, List.all_eq_true, Bool.or_eq_true, beq_iff_eq, Option.all_eq_true,
    List.contains_iff_mem] at T
  obtain ⟨⟨T1, T2⟩, T3⟩ := T
  have R : ∀ k k', (k, k') ∈ [(kId, kId), (kUid, kUid), (kName, kName), (kType, kType), (kAddons, ck)] →
      o'.lookup k' = (varOpts pu (.mk key id uid name type paths kids)).lookup k :=
    fun k k' h => U (some k) k' (T1 _ h).1 (fun _ e => Option.some.inj e ▸ (T1 _ h).2)
  have hne : kAddons ≠ kVariants := by decide
  refine ⟨(R kId kId (by simp)).trans l1, (R kUid kUid (by simp)).trans l2, (R kName kName (by simp)).trans l3,
    (R kType kType (by simp)).trans l4, (R kAddons ck (by simp)).trans l7, fun h => ?_, fun h => ?_, fun f hf => ?_⟩
  · rcases T2 kAddons (by simp) with e' | hn
    · exact absurd (e'.trans h) hne
    · exact U none _ hn nofun
  · rcases T2 kVariants (by simp) with e' | hn
    · exact absurd (e'.trans h).symm hne
    · exact U none _ hn nofun
  · obtain ⟨Tu, Tk⟩ := T3 f hf
    rw [srcView, U _ f Tu fun k hk => (Tk k hk).2]
    cases hk : viewKey src f with
    | none => rfl
    | some k => exact l5 k (Tk k hk).1

theorem optionLookup_chain {d : Ini} (h0 : d.lookup DEFAULT = none) {own : Str} {o : IniSec} (hown : d.lookup own = some o)
    (h1 : own.isEmpty = false) (f : Str) :
    ∀ cands : List Str, (∀ c ∈ cands, c ≠ own → d.lookup c = none) →
      optionLookup d (cands.map fun c => (c, f)) none = .ok (if own ∈ cands then o.lookup f else none)
  | [], _ => rfl
  | c :: cs, h => by
    have ih := optionLookup_chain h0 hown h1 f cs (fun x hx => h x (List.mem_cons_of_mem _ hx))
    simp only [List.map_cons, optionLookup]
    by_cases e : c = own
    · subst e
      rw [hasOption_sec h0 hown h1]
      cases hl : o.lookup f with
      | none => simp [ih, hl]
      | some v => simp [get_sec hown hl, Except.map]
    · rw [hasOption_nosec h0 (h c (List.mem_cons_self ..) e)]
      have : (own ∈ c :: cs) ↔ own ∈ cs := List.mem_cons.trans (or_iff_right (Ne.symm e))
      simp [ih, this]

theorem pathVals03_chain {d : Ini} (h0 : d.lookup DEFAULT = none) (id uid : Str) {own : Str} {o : IniSec} (hown : d.lookup own = some o)
    (h1 : own.isEmpty = false)
    (hmem : own ∈ [pVariant ++ uid, pVariant ++ id, pAddon ++ uid, pAddon ++ id])
    (hoth : ∀ c ∈ [pVariant ++ uid, pVariant ++ id, pAddon ++ uid, pAddon ++ id], c ≠ own → d.lookup c = none) :
    ∀ fs : List Str, Legacy.pathVals03 d id uid fs = .ok (fs.map fun f => (f, o.lookup f))
  | [] => rfl
  | f :: fs => by
    have := optionLookup_chain h0 hown h1 f _ hoth
    simp only [List.map_cons, List.map_nil, hmem, if_true] at this
    simp only [Legacy.pathVals03, this, pathVals03_chain h0 id uid hown h1 hmem hoth fs, List.map_cons]

theorem paths_swapped (src : Bool) (paths : List (Str × Str)) (hsrc : SrcRepresentable src paths) :
    Legacy.valsToPaths (if src then Legacy.srcSwap (Gen.TREEINFO_PATH_FIELDS.map fun f => (f, srcView src paths f))
      else Gen.TREEINFO_PATH_FIELDS.map fun f => (f, srcView src paths f)) = pathOpts paths := by
  cases src with
  | false =>
    simp only [Bool.false_eq_true, if_false, Legacy.valsToPaths, pathOpts, List.filterMap_map, srcView]
    rfl
  | true =>
    obtain ⟨h1, h2⟩ := hsrc rfl
    have e1 : (Gen.TREEINFO_PATH_FIELDS.map fun f => (f, srcView true paths f)) =
        [("packages".toList, paths.lookup "source_packages".toList), ("repository".toList, paths.lookup "source_repository".toList),
         ("source_packages".toList, none), ("source_repository".toList, none),
         ("debug_packages".toList, paths.lookup "debug_packages".toList),
         ("debug_repository".toList, paths.lookup "debug_repository".toList), ("identity".toList, paths.lookup "identity".toList)] := rfl
    have e2 : pathOpts paths = Legacy.valsToPaths
        [("packages".toList, paths.lookup kPackages'), ("repository".toList, paths.lookup kRepository),
         ("source_packages".toList, paths.lookup "source_packages".toList), ("source_repository".toList, paths.lookup "source_repository".toList),
         ("debug_packages".toList, paths.lookup "debug_packages".toList),
         ("debug_repository".toList, paths.lookup "debug_repository".toList), ("identity".toList, paths.lookup "identity".toList)] := rfl
    have swap : ∀ a b c d e : Option Str,
        Legacy.valsToPaths (Legacy.srcSwap [("packages".toList, a), ("repository".toList, b), ("source_packages".toList, none),
          ("source_repository".toList, none), ("debug_packages".toList, c), ("debug_repository".toList, d), ("identity".toList, e)])
        = Legacy.valsToPaths [("packages".toList, none), ("repository".toList, none), ("source_packages".toList, a),
          ("source_repository".toList, b), ("debug_packages".toList, c), ("debug_repository".toList, d), ("identity".toList, e)] :=
      fun _ _ _ _ _ => rfl
    rw [if_pos rfl, e1, e2, h1, h2, swap]

/-- what the ≤ 0.3 file says about the forest -/
structure OldDoc (t : TreeInfo) (src : Bool) (ck : Str) (d' : Ini) : Prop where
  noDefault : d'.lookup DEFAULT = none
  var : ∀ x ∈ subVs none t.variants,
    d'.lookup (secName x.2.type x.2.uid) = some ((varOpts x.1 x.2).filterMap (downVarOpt src ck))
  varInv : ∀ s, isVarSec s = true → (d'.lookup s).isSome → ∃ y ∈ subVs none t.variants, s = secName y.2.type y.2.uid

theorem isVarSec_cands (uid id : Str) : ∀ c ∈ [pVariant ++ uid, pVariant ++ id, pAddon ++ uid, pAddon ++ id], isVarSec c = true := by
  intro c hc
  simp only [List.mem_cons, List.not_mem_nil, or_false] at hc
  rcases hc with rfl | rfl | rfl | rfl
  · exact isVarSec_variant _
  · exact isVarSec_variant _
  · exact isVarSec_addon _
  · exact isVarSec_addon _

theorem secName_mem_cands (type uid id : Str) : secName type uid ∈ [pVariant ++ uid, pVariant ++ id, pAddon ++ uid, pAddon ++ id] := by
  unfold secName; split <;> simp

theorem rd03_node {t : TreeInfo} {src : Bool} {ck : Str} {d' : Ini} (S : Legacy.Sels) (hS1 : S.variant = .v03) (hS2 : S.paths = .v03)
    (c : Legacy.VCtx) (hc : (c.arch == Legacy.sSrc) = src) (O : OldDoc t src ck d') (hck : ck = kAddons ∨ ck = kVariants)
    (U : UidsOK t.variants) (CH : ChainOK t.variants) (SR : ∀ x ∈ subVs none t.variants, SrcRepresentable src x.2.paths)
    (f : Nat) (x : Option Str × Variant) (hx : x ∈ subVs none t.variants) :
    readFileAs S c d' (f + 1) x.1 x.2.uid = nodeRead (readFileAs S c d' f) x.1 x.2 := by
  have hL := O.var x hx
  have huok := U x hx
  have hsr := SR x hx
  have hch := CH x hx
  obtain ⟨pu, w⟩ := x
  obtain ⟨key, id, uid, name, type, paths, kids⟩ := w
  simp only [Variant.uid, Variant.type, Variant.id, Variant.paths] at hL huok hsr hch ⊢
  obtain ⟨l1, l2, l3, l4, l5, l6, l7, l8⟩ := conv_lookup src ck hck pu key id uid name type paths kids hsr
  have hne := secName_nonempty type uid
  have h0 := O.noDefault
  have hoth : ∀ cand ∈ [pVariant ++ uid, pVariant ++ id, pAddon ++ uid, pAddon ++ id], cand ≠ secName type uid → d'.lookup cand = none := by
    intro cand hcand hne
    cases hl : d'.lookup cand with
    | none => rfl
    | some o =>
      exfalso
      obtain ⟨y, hy, hs⟩ := O.varInv cand (isVarSec_cands uid id cand hcand) (by rw [hl]; rfl)
      have := hch y hy cand hcand hs.symm
      subst this
      exact hne hs
  have hsec : (if hasSection d' (pVariant ++ uid) then pVariant ++ uid else pAddon ++ uid) = secName type uid := by
    by_cases ht : type = tAddon
    · have hn : pVariant ++ uid ≠ secName type uid := by
        rw [ht, secName_addon, pAddon_eq, pVariant_eq]; intro e; cases e
      have := hoth (pVariant ++ uid) (by simp) hn
      have hs : hasSection d' (pVariant ++ uid) = false := by
        rw [hasSection_sec h0, this]; rfl
      rw [hs, ht, secName_addon]; rfl
    · have hs : hasSection d' (pVariant ++ uid) = true := by
        rw [hasSection_sec h0, ← secName_not_addon uid ht, hL]; rfl
      rw [hs, secName_not_addon uid ht]; rfl
  have g1 := get_sec hL l1
  have g2 := get_sec hL l2
  have g3 := get_sec hL l3
  have g4 := get_sec hL l4
  have hempty : uid.isEmpty = false := List.isEmpty_eq_false_iff.mpr huok.1
  -- the children list: under `ck`, whichever of the two spellings
  have haddons : (if hasOption d' (secName type uid) kAddons then Ini.get d' (secName type uid) kAddons
      else if hasOption d' (secName type uid) kVariants then Ini.get d' (secName type uid) kVariants
      else .ok []) = .ok (kidsStr kids) := by
    rw [hasOption_sec h0 hL hne, hasOption_sec h0 hL hne]
    rcases hck with rfl | rfl
    · rw [l5, l7 rfl]
      cases hke : kids.isEmpty with
      | true => simp [kidsStr_of_empty hke]
      | false => simp [kidsStr_of_nonempty hke, get_sec hL (k := kAddons) (by rw [l5, hke]; rfl)]
    · rw [l6 rfl, l5]
      cases hke : kids.isEmpty with
      | true => simp [kidsStr_of_empty hke]
      | false => simp [kidsStr_of_nonempty hke, get_sec hL (k := kVariants) (by rw [l5, hke]; rfl)]
  have hpv := pathVals03_chain h0 id uid hL hne (secName_mem_cands type uid id) hoth Gen.TREEINFO_PATH_FIELDS
  have hmap : (Gen.TREEINFO_PATH_FIELDS.map fun f => (f, ((varOpts pu (.mk key id uid name type paths kids)).filterMap (downVarOpt src ck)).lookup f))
      = Gen.TREEINFO_PATH_FIELDS.map fun f => (f, srcView src paths f) :=
    List.map_congr_left (fun f hf => by rw [l8 f hf])
  have hpaths : Legacy.dePathsL .v03 c d' id uid type = .ok (pathOpts paths) := by
    simp only [Legacy.dePathsL, hpv, hmap, hc, bind, Except.bind, pure, Except.pure, closed_facts.variantPaths]
    have := paths_swapped src paths hsr
    rw [this]
  unfold readFileAs nodeRead
  rw [Legacy.readVariant]
  simp only [hempty, Bool.false_eq_true, if_false, hS1, hsec, g1, g2, g3, g4, haddons, hS2, hpaths, loopFile_eq_loopAdd,
    Variant.uid, Variant.type, Variant.kids, Variant.id, Variant.paths, Variant.name, Option.isSome_some, ← fileAs_some]
  cases loopAdd (fun u => (Legacy.readVariant S c d' f true u).bind (fileAs (some uid))) (splitNonEmpty (kidsStr kids)) [] with
  | error e => rfl
  | ok ks => rfl

theorem deTopsL_old {t : TreeInfo} {src : Bool} {ck : Str} {d d' : Ini} {g : IniSec} (S : Legacy.Sels) (hS1 : S.variant = .v03) (hS2 : S.paths = .v03)
    (hS3 : S.variants00 = false)
    (c : Legacy.VCtx) (hc : (c.arch == Legacy.sSrc) = src) (O : OldDoc t src ck d') (hck : ck = kAddons ∨ ck = kVariants)
    (F : ForestOK t.variants) (CH : ChainOK t.variants) (SR : ∀ x ∈ subVs none t.variants, SrcRepresentable src x.2.paths)
    (V : View (fun _ => True) (docList t g) d) (htree : d'.lookup sTree = d.lookup sTree) (hlen : d'.length = d.length)
    (hne : t.variants ≠ [])
    (hvf : ValidVs none (sortBy Variant.uid (normTops t.variants)))
    (hv : validateClass "treeinfo.Variants" (variantsObj (sortBy Variant.uid (normTops t.variants))) = .ok ()) :
    Legacy.deTopsL S c d' = .ok (sortBy Variant.uid (normTops t.variants)) := by
  have hL := L_tree t g
  obtain ⟨_, _, _, l4⟩ := treeOptsFull_lookup t
  have h0 : d'.lookup DEFAULT = d.lookup DEFAULT := by rw [O.noDefault, V.noDefault]
  have ho : hasOption d' sTree kVariants = true := by
    rw [hasOption_congr htree h0, V.hasOption_of hL (by decide) (by decide), l4]; rfl
  have hg : Ini.get d' sTree kVariants = _ := (get_congr htree h0 kVariants).trans (V.get_of hL l4 (by decide))
  have hfuel := heights_le_docList t g
  rw [← V.length, ← hlen] at hfuel
  have hloop := tops_ok (readFileAs S c d') F (rd03_node S hS1 hS2 c hc O hck F.uidsOK CH SR) (d'.length + 1) (by omega) hvf
  have e := readFileAs_none S c d' (d'.length + 1)
  unfold Legacy.deTopsL
  rw [hS3]
  refine Returns.ite_neg Bool.false_ne_true <| Returns.ite_pos ho <| Returns.bind (congrArg (Except.map _) hg) ?_
  dsimp only
  rw [topsStr_split F hne, loopFile_eq_loopAdd, e]
  exact Returns.bind hloop (Returns.validated hv)

theorem oldDoc_of_written {t : TreeInfo} {d : Ini} {n0 : Int} {key : Str} {chosen : Variant} (w : Written t none d n0 key chosen)
    (D : TDown) (hD : D.old = true) (vs : Str) (src : Bool) (ck : Str) :
    OldDoc t src ck (d.map (downSec D vs src ck)) := by
  have V := w.view
  refine ⟨?_, ?_, ?_⟩
  · rw [down_lookup_same D vs src ck DEFAULT (by decide) (fun _ => ⟨by decide, by decide, by decide⟩)]
    exact V.noDefault
  · intro x hx
    rw [down_lookup_var D vs src ck hD _ (isVarSec_secName _ _), w.look, L_variant w.nodup x hx]
    rfl
  · intro s hs hsome
    rw [down_lookup_var D vs src ck hD _ hs, w.look] at hsome
    cases hl : (docList t (generalOpts t n0 key chosen)).lookup s with
    | none => rw [hl] at hsome; cases hsome
    | some o =>
      obtain ⟨y, hy, e, _⟩ := L_variant_inv (isVarSec_headAV hs) hl
      exact ⟨y, hy, e⟩

theorem product_absent {t : TreeInfo} {g : IniSec} : (docList t g).lookup sProduct' = none :=
  L_absent t g (not_headAV_of (c := 'p') rfl (by decide) (by decide)) (by decide) (by decide : sProduct' ∉ fixedNames)

theorem deReleaseL_old {d' : Ini} (p : Product) (l : Bool) (h0 : d'.lookup DEFAULT = none)
    (hL : d'.lookup sProduct' = some (releaseOpts p l))
    (hv : validateClass "treeinfo.Release" (releaseObj p l) = .ok ()) :
    Legacy.deReleaseL .v03 d' = .ok (p, l) := by
  obtain ⟨l1, l2, l3, l4⟩ := releaseOpts_lookup p l
  refine Returns.bind (get_sec hL l1) <| Returns.bind (get_sec hL l2) <| Returns.bind (get_sec hL l3) <|
    Returns.ite_bind (a := l) ?_ (Returns.validated hv)
  rw [show Legacy.sProduct = sProduct' from rfl, hasOption_sec h0 hL (by decide), l4]
  cases l
  · rfl
  · exact Returns.bind (get_sec hL (by rw [l4]; rfl)) rfl

/-- Faithful, 0.1 – 0.3, for any file `d'`, hand-written ones included; `TI.down` yields such a file (`oldDoc_of_written`,
`down_lookup_*`). -/
theorem legacy_of_oldDoc (fo : FloatOracle) (vs : Str) (ver : Nat × Nat) (ck : Str) (t : TreeInfo) (d d' : Ini)
    (hser : serialize t none = .ok d) (hcur : deserialize fo d = .ok (norm t))
    (hh : Legacy.deHeaderL d' = .ok vs) (hvt : versionTuple vs = .ok ver)
    (hold : tupleLe ver (0, 3) = true) (hne0 : (ver == (0, 0)) = false) (hck : ck = kAddons ∨ ck = kVariants)
    (huok : UidsOK t.variants) (hnd : UidsNodup t.variants) (htop : TopNotAddon t.variants) (hv : ReadValid (norm t))
    (CH : ChainOK t.variants) (SR : ∀ x ∈ subVs none t.variants, SrcRepresentable (t.tree.arch == "src".toList) x.2.paths)
    (O : OldDoc t (t.tree.arch == "src".toList) ck d') (hprod : d'.lookup sProduct' = d.lookup sRelease)
    (hfix : ∀ s, s ≠ sHeader → s ≠ sRelease → s ≠ sProduct' → isVarSec s = false → d'.lookup s = d.lookup s)
    (hsec : (sections d').filter isImg = (sections d).filter isImg) (hlen : d'.length = d.length) :
    Legacy.deserialize fo d' = .ok (norm t) := by
  obtain ⟨n0, key, chosen, w⟩ := serialize_spec hser
  have wv := serialize_valid hser
  have himgs : ∀ s, isImg s = true → d'.lookup s = d.lookup s := by
    intro s hs
    have hhead := isImg_head hs
    apply hfix s
    · exact ne_of_pred hs (by decide)
    · exact ne_of_pred hs (by decide)
    · exact ne_of_pred hs (by decide)
    · cases hvs : isVarSec s with
      | false => rfl
      | true => exact absurd (isVarSec_headAV hvs) (not_headAV_of hhead (by decide) (by decide))
  have hother : ∀ s ∈ [sBase, sTree, sGeneral, sChecksums, sStage2, sMedia, DEFAULT],
      s ≠ sHeader ∧ s ≠ sRelease ∧ s ≠ sProduct' ∧ isVarSec s = false := by decide
  refine legacy_of_sections hcur hh hvt (Legacy.selsOf_le_0_3 ver hne0 hold) ⟨rfl, rfl, rfl, rfl, rfl⟩
    (fun s hs => hfix s (hother s hs).1 (hother s hs).2.1 (hother s hs).2.2.1 (hother s hs).2.2.2) himgs hsec ?_ ?_
  · exact deReleaseL_old t.release t.isLayered O.noDefault (by rw [hprod, w.look, L_release]) wv.release
  · exact deTopsL_old _ rfl rfl rfl _ rfl O hck ⟨huok, hnd, kidIds_of_valid wv.forest hnd, htop⟩ CH SR w.view
      (hfix sTree (by decide) (by decide) (by decide) (by decide)) hlen (getItem_ne_nil w.hchosen) hv.forest hv.tops

def kVariantsK : Str := kVariants

theorem mem_keys_of_isSome {o : IniSec} {k : Str} (h : (o.lookup k).isSome) : k ∈ o.map (·.1) :=
  Assoc.lookup_isSome_iff.mp h

theorem ebind_ok {α β : Type} (a : α) (f : α → Except Err β) : (Except.ok a : Except Err α).bind f = f a := rfl

end PM.TI
