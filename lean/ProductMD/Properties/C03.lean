import ProductMD.Proofs.ManifestIO
import ProductMD.Proofs.JsonRoundTrip
import ProductMD.Proofs.ExceptMatch
/-!
# C03 — RPM, module and extra-file manifests survive a write/read cycle unchanged

Model: `Model/Builders.lean` (the add operations, `runOps`), `Model/ManifestIO.lean` (`serialize`, `deserialize`,
`dumps`, `roundtrip`; header and compose validated by the rule lists generated from the source; payload stored and
emitted verbatim; text = `JsonText.dumps`, byte-exact `json.dump(indent=4, sort_keys=True)`).

`reparse doc = canon doc` is what `json.load` gives back for the text of `doc`: the document that was written, with every
dict in the (sorted) order of the text.  `C03_roundtrip` is stated on documents through `reparse`, `C03_bytes` takes the
parser as a hypothesis, and `C03_bytes_parsed` at the end discharges it with the modelled parser `JsonParse.parseWith`.
The harness compares the model's re-read manifest with the real `loads()` on every case.
-/
namespace PM.Mf
open PM

/-- arguments that are JSON values themselves (strings always are; `rpms` may be a list or a TUPLE of JSON values;
`size` and `checksums` any JSON value) -/
def AddOp.argsRep : AddOp → Bool
  | .rpms _ => true
  | .modules a => a.rpms.jsonRep
  | .extra a => jsonRep a.size && jsonRep a.checksums

theorem step_jsonRep (s : PyVal) (op : AddOp) (ha : op.argsRep = true) (h : jsonRep s = true) :
    jsonRep (step s op).1 = true := by
  cases op with
  | rpms a => exact rpms_add_jsonRep s a h
  | modules a => exact modules_add_jsonRep s a ha h
  | extra a =>
    simp only [AddOp.argsRep, Bool.and_eq_true] at ha
    exact extra_add_jsonRep s a ha h

/-- **Every mapping reachable by add calls is JSON-representable**: after any history of calls (accepted or refused,
any arguments that are JSON values, tuples allowed for `rpms`) the mapping consists only of None/bool/int/float/
str/list/dict-with-distinct-string-keys — no tuple, set or foreign object can get in.  (A change that stores the
caller's tuple makes `Modules.add`'s model store a `PyVal.other` and breaks this proof.) -/
theorem C03_json_closed (ops : List AddOp) (hargs : ∀ op ∈ ops, op.argsRep = true) :
    jsonRep (runOps empty ops) = true :=
  List.foldlRecOn (motive := (jsonRep · = true)) ops _ rfl fun s hs op hop => step_jsonRep s op (hargs op hop) hs

/-- histories of `Rpms.add` calls need no hypothesis at all: every argument is a string or None -/
theorem C03_json_closed_rpms (h : List RpmsArgs) : jsonRep (runRpms empty h) = true :=
  List.foldlRecOn (motive := (jsonRep · = true)) h _ rfl fun s hs a _ => rpms_add_jsonRep s a hs

theorem getPath_canon : ∀ (path : List Str) (v : PyVal), jsonRep v = true →
    getPath (PyVal.canon v) path = (getPath v path).map PyVal.canon := by
  intro path
  induction path with
  | nil => intro v _; simp [getPath_nil]
  | cons k ks ih =>
    intro v hv
    cases v with
    | dict kvs =>
      simp only [jsonRep] at hv
      simp only [PyVal.canon]
      rw [getPath_dict_cons, getPath_dict_cons, lookup_sortKvs_canonKvs kvs k hv]
      cases hl : lookup kvs k with
      | none => rfl
      | some c => simpa using ih c (jsonRep_of_lookup kvs k c hv hl)
    | _ => simp [PyVal.canon, getPath]

/-- the write/read/write cycle on ANY JSON-representable mapping (e.g. one that was itself loaded) -/
theorem C03_roundtrip_payload (k : Kind) (v0 : PyVal) (c : ComposeT) (p : PyVal) (hp : jsonRep p = true)
    (hv : composeValidate c.toObj = .ok ()) :
    ∃ rt, roundtrip k { version := v0, compose := c.toObj, payload := p } = .ok rt
      ∧ rt.reloaded.payload = PyVal.canon p
      ∧ PyVal.pyEq rt.reloaded.payload p = true
      ∧ rt.reloaded.compose = c.norm.toObj
      ∧ rt.reloaded.version = .str currentVersion
      ∧ rt.text2 = rt.text1 := by
  have hn := composeValidate_norm c hv
  unfold roundtrip
  rw [dumpDoc_eq k v0 c p hv]
  simp only
  rw [deserialize_reparse k c p hp hn]
  simp only
  rw [dumpDoc_eq k _ c.norm (PyVal.canon p) hn]
  exact ⟨_, rfl, rfl, pyEq_canon p hp, rfl, rfl, dumps_docOf_canon k c p hp⟩

/-- **Round trip, any history** — for every kind of manifest, every history of add calls (accepted or refused), every
compose section that validates, and whatever the header version was: `dumps` succeeds; `loads` of that text
succeeds; the re-read mapping is the built mapping with sorted keys, i.e. Python-equal to it; the compose section
is the same up to the documented normalisation (`final` travels only with a label: `c.norm`); the header carries
the current version; a second `dumps` gives the same bytes. -/
theorem C03_roundtrip (k : Kind) (ops : List AddOp) (hargs : ∀ op ∈ ops, op.argsRep = true)
    (v0 : PyVal) (c : ComposeT) (hv : composeValidate c.toObj = .ok ()) :
    ∃ rt, roundtrip k { version := v0, compose := c.toObj, payload := runOps empty ops } = .ok rt
      ∧ rt.reloaded.payload = PyVal.canon (runOps empty ops)
      ∧ PyVal.pyEq rt.reloaded.payload (runOps empty ops) = true
      ∧ rt.reloaded.compose = c.norm.toObj
      ∧ rt.reloaded.version = .str currentVersion
      ∧ rt.text2 = rt.text1 :=
  C03_roundtrip_payload k v0 c (runOps empty ops) (C03_json_closed ops hargs) hv

/-- **Pointwise form of "exactly the same mapping"** — for every history and every chain of keys
`[variant][arch][…]…`: the re-read manifest holds there the key-sorted value the built manifest held (in particular
the same strings, numbers and None), and nothing where the built manifest held nothing. -/
theorem C03_pointwise (k : Kind) (ops : List AddOp) (hargs : ∀ op ∈ ops, op.argsRep = true)
    (v0 : PyVal) (c : ComposeT) (hv : composeValidate c.toObj = .ok ()) (path : List Str) :
    ∃ rt, roundtrip k { version := v0, compose := c.toObj, payload := runOps empty ops } = .ok rt
      ∧ getPath rt.reloaded.payload path = (getPath (runOps empty ops) path).map PyVal.canon := by
  obtain ⟨rt, h1, h2, _⟩ := C03_roundtrip k ops hargs v0 c hv
  exact ⟨rt, h1, by rw [h2]; exact getPath_canon path _ (C03_json_closed ops hargs)⟩

theorem roundtrip_ok (k : Kind) (m : Manifest) : Post (roundtrip k m) fun rt =>
    ∃ doc doc2, (dumpDoc k m).2 = .ok doc ∧ deserialize k (reparse doc) = .ok rt.reloaded ∧ (dumpDoc k rt.reloaded).2 = .ok doc2
      ∧ rt.text1 = JsonText.dumps doc ∧ rt.text2 = JsonText.dumps doc2 := by
  unfold roundtrip
  refine .matchV fun doc hd => ?_
  cases hds : deserialize k (reparse doc) with
  | error e => exact .error
  | ok m2 => exact .matchV fun doc2 hd2 => .ok ⟨doc, doc2, hd, hds, hd2, rfl, rfl⟩

/-- **Byte level** — with the JSON parser as a parameter: for ANY `parse` that gives back the document that was
written (dict order = order of the text; this is the one assumption on the stdlib, stated on the document at hand),
`loads(dumps(m))` succeeds and `dumps` of the result is the same text, byte for byte. -/
theorem C03_bytes (parse : Str → Except Err PyVal) (k : Kind) (ops : List AddOp)
    (hargs : ∀ op ∈ ops, op.argsRep = true) (v0 : PyVal) (c : ComposeT) (hv : composeValidate c.toObj = .ok ())
    (hparse : ∀ doc, (dumpDoc k { version := v0, compose := c.toObj, payload := runOps empty ops }).2 = .ok doc →
        parse (JsonText.dumps doc) = .ok (reparse doc)) :
    ∃ t m2, (dumps k { version := v0, compose := c.toObj, payload := runOps empty ops }).2 = .ok t
      ∧ (parse t).bind (deserialize k) = .ok m2
      ∧ (dumps k m2).2 = .ok t := by
  obtain ⟨rt, h1, _, _, _, _, h6⟩ := C03_roundtrip k ops hargs v0 c hv
  obtain ⟨doc, doc2, hd, hds, hd2, e1, e2⟩ := (roundtrip_ok _ _).elim h1
  rw [e1, e2] at h6
  refine ⟨JsonText.dumps doc, rt.reloaded, ?_, ?_, ?_⟩
  · simp [dumps, hd, Except.map]
  · rw [hparse doc hd]
    exact hds
  · simp [dumps, hd2, Except.map, h6]

/-- obligation on the generated facts (tools/gen_builders.py): the three readers consist of exactly these statements —
header, compose, `self.<table> = data["payload"][<key>]`, validate — i.e. they REPLACE the table.  A reader that
re-files the records through `add()` onto whatever the object holds is `.unknown` and breaks this. -/
theorem C03_load_modes : ∀ k : Kind, k.loadMode = .replace := by
  intro k; cases k <;> decide

theorem deserialize_payload (k : Kind) (doc : PyVal) : Post (deserialize k doc) fun m' =>
    ∃ pl, getItem doc (lit "payload") = .ok pl ∧ getItem pl k.payloadKey = .ok m'.payload := by
  unfold deserialize
  cases headerDeserialize k doc with
  | error e => exact .error
  | ok vt =>
    obtain ⟨ver, t⟩ := vt
    refine .ite .error (.matchV fun pl hpl => ?_)
    cases composeDeserialize t pl with
    | error e => exact .error
    | ok c => exact .matchV fun payload hp => .matchValidated fun _ => ⟨pl, hpl, hp⟩

/-- **A load REPLACES what the object held** — for every kind, every object state `m` (fresh, filled by adds, loaded
before) and every document: after a successful `loads`/`deserialize` the mapping is exactly the document's payload
table, header and compose are the document's, and nothing of `m` survives (the result is the same for every prior
state `m0`); after a refused load the mapping is what it was. -/
theorem C03_load_replaces (k : Kind) (m : Manifest) (doc : PyVal) :
    ((loadS k m doc).2 = .ok () →
        (∃ pl, getItem doc (lit "payload") = .ok pl ∧ getItem pl k.payloadKey = .ok (loadS k m doc).1.payload)
        ∧ deserialize k doc = .ok (loadS k m doc).1
        ∧ ∀ m0, loadS k m0 doc = loadS k m doc)
    ∧ (∀ e, (loadS k m doc).2 = .error e → (loadS k m doc).1.payload = m.payload) := by
  unfold loadS
  rw [C03_load_modes k]
  cases hd : deserialize k doc with
  | error e => exact ⟨fun h => by simp at h, fun _ _ => rfl⟩
  | ok m' =>
    refine ⟨fun _ => ⟨(deserialize_payload k doc).elim hd, rfl, fun m0 => rfl⟩, fun e h => by simp at h⟩

/-- loading the same document again changes nothing (no accumulation) -/
theorem C03_load_twice (k : Kind) (m : Manifest) (doc : PyVal) (h : (loadS k m doc).2 = .ok ()) :
    loadS k (loadS k m doc).1 doc = loadS k m doc :=
  ((C03_load_replaces k m doc).1 h).2.2 _

/-- an object filled by ANY history of adds that re-reads its own dump — or is handed the dump of any other history —
ends up holding exactly (the key-sorted form of) what was dumped, not a union with what it held -/
theorem C03_reload_into_used_object (k : Kind) (held : Manifest) (ops : List AddOp)
    (hargs : ∀ op ∈ ops, op.argsRep = true) (c : ComposeT) (hv : composeValidate c.toObj = .ok ()) :
    loadS k held (reparse (docOf k c (runOps empty ops)))
      = ({ version := .str currentVersion, compose := c.norm.toObj, payload := PyVal.canon (runOps empty ops) }, .ok ()) := by
  unfold loadS
  rw [C03_load_modes k, deserialize_reparse k c _ (C03_json_closed ops hargs) (composeValidate_norm c hv)]

/-- the normalisation is the identity on the compose sections that a reader can produce: re-reading a re-read
manifest changes nothing at all -/
theorem C03_norm_idem (c : ComposeT) : c.norm.norm = c.norm := by
  unfold ComposeT.norm
  cases h : c.labelSet
  · simp [ComposeT.labelSet, optStr, PyVal.truthy]
  · simp [h]

/-- obligation on the generated validators: the compose rules look at `final` only under `if self.label:` (this is
what makes the normalised section valid again; it stops compiling if a validator starts reading `final`) -/
theorem C03_final_only_with_label :
    composeRules.all (ruleIndep (lit "final") (lit "label") [labelCustom]) = true :=
  compose_rule_facts.final_under_label

/-- a section with a label is in normal form -/
theorem C03_norm_of_label (c : ComposeT) (h : c.labelSet = true) : c.norm = c := by simp [ComposeT.norm, h]

/-- so is one without label whose `final` is False -/
theorem C03_norm_of_not_final (c : ComposeT) (h1 : c.label = none) (h2 : c.final = false) : c.norm = c := by
  obtain ⟨id, ty, date, respin, label, final⟩ := c
  simp only at h1 h2
  subst h1 h2
  rfl

/-- the gates the round trip depends on, read from the generated `VERSION` and the generated gates (tools/gen_gates.py):
documents are written with a version the reader treats as current (type checked, no legacy conversion) -/
theorem C03_version_gates :
    versionTuple (.str currentVersion) = .ok (.nums Gen.VERSION)
    ∧ Gen.gate_common_Header_deserialize_0.eval? Gen.VERSION = some true
    ∧ Gen.gate_rpms_Rpms_deserialize_0.eval? Gen.VERSION = some false
    ∧ Gen.gate_composeinfo_Compose_deserialize_0.eval? Gen.VERSION = some false :=
  ⟨versionTuple_current, gate_header_some, gate_rpms_some, gate_compose_some⟩

def exampleCompose : ComposeT :=
  { id := lit "Fedora-23-20151030.n.0", type := lit "nightly", date := lit "20151030", respin := 0,
    label := some (lit "RC-1.2"), final := true }

def exampleComposeNoLabel : ComposeT :=
  { id := lit "Fedora-23-20151030.0", type := lit "production", date := lit "20151030", respin := 0,
    label := none, final := true }

/-- the parser hypothesis of `C03_bytes` is satisfiable for every manifest (it constrains `parse` on one text) -/
example (k : Kind) (m : Manifest) :
    ∃ parse : Str → Except Err PyVal, ∀ doc, (dumpDoc k m).2 = .ok doc → parse (JsonText.dumps doc) = .ok (reparse doc) := by
  cases h : (dumpDoc k m).2 with
  | error e => exact ⟨fun _ => .error .other, by intro doc hd; cases hd⟩
  | ok d => exact ⟨fun _ => .ok (reparse d), by intro doc hd; cases hd; rfl⟩

def exampleOps : List AddOp :=
  [.rpms { variant := lit "Server", arch := lit "x86_64", nevra := lit "foo-bar-1:2.0-3.el7.x86_64.rpm",
           path := lit "Packages/f/foo-bar.rpm", sigkey := some (lit "FD431D51"), category := lit "binary",
           srpm := some (lit "foo-1:2.0-3.el7.src.rpm") },
   .rpms { variant := lit "Client", arch := lit "x86_64", nevra := lit "foo-1:2.0-3.el7.src.rpm",
           path := lit "Packages/f/foo.src.rpm", sigkey := none, category := lit "source" }]

/-- closed facts about the examples, evaluated in one declaration (DESIGN.md §3, closed facts) -/
structure ExampleFacts : Prop where
  compose_valid : composeValidate exampleCompose.toObj = .ok ()
  noLabel_valid : composeValidate exampleComposeNoLabel.toObj = .ok ()
  goes_round : ((roundtrip .rpms { version := .str (lit "0.0"), compose := exampleCompose.toObj,
                                   payload := runOps empty exampleOps }).toOption.map
      (fun rt => rt.text1 == rt.text2 && rt.text1.length > 400)) = some true
  numbers_ok : JsonParse.numsOk JsonParse.defaultLimit (runOps empty exampleOps) = true
    ∧ JsonParse.intFits JsonParse.defaultLimit exampleCompose.respin = true
  parsed_back : (match (dumpDoc .rpms { version := .str (lit "0.0"), compose := exampleCompose.toObj,
                                        payload := runOps empty exampleOps }).2 with
    | .ok doc => (match JsonParse.parse (JsonText.dumps doc) with
                  | .ok w => PyVal.beq w (reparse doc) | .error _ => false)
    | .error _ => false) = true

theorem example_facts : ExampleFacts := by
  suffices h : _ ∧ _ ∧ _ ∧ _ ∧ _ from ⟨h.1, h.2.1, h.2.2.1, h.2.2.2.1, h.2.2.2.2⟩
  decide +kernel

example : exampleCompose.norm = exampleCompose ∧ composeValidate exampleCompose.toObj = .ok () :=
  ⟨C03_norm_of_label _ (by decide), example_facts.compose_valid⟩

example : composeValidate exampleComposeNoLabel.toObj = .ok ()
    ∧ exampleComposeNoLabel.norm.final = false :=
  ⟨example_facts.noLabel_valid, by decide⟩

theorem C03_example :
    (∀ op ∈ exampleOps, op.argsRep = true)
    ∧ ((roundtrip .rpms { version := .str (lit "0.0"), compose := exampleCompose.toObj,
                          payload := runOps empty exampleOps }).toOption.map
        (fun rt => rt.text1 == rt.text2 && rt.text1.length > 400)) = some true :=
  ⟨by decide, example_facts.goes_round⟩

/-! Bytes through the modelled JSON parser.  `JsonParse.parseWith lim` (Model/JsonParse.lean) is the model of CPython's `json.loads` under
`sys.set_int_max_str_digits(lim)` (`lim = 0`: no limit; CPython's default is `JsonParse.defaultLimit = 4300`), tied to
the real parser by `harness/json_diff.py`; `Proofs/JsonRoundTrip.lean` proves that it inverts `JsonText.dumps` on
JSON-representable documents.  That discharges the parser hypothesis of `C03_bytes`; what remains explicit is the side
condition on NUMBERS in the built mapping (`numsOk`: float tokens are float literals; integers within `int()`'s digit
limit — the real `dumps` itself raises beyond it) and on the compose section's `respin`. -/

theorem numsOk_docOf (lim : Nat) (k : Kind) (c : ComposeT) (p : PyVal) (hp : JsonParse.numsOk lim p = true)
    (hr : JsonParse.intFits lim c.respin = true) : JsonParse.numsOk lim (docOf k c p) = true := by
  have hc : JsonParse.numsOk lim (composeDoc c) = true := by
    unfold composeDoc
    cases c.labelSet
    · simp [JsonParse.numsOk, JsonParse.numsOkKvs, hr]
    · cases h : c.label <;> simp [JsonParse.numsOk, JsonParse.numsOkKvs, hr, optStr]
  cases k <;> simp [docOf, payloadDoc, headerDoc, JsonParse.numsOk, JsonParse.numsOkKvs, hp, hc]

/-- **Byte level, parser modelled** — for every history of add calls, every kind and every valid compose section:
`dumps` succeeds, the modelled `json.loads` reads that very text, `deserialize` of what it returns succeeds, and
`dumps` of the re-read manifest is the same text, byte for byte. -/
theorem C03_bytes_parsed (lim : Nat) (k : Kind) (ops : List AddOp)
    (hargs : ∀ op ∈ ops, op.argsRep = true) (v0 : PyVal) (c : ComposeT) (hv : composeValidate c.toObj = .ok ())
    (hnum : JsonParse.numsOk lim (runOps empty ops) = true) (hr : JsonParse.intFits lim c.respin = true) :
    ∃ t m2, (dumps k { version := v0, compose := c.toObj, payload := runOps empty ops }).2 = .ok t
      ∧ (JsonParse.parseWith lim t).bind (deserialize k) = .ok m2
      ∧ (dumps k m2).2 = .ok t := by
  refine C03_bytes (JsonParse.parseWith lim) k ops hargs v0 c hv ?_
  intro doc hd
  rw [dumpDoc_eq k v0 c _ hv] at hd
  cases hd
  exact JsonParse.parseWith_dumps lim _ (jsonRep_docOf k c _ (C03_json_closed ops hargs))
    (numsOk_docOf lim k c _ hnum hr)

/-- the same for any JSON-representable mapping (e.g. one that was itself loaded), not only built ones -/
theorem C03_bytes_parsed_payload (lim : Nat) (k : Kind) (v0 : PyVal) (c : ComposeT) (p : PyVal) (hp : jsonRep p = true)
    (hv : composeValidate c.toObj = .ok ())
    (hnum : JsonParse.numsOk lim p = true) (hr : JsonParse.intFits lim c.respin = true) :
    ∃ t rt, roundtrip k { version := v0, compose := c.toObj, payload := p } = .ok rt ∧ rt.text1 = t ∧ rt.text2 = t
      ∧ (JsonParse.parseWith lim t).bind (deserialize k) = .ok rt.reloaded := by
  obtain ⟨rt, h1, _, _, _, _, h6⟩ := C03_roundtrip_payload k v0 c p hp hv
  obtain ⟨doc, _, hd, hds, _, e1, _⟩ := (roundtrip_ok _ _).elim h1
  rw [dumpDoc_eq k v0 c p hv] at hd
  cases hd
  refine ⟨rt.text1, rt, h1, rfl, h6, ?_⟩
  rw [e1, JsonParse.parseWith_dumps lim _ (jsonRep_docOf k c p hp) (numsOk_docOf lim k c p hnum hr)]
  exact hds

/-- non-vacuity: the example history satisfies the number side condition under CPython's default limit, and the
kernel runs the modelled parser on the text of the example manifest: it reads back the key-sorted document -/
example : JsonParse.numsOk JsonParse.defaultLimit (runOps empty exampleOps) = true
    ∧ JsonParse.intFits JsonParse.defaultLimit exampleCompose.respin = true := example_facts.numbers_ok

example : (match (dumpDoc .rpms { version := .str (lit "0.0"), compose := exampleCompose.toObj,
                                  payload := runOps empty exampleOps }).2 with
    | .ok doc => (match JsonParse.parse (JsonText.dumps doc) with
                  | .ok w => PyVal.beq w (reparse doc) | .error _ => false)
    | .error _ => false) = true := example_facts.parsed_back

end PM.Mf
