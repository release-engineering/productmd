import ProductMD.Proofs.NvraFix
/-!
# C13 — RPM `name-[epoch:]version-release.arch` strings are parsed back to their parts

Model: `parseNvra` (Model/Nvra.lean) = what `productmd.common.parse_nvra` does: strip `.rpm`, run the generated
`RPM_NVRA_RE` through the backtracking engine model (`pyMatch`: first success in CPython's priority order), read the
named groups, `epoch or 0`, `int()`.  The theorems are about that regex-driven function and hold for strings of any
length; `Spec.parseNvraDirect` describes it on every string (`C13_parser_exact`), and the documented shape is a
special case of that description.
-/
namespace PM
open PM.NvraProof PM.Dec PM.Str

/-- The pattern and group table regenerated from the source are the ones the proofs decompose. -/
theorem C13_pattern : Gen.re_common_RPM_NVRA_RE = Spec.nvra
    ∧ Gen.re_common_RPM_NVRA_RE_groups = Spec.nvraGroups := by decide +kernel

/-- No architecture of the library's table contains `-`, `.`, `/` or a line feed, and none is `rpm`. -/
theorem C13_arches : ∀ a ∈ Gen.RPM_ARCHES, '-' ∉ a ∧ '.' ∉ a ∧ '/' ∉ a ∧ '\n' ∉ a ∧ a ≠ ['r', 'p', 'm'] := by
  decide +kernel

/-- `[dir]name-[epoch:]version-release.arch[.rpm]` -/
def fmtNvra (dir name : Str) (ep : Option Nat) (ver rel arch : Str) (rpm : Bool) : Str :=
  dir ++ fmtBase name ep ver rel arch ++ (if rpm then ['.', 'r', 'p', 'm'] else [])

theorem fmtNvra_strip (dir name : Str) (ep : Option Nat) (ver rel arch : Str) (rpm : Bool)
    (hdot : '.' ∉ arch) (hrpm : rpm = false → arch ≠ ['r', 'p', 'm']) :
    stripRpm (fmtNvra dir name ep ver rel arch rpm) = dir ++ fmtBase name ep ver rel arch := by
  cases rpm with
  | true => simp only [fmtNvra, if_true]; exact stripRpm_suffix _
  | false =>
    simp only [fmtNvra, Bool.false_eq_true, if_false, List.append_nil]
    have := stripRpm_other (dir ++ (name ++ '-' :: (epStr ep ++ (ver ++ '-' :: rel)))) arch hdot (hrpm rfl)
    simpa [fmtBase] using this

/-- **Exact behaviour of `parse_nvra` on EVERY string** (any length, any content: odd names, several slashes, colons,
line feeds, Unicode digits; no domain hypothesis): the regex-driven `parseNvra` equals the directly written
`Spec.parseNvraDirect` —
strip one trailing `.rpm`; look only at the first line, and require that nothing or a single final line feed follows it;
drop the directory through the LAST `/` after which the rest still parses (otherwise no directory is dropped at all);
name = up to the last `-` after which `[epoch:]version-release.arch` can still be found; epoch = the whole leading digit
run, when it is not empty and a `:` follows it (what follows the colon must then split by itself: the retry without
epoch that `Spec.p4` copies from the regex's `(…)?` never finds anything); version = up to the
last `-` that still has a `.` to its right; release = up to the last `.`; arch = the rest; `int()` of the epoch. -/
theorem C13_parser_exact (s : Str) : parseNvra s = Spec.parseNvraDirect s := by
  unfold parseNvra Spec.parseNvraDirect
  obtain ⟨d, hd⟩ := PM.NvraExact.nvra_exact (stripRpm s)
  simp only
  rw [C13_pattern.1, hd]
  cases h : Spec.p1 (isEol ((stripRpm s).dropWhile Cls.any.mem)) ((stripRpm s).takeWhile Cls.any.mem) with
  | none => rfl
  | some q =>
    simp only [Option.map_some, nvraOfCaps, C13_pattern.2]
    obtain ⟨h1, h2, h3, h4, h5⟩ := PM.NvraExact.groups_exact q d
    simp only [h1, h2, h3, h4, h5]
    obtain ⟨n, ep, v, rl, a⟩ := q
    cases ep with
    | none => rfl
    | some D =>
      have hne := PM.NvraFix.p1_epoch_ne h
      cases D with
      | nil => exact absurd rfl hne
      | cons d0 ds => rfl

/-- Corollary: a string in which anything but one final line feed follows the first line is refused, whatever it
contains (`.` does not match a line feed, `$` only matches at the end or before a final line feed). -/
theorem C13_multiline_refused (s : Str) (h : isEol ((stripRpm s).dropWhile Cls.any.mem) = false) :
    parseNvra s = .error .valueError := by
  rw [C13_parser_exact]
  unfold Spec.parseNvraDirect
  simp only [h, PM.NvraExact.p1_false]

theorem parseNvra_fmt (dir name : Str) (ep : Option Nat) (ver rel arch : Str) (rpm : Bool)
    (h : Dom dir name ep ver rel arch) (hrpm : rpm = false → arch ≠ ['r', 'p', 'm']) :
    parseNvra (fmtNvra dir name ep ver rel arch rpm) =
      (match ep with | none => (.ok 0 : Except Err Nat) | some e => pyIntDigits (natStr e)).map fun E =>
        { name := some name, epoch := E, version := some ver, release := some rel, arch := some arch } := by
  have hnl : '\n' ∉ dir ++ fmtBase name ep ver rel arch := by
    rw [List.mem_append, not_or]
    exact ⟨h.dir_nl, PM.NvraFix.not_mem_fmtBase (by decide) (by decide) (by decide) h.name_nl h.ver_nl h.rel_nl h.arch_nl⟩
  obtain ⟨hl1, hl2⟩ := PM.NvraFix.line_of_no_nl hnl
  rw [C13_parser_exact]
  unfold Spec.parseNvraDirect
  simp only [fmtNvra_strip _ _ _ _ _ _ _ h.arch_dot hrpm, hl1, hl2]
  rw [show isEol ([] : Str) = true from rfl, PM.NvraFix.p1_fmt h]
  cases ep <;> rfl

/-- The excluded region of the full statement: CPython's `int()` refuses more than 4300 digits. -/
def EpochWithinIntLimit (ep : Option Nat) : Prop := ∀ e, ep = some e → (natStr e).length ≤ intMaxStrDigits

/-
FULL STATEMENT (false of the code for epochs ≥ 10^4300, see `C13_parse_epoch_limit`):
  ∀ dir name ep ver rel arch rpm, Dom … → parseNvra (fmtNvra …) = .ok ⟨name, ep.getD 0, ver, rel, arch⟩
-/
/-- **Parts are recovered**, for every string of the documented shape, of any length:
directory prefix empty or ending in `/` (no line feed); name free of `/` and line feed (dashes, all-digit segments,
anything else allowed); epoch absent or any natural number printed in decimal; version and release free of `-`, `/`,
line feed (version free of `:` when no epoch is given); architecture free of `-`, `.`, `/`, line feed; with or without
`.rpm` (without: the architecture is not literally `rpm`). -/
theorem C13_parse_partial (dir name : Str) (ep : Option Nat) (ver rel arch : Str) (rpm : Bool)
    (h : Dom dir name ep ver rel arch) (hrpm : rpm = false → arch ≠ ['r', 'p', 'm'])
    (hlim : EpochWithinIntLimit ep) :
    parseNvra (fmtNvra dir name ep ver rel arch rpm)
      = .ok { name := some name, epoch := ep.getD 0, version := some ver, release := some rel, arch := some arch } := by
  rw [parseNvra_fmt dir name ep ver rel arch rpm h hrpm]
  cases ep with
  | none => rfl
  | some e => simp only [pyIntDigits_natStr e (hlim e rfl)]; rfl

/-- Witness theorem for the excluded region: beyond the interpreter's limit the same input raises `ValueError`
(known finding F21; replayed on the real code by the harness with a 4301-digit epoch). -/
theorem C13_parse_epoch_limit (dir name : Str) (e : Nat) (ver rel arch : Str) (rpm : Bool)
    (h : Dom dir name (some e) ver rel arch) (hrpm : rpm = false → arch ≠ ['r', 'p', 'm'])
    (hbig : intMaxStrDigits < (natStr e).length) :
    parseNvra (fmtNvra dir name (some e) ver rel arch rpm) = .error .valueError := by
  rw [parseNvra_fmt dir name (some e) ver rel arch rpm h hrpm]
  simp only [pyIntDigits_natStr_limit e hbig]; rfl

/-- **Canonical re-formatting is a fixed point for EVERY parse result**, not only on the documented shape: whatever
string `s` parses (odd names, slashes or colons in version/release/arch, Unicode digits or leading zeros in the epoch,
a final line feed …), the parts re-formatted as `name-epoch:version-release.arch` parse to the same parts.  The one
exception is an architecture that is literally `rpm` (the canonical string then ends in `.rpm`, which is stripped). -/
theorem C13_fixpoint_exact (s : Str) (p : Nvra) (h : parseNvra s = .ok p) (ha : p.arch ≠ some ['r', 'p', 'm']) :
    parseNvra (canonNvra p) = .ok p := by
  rw [C13_parser_exact] at h ⊢
  obtain ⟨n, ep, v, rl, a, E, hp1, rfl, hlen⟩ := PM.NvraFix.parseNvraDirect_ok h
  rw [PM.NvraFix.canonNvra_eq]
  exact PM.NvraFix.parseNvraDirect_canon (PM.NvraExact.line_split (stripRpm s)).2.1 hp1 hlen fun e => ha (by rw [e])

/-- What `Rpms._check_nevra` does outside the documented shape (the mechanism of finding F31, owned by C12): the
"epoch is present" test is `':' in nevra`, so a colon in the directory part lets a name WITHOUT epoch through; it is
filed under epoch 0. -/
theorem C13_check_nevra_colon_elsewhere_witness :
    (checkNevra "a:b/foo-1.0-1.src".toList).toOption
      = some ("foo-0:1.0-1.src".toList,
              { name := some "foo".toList, epoch := 0, version := some "1.0".toList, release := some "1".toList,
                arch := some "src".toList }) := by decide +kernel

def nameChar (c : Char) : Bool := c.isAlphanum || c == '.' || c == '_' || c == '+' || c == '-'
def vrChar (c : Char) : Bool := c.isAlphanum || c == '.' || c == '_' || c == '+' || c == '~' || c == '^'

theorem not_mem_of_all {p : Char → Bool} {s : Str} {x : Char} (h : ∀ c ∈ s, p c = true) (hx : p x = false) : x ∉ s :=
  fun hm => by rw [h x hm] at hx; cases hx

/-- The statement with the quantifier of the property: names made of dash-separated segments over letters, digits,
`.`, `_`, `+` (all-digit segments included; segments need not even be non-empty), versions and releases over letters,
digits, `.`, `_`, `+`, `~`, `^`, every architecture of the regenerated `RPM_ARCHES`, any directory prefix. -/
theorem C13_parse_table_partial (dir name : Str) (ep : Option Nat) (ver rel arch : Str) (rpm : Bool)
    (hdir : dir = [] ∨ ∃ d, dir = d ++ ['/']) (hdirnl : '\n' ∉ dir)
    (hname : ∀ c ∈ name, nameChar c = true) (hver : ∀ c ∈ ver, vrChar c = true) (hrel : ∀ c ∈ rel, vrChar c = true)
    (harch : arch ∈ Gen.RPM_ARCHES) (hlim : EpochWithinIntLimit ep) :
    parseNvra (fmtNvra dir name ep ver rel arch rpm)
      = .ok { name := some name, epoch := ep.getD 0, version := some ver, release := some rel, arch := some arch } := by
  obtain ⟨a1, a2, a3, a4, a5⟩ := C13_arches arch harch
  exact C13_parse_partial dir name ep ver rel arch rpm
    { dir_shape := hdir, dir_nl := hdirnl
      name_nl := not_mem_of_all hname (by decide), name_slash := not_mem_of_all hname (by decide)
      ver_nl := not_mem_of_all hver (by decide), ver_slash := not_mem_of_all hver (by decide)
      ver_dash := not_mem_of_all hver (by decide), ver_colon := fun _ => not_mem_of_all hver (by decide)
      rel_nl := not_mem_of_all hrel (by decide), rel_slash := not_mem_of_all hrel (by decide)
      rel_dash := not_mem_of_all hrel (by decide)
      arch_nl := a4, arch_slash := a3, arch_dash := a1, arch_dot := a2 } (fun _ => a5) hlim

/-- **Canonical re-formatting then parsing is a fixed point**: the parts parsed from any string of the documented
shape, re-formatted as `name-epoch:version-release.arch` (`Rpms._check_nevra`), parse to the same parts. -/
theorem C13_fixpoint_partial (dir name : Str) (ep : Option Nat) (ver rel arch : Str) (rpm : Bool)
    (h : Dom dir name ep ver rel arch) (harch : arch ≠ ['r', 'p', 'm']) (hlim : EpochWithinIntLimit ep) :
    ∃ p, parseNvra (fmtNvra dir name ep ver rel arch rpm) = .ok p ∧ parseNvra (canonNvra p) = .ok p := by
  have hp := C13_parse_partial dir name ep ver rel arch rpm h (fun _ => harch) hlim
  exact ⟨_, hp, C13_fixpoint_exact _ _ hp (by simpa using harch)⟩

/-- **The key `Rpms.add` files a package under** (`Rpms._check_nevra`): for a string of the documented shape that
carries an epoch, the canonical `name-epoch:version-release.arch` together with the parts; and that key is a fixed
point of the key computation. -/
theorem C13_check_nevra_partial (dir name : Str) (e : Nat) (ver rel arch : Str) (rpm : Bool)
    (h : Dom dir name (some e) ver rel arch) (harch : arch ≠ ['r', 'p', 'm']) (hlim : EpochWithinIntLimit (some e)) :
    let p : Nvra := { name := some name, epoch := e, version := some ver, release := some rel, arch := some arch }
    checkNevra (fmtNvra dir name (some e) ver rel arch rpm) = .ok (canonNvra p, p)
    ∧ checkNevra (canonNvra p) = .ok (canonNvra p, p) := by
  intro p
  have h1 := C13_parse_partial dir name (some e) ver rel arch rpm h (fun _ => harch) hlim
  constructor
  · have : (fmtNvra dir name (some e) ver rel arch rpm).contains ':' = true := by
      simp [fmtNvra, fmtBase, epStr]
    simp only [checkNevra, this, h1]
    rfl
  · have h2 : parseNvra (canonNvra p) = .ok p := C13_fixpoint_exact _ p h1 (by simpa [p] using harch)
    have : (canonNvra p).contains ':' = true := by simp [p, canonNvra]
    simp only [checkNevra, this, h2]
    rfl

example : Dom "Packages/g/".toList "glibc-common-2".toList (some 12) "2.17".toList "78.el7".toList "x86_64".toList :=
  { dir_shape := Or.inr ⟨"Packages/g".toList, rfl⟩, dir_nl := by decide, name_nl := by decide, name_slash := by decide,
    ver_nl := by decide, ver_slash := by decide, ver_dash := by decide, ver_colon := (fun h => by cases h),
    rel_nl := by decide, rel_slash := by decide, rel_dash := by decide, arch_nl := by decide, arch_slash := by decide,
    arch_dash := by decide, arch_dot := by decide }
example : EpochWithinIntLimit (some 12) := by intro e he; cases he; decide
example : (parseNvra "Packages/g/glibc-common-2-12:2.17-78.el7.x86_64.rpm".toList).toOption
    = some { name := some "glibc-common-2".toList, epoch := 12, version := some "2.17".toList,
             release := some "78.el7".toList, arch := some "x86_64".toList } := by decide +kernel
example : (match parseNvra "a-1-1".toList with | .error .valueError => true | _ => false) = true := by decide +kernel
example : "x86_64".toList ∈ Gen.RPM_ARCHES := by decide
-- outside the property's domain: a slash after the last admissible split stays in the architecture; a leading digit
-- run with a colon is the epoch, and when what follows the colon does not split nothing parses
example : (Spec.parseNvraDirect "a-1-1.x/b".toList).toOption
    = some { name := some "a".toList, epoch := 0, version := some "1".toList, release := some "1".toList,
             arch := some "x/b".toList } := by decide +kernel
example : (Spec.parseNvraDirect "n-7:v.w".toList).toOption = none := by decide +kernel
example : isEol ("a-1-1.x\n\n".toList.dropWhile Cls.any.mem) = false := by decide

end PM
