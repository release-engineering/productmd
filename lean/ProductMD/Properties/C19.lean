import ProductMD.Proofs.RegexCost
import ProductMD.Generated.Regexes
import ProductMD.Spec.OldPatterns
/-!
# C19 — validation and parsing time grows polynomially with input length

Model: `cost` = number of nodes a backtracking matcher without memoisation visits when *every* alternative
is explored (the upper envelope of a failing `re.match`).  `Re.safe` is a decidable syntactic criterion;
`Gen.matchPatterns` is regenerated from the source on every run.
-/
namespace PM

/-- The bound in closed form, at most `coef r * (n+1) ^ deg r` matcher nodes on an input of length `n`, uniformly in the
fuel, so that it does not depend on how the model is driven. -/
theorem C19_cost_fuel (r : Re) (h : r.safe = true) (f : Nat) (s : Str) :
    cost f r s ≤ r.coef * (s.length + 1) ^ r.deg :=
  Nat.le_trans (safe_bounds r h f _ s (Nat.le_refl _)).2 (r.cB_le s.length)

/-- The bound, for any safe expression and any input (no length bound). -/
theorem C19_cost (r : Re) (h : r.safe = true) (s : Str) :
    pyCost r s ≤ r.coef * (s.length + 1) ^ r.deg :=
  C19_cost_fuel r h s.length s

/-- Every pattern the library hands to `match` is safe (obligation on the generated file). -/
theorem C19_here : ∀ p ∈ Gen.matchPatterns, p.2.safe = true := by decide +kernel

/-- Every pattern handed to another entry point (`re.split`) is a single character class: one class test
per input character, no backtracking at all. -/
theorem C19_split_single_class : ∀ p ∈ Gen.otherPatterns, ∃ k, p.2 = .cls k := by
  intro p hp
  simp only [Gen.otherPatterns, List.mem_cons, List.not_mem_nil, or_false] at hp
  subst hp
  exact ⟨_, rfl⟩

/-- The degrees are low: at most 6 for every pattern in the code (the NVRA pattern; measured growth ≈ 4). -/
theorem C19_degrees : ∀ p ∈ Gen.matchPatterns, p.2.deg ≤ 6 := by decide +kernel

/-- Corollary: every validator/parser pattern of the library is polynomially bounded on every input. -/
theorem C19_all (p : String × Re) (hp : p ∈ Gen.matchPatterns) (s : Str) :
    pyCost p.2 s ≤ p.2.coef * (s.length + 1) ^ 6 := by
  have h1 := C19_cost p.2 (C19_here p hp) s
  have h2 : (s.length + 1) ^ p.2.deg ≤ (s.length + 1) ^ 6 :=
    Nat.pow_le_pow_right (by omega) (C19_degrees p hp)
  exact Nat.le_trans h1 (Nat.mul_le_mul (Nat.le_refl _) h2)

/-- F1 (repaired by a `fix:` commit): the old short-name pattern is not safe and the model reproduces the
blow-up on `a¹¹!`, while the replacement costs a few dozen nodes. -/
theorem C19_old_short_witness :
    Spec.oldShort.safe = false
    ∧ 300000 ≤ pyCost Spec.oldShort (List.replicate 11 'a' ++ ['!'])
    ∧ pyCost Spec.newShort (List.replicate 11 'a' ++ ['!']) ≤ 100 := by decide +kernel

example : Gen.re_common_RPM_NVRA_RE.safe = true ∧ Gen.re_common_RPM_NVRA_RE.deg = 6 := by decide +kernel
example : Gen.re_common_RELEASE_SHORT_RE.deg = 3 ∧ Gen.re_common_RELEASE_SHORT_RE.coef = 16 := by decide +kernel
-- `Spec.newShort` of `C19_old_short_witness` is the library's pattern
example : Gen.re_common_RELEASE_SHORT_RE.strip = Spec.newShort.strip := by decide +kernel

end PM
