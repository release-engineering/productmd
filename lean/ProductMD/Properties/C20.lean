import ProductMD.Model.ComposeDir
import ProductMD.Proofs.C14Str
import ProductMD.Proofs.ExceptLemmas
/-!
# C20 — a compose directory is resolved to the same metadata in every supported layout

Model: `Model/ComposeDir.lean`.  The theorems on local paths are about an arbitrary `World` (any file system, any
`os.listdir` order, any load outcome), those on URL locations about an arbitrary `Net`.  Candidate names, probe names and
the caching shape are regenerated from `compose.py`.
-/
namespace PM
open ComposeDir
open Checksum (pathJoin)

/-- closed facts about the tables regenerated from `compose.py`, evaluated in one declaration (DESIGN.md §3, closed facts) -/
structure C20NameFacts : Prop where
  names :
    candidates "info" = ["metadata/composeinfo.json".toList]
    ∧ candidates "images" = ["metadata/images.json".toList, "metadata/image-manifest.json".toList]
    ∧ candidates "rpms" = ["metadata/rpms.json".toList, "metadata/rpm-manifest.json".toList]
    ∧ candidates "modules" = ["metadata/modules.json".toList]
    ∧ Gen.composeSubdir = "compose".toList ∧ Gen.composeProbe = "metadata/composeinfo.json".toList
    ∧ Gen.composeScanName = "metadata".toList
  relative : ∀ k ∈ ["info", "images", "rpms", "modules"], ∀ x ∈ candidates k, Str.startsWith x ['/'] = false
  accessors :
    Gen.composeAccessors.map (fun a => (a.1, a.2.2.1, a.2.2.2)) =
      [("info", "productmd.composeinfo.ComposeInfo", true), ("images", "productmd.images.Images", true),
       ("rpms", "productmd.rpms.Rpms", true), ("modules", "productmd.modules.Modules", true)]

theorem c20_name_facts : C20NameFacts := by
  suffices h : _ ∧ _ ∧ _ from ⟨h.1, h.2.1, h.2.2⟩
  decide +kernel

/-- the file names each accessor tries, in the order of the source (current name before legacy name), and the names the constructor
probes for -/
theorem C20_names :
    candidates "info" = ["metadata/composeinfo.json".toList]
    ∧ candidates "images" = ["metadata/images.json".toList, "metadata/image-manifest.json".toList]
    ∧ candidates "rpms" = ["metadata/rpms.json".toList, "metadata/rpm-manifest.json".toList]
    ∧ candidates "modules" = ["metadata/modules.json".toList]
    ∧ Gen.composeSubdir = "compose".toList ∧ Gen.composeProbe = "metadata/composeinfo.json".toList
    ∧ Gen.composeScanName = "metadata".toList := c20_name_facts.names

/-- every accessor has the caching shape, and loads with the class of its own format -/
theorem C20_accessors :
    Gen.composeAccessors.map (fun a => (a.1, a.2.2.1, a.2.2.2)) =
      [("info", "productmd.composeinfo.ComposeInfo", true), ("images", "productmd.images.Images", true),
       ("rpms", "productmd.rpms.Rpms", true), ("modules", "productmd.modules.Modules", true)] := c20_name_facts.accessors

/-- `compose/` wins whenever it holds `metadata/composeinfo.json` – whatever else exists (direct `metadata/`,
legacy sub-directories), whatever the listing order -/
theorem C20_compose_preferred (w : World) (cp : Str)
    (h : w.exists (pathJoin (pathJoin cp Gen.composeSubdir) Gen.composeProbe) = true) :
    resolve w cp = .ok (pathJoin cp Gen.composeSubdir) := by
  simp [resolve, h]

/-- no `compose/` metadata and no sub-directory with `metadata`: the path itself is used (direct layout; also for
URLs and for paths that do not exist, where nothing is scanned) -/
theorem C20_direct (w : World) (cp : Str)
    (h1 : w.exists (pathJoin (pathJoin cp Gen.composeSubdir) Gen.composeProbe) = false)
    (h2 : containsSub scheme cp = true ∨ w.exists cp = false ∨
          ∃ ls, w.listdir cp = some ls ∧ ∀ i ∈ ls, w.exists (pathJoin (pathJoin cp i) Gen.composeScanName) = false) :
    resolve w cp = .ok cp := by
  simp only [resolve, h1, Bool.false_eq_true, if_false]
  rcases h2 with h2 | h2 | ⟨ls, hl, hnone⟩
  · simp [h2]
  · simp [h2]
  · have : ls.find? (fun i => w.exists (pathJoin (pathJoin cp i) Gen.composeScanName)) = none :=
      List.find?_eq_none.mpr fun i hi => by simp [hnone i hi]
    simp [hl, this]

/-- legacy layout: for EVERY listing order `ls`, if some listed sub-directory has `metadata`, the chosen compose path
is a listed sub-directory that has `metadata` (the first such in that order) – never the bare path, never a
sub-directory without metadata -/
theorem C20_legacy (w : World) (cp : Str) (ls : List Str)
    (h1 : w.exists (pathJoin (pathJoin cp Gen.composeSubdir) Gen.composeProbe) = false)
    (hs : containsSub scheme cp = false) (he : w.exists cp = true) (hl : w.listdir cp = some ls)
    (hsome : ∃ i ∈ ls, w.exists (pathJoin (pathJoin cp i) Gen.composeScanName) = true) :
    ∃ pre i post, ls = pre ++ i :: post
      ∧ w.exists (pathJoin (pathJoin cp i) Gen.composeScanName) = true
      ∧ (∀ j ∈ pre, w.exists (pathJoin (pathJoin cp j) Gen.composeScanName) = false)
      ∧ resolve w cp = .ok (pathJoin cp i) := by
  simp only [resolve, h1, hs, he, hl, Bool.false_eq_true, if_false, Bool.not_false, Bool.and_self, if_true]
  cases hf : ls.find? (fun i => w.exists (pathJoin (pathJoin cp i) Gen.composeScanName)) with
  | none =>
    exfalso
    obtain ⟨i, hi, hm⟩ := hsome
    rw [List.find?_eq_none] at hf
    exact hf i hi hm
  | some i =>
    rw [List.find?_eq_some_iff_append] at hf
    obtain ⟨hm, pre, post, hls, hpre⟩ := hf
    refine ⟨pre, i, post, hls, hm, ?_, rfl⟩
    intro j hj
    have := hpre j hj
    simpa using this

/-- a path that is not a directory: the OSError of `os.listdir` propagates from the constructor -/
theorem C20_not_a_directory (w : World) (cp : Str)
    (h1 : w.exists (pathJoin (pathJoin cp Gen.composeSubdir) Gen.composeProbe) = false)
    (hs : containsSub scheme cp = false) (he : w.exists cp = true) (hl : w.listdir cp = none) :
    resolve w cp = .error .other := by
  simp [resolve, h1, hs, he, hl]

theorem endsWith_snoc (cp : Str) (c : Char) : Str.endsWith (cp ++ [c]) [c] = true :=
  (C14.endsWith_iff _ _).mpr (List.suffix_append cp [c])

theorem pathJoin_slash (cp x : Str) (hne : cp ≠ []) (hns : Str.endsWith cp ['/'] = false) :
    pathJoin (cp ++ ['/']) x = pathJoin cp x := by
  unfold pathJoin
  split
  · rfl
  · simp [endsWith_snoc, hne, hns]

/-- with or without a trailing slash the same metadata files are addressed: every path the accessors build from the
resolved compose path is the same string (hypotheses: what a POSIX file system guarantees for a directory –
`exists` and `listdir` do not care about the trailing slash) -/
theorem C20_slash (w : World) (cp : Str) (hne : cp ≠ []) (hns : Str.endsWith cp ['/'] = false)
    (hsch : containsSub scheme (cp ++ ['/']) = containsSub scheme cp)
    (hex : w.exists (cp ++ ['/']) = w.exists cp) (hls : w.listdir (cp ++ ['/']) = w.listdir cp) (rel : Str) :
    (resolve w (cp ++ ['/'])).map (fun p => pathJoin p rel) = (resolve w cp).map (fun p => pathJoin p rel) := by
  have hj : ∀ x, pathJoin (cp ++ ['/']) x = pathJoin cp x := fun x => pathJoin_slash cp x hne hns
  simp only [resolve, hj, hsch, hex, hls]
  split
  · rfl
  · split
    · cases w.listdir cp with
      | none => rfl
      | some ls =>
        simp only
        cases ls.find? (fun i => w.exists (pathJoin (pathJoin cp i) Gen.composeScanName)) with
        | some i => rfl
        | none => simp [Except.map, hj]
    · simp [Except.map, hj]

theorem key_slash (cp : Str) (hne : cp ≠ []) : key (cp ++ ['/']) = key cp := by
  unfold key
  rw [C14.splitOn_append_sep_right cp List.not_mem_nil]
  cases cp with
  | nil => exact absurd rfl hne
  | cons c cs => simp [Str.startsWith, List.isPrefixOf]

/-- trailing slash on a concrete tree: the two hypotheses of `C20_slash` on the world are proved here; left are `hsch` as
there and that the path is not a regular file -/
theorem C20_slash_tree (nodes : List ((Bool × List Str) × Bool)) (orders : List ((Bool × List Str) × List Str))
    (loads : List ((Kind × (Bool × List Str)) × Except Err Str))
    (cp : Str) (hne : cp ≠ []) (hns : Str.endsWith cp ['/'] = false)
    (hsch : containsSub scheme (cp ++ ['/']) = containsSub scheme cp)
    (hfile : nodes.lookup (key cp) ≠ some false) (rel : Str) :
    (resolve (World.ofTree nodes orders loads) (cp ++ ['/'])).map (fun p => pathJoin p rel)
      = (resolve (World.ofTree nodes orders loads) cp).map (fun p => pathJoin p rel) := by
  apply C20_slash _ cp hne hns hsch
  · simp only [World.ofTree, key_slash cp hne, endsWith_snoc, hns]
    cases hl : nodes.lookup (key cp) with
    | none => rfl
    | some d =>
      cases d with
      | true => rfl
      | false => exact absurd hl hfile
  · simp only [World.ofTree, key_slash cp hne]

/-- `_find_metadata_file` returns the first candidate that exists -/
theorem C20_find_first (w : World) (p : Str) (pre : List Str) (c : Str) (post : List Str)
    (hpre : ∀ x ∈ pre, w.exists (pathJoin p x) = false) (hc : w.exists (pathJoin p c) = true) :
    find w p (pre ++ c :: post) = .ok (pathJoin p c) := by
  unfold find
  have : (pre ++ c :: post).find? (fun i => w.exists (pathJoin p i)) = some c := by
    rw [List.find?_eq_some_iff_append]
    exact ⟨hc, pre, post, rfl, fun x hx => by simp [hpre x hx]⟩
  simp [this]

/-- the current file name is used whenever it exists, even when the legacy one exists too; the legacy name is used
only when the current one is absent (images and rpms alike) -/
theorem C20_current_before_legacy (w : World) (p : Str) :
    (w.exists (pathJoin p "metadata/images.json".toList) = true →
        find w p (candidates "images") = .ok (pathJoin p "metadata/images.json".toList))
    ∧ (w.exists (pathJoin p "metadata/images.json".toList) = false →
       w.exists (pathJoin p "metadata/image-manifest.json".toList) = true →
        find w p (candidates "images") = .ok (pathJoin p "metadata/image-manifest.json".toList))
    ∧ (w.exists (pathJoin p "metadata/rpms.json".toList) = true →
        find w p (candidates "rpms") = .ok (pathJoin p "metadata/rpms.json".toList))
    ∧ (w.exists (pathJoin p "metadata/rpms.json".toList) = false →
       w.exists (pathJoin p "metadata/rpm-manifest.json".toList) = true →
        find w p (candidates "rpms") = .ok (pathJoin p "metadata/rpm-manifest.json".toList)) := by
  obtain ⟨_, hi, hr, _⟩ := C20_names
  rw [hi, hr]
  refine ⟨fun h => ?_, fun h1 h2 => ?_, fun h => ?_, fun h1 h2 => ?_⟩
  · exact C20_find_first w p [] _ _ (by simp) h
  · exact C20_find_first w p [_] _ [] (by simpa using h1) h2
  · exact C20_find_first w p [] _ _ (by simp) h
  · exact C20_find_first w p [_] _ [] (by simpa using h1) h2

theorem access_ok {w : World} {s s1 : State} {k : Kind} {o : Obj} (hc : s.cache k = none) (h : access w s k = (s1, .ok o)) :
    ∃ path text, find w s.composePath (candidates k) = .ok path ∧ w.load k path = .ok text ∧
      o = ⟨s.loads.length, k, path, text⟩ ∧ s1.loads = s.loads ++ [(k, path)] ∧
      s1.cache = if cachedKind k then fun k' => if k' = k then some o else s.cache k' else s.cache := by
  rw [access, hc] at h
  cases hf : find w s.composePath (candidates k) with
  | error e => rw [hf] at h; cases h
  | ok path =>
    cases hl : w.load k path with
    | error e => simp only [hf, hl] at h; split at h <;> cases h
    | ok text =>
      refine ⟨path, text, rfl, hl, ?_⟩
      simp only [hf, hl] at h
      split at h <;> cases h <;> simp [*]

/-- a successful first access returns exactly what loading the found file directly gives -/
theorem C20_equals_direct_load (w : World) (s s1 : State) (k : Kind) (o : Obj)
    (hc : s.cache k = none) (h : access w s k = (s1, .ok o)) :
    find w s.composePath (candidates k) = .ok o.path ∧ w.load k o.path = .ok o.text ∧ o.kind = k
    ∧ s1.loads = s.loads ++ [(k, o.path)] := by
  obtain ⟨path, text, hf, hl, rfl, hloads, -⟩ := access_ok hc h
  exact ⟨hf, hl, rfl, hloads⟩

/-- after a successful access the object is cached (all four accessors have the caching shape) -/
theorem C20_cached_after (w : World) (s s1 : State) (k : Kind) (o : Obj) (hk : cachedKind k = true)
    (h : access w s k = (s1, .ok o)) : s1.cache k = some o := by
  cases hc : s.cache k with
  | some o' =>
    rw [access, hc] at h
    cases h; exact hc
  | none =>
    obtain ⟨-, -, -, -, -, -, hcache⟩ := access_ok hc h
    rw [hcache, if_pos hk, if_pos rfl]

/-- one further access of ANY accessor keeps a cached object and does not load its kind again -/
theorem C20_cached_step (w : World) (s : State) (k : Kind) (o : Obj) (hc : s.cache k = some o) (k' : Kind) :
    (access w s k').1.cache k = some o ∧ loadCount (access w s k').1 k = loadCount s k
    ∧ (k' = k → (access w s k').2 = .ok o) := by
  by_cases hk : k' = k
  · subst hk
    simp [access, hc]
  · -- another kind: whichever way the access ends, it writes the cache at `k'` only and logs a load of kind `k'` at most
    have hne : (k' == k) = false := by simp [hk]
    have hk' : k ≠ k' := Ne.symm hk
    unfold access
    split
    · simp [hc, hk]
    · split
      · simp [hc, hk]
      · -- a file was found: `(k', path)` is logged, which `loadCount · k` does not count (`hne`); of the four outcomes (load
        -- ok and `k'` a cached kind or not, load error wrapped or not) only the first writes the cache, at `k'` (`hk'`)
        split <;> split <;> simp [hc, hk, hk', loadCount, List.filter_append, hne]

/-- **Loaded once, then reused**: after an object of kind `k` is cached, over ANY further sequence of accesses
(of any accessors, failing or not) every access of `k` returns that very object and `k` is never loaded again -/
theorem C20_cached (w : World) (k : Kind) (o : Obj) :
    ∀ (ks : List Kind) (s : State), s.cache k = some o →
      (accessAll w s ks).1.cache k = some o
      ∧ loadCount (accessAll w s ks).1 k = loadCount s k
      ∧ ∀ r ∈ (ks.zip (accessAll w s ks).2), r.1 = k → r.2 = .ok o := by
  intro ks
  induction ks with
  | nil => intro s hc; simp [accessAll, hc]
  | cons k' rest ih =>
    intro s hc
    obtain ⟨h1, h2, h3⟩ := C20_cached_step w s k o hc k'
    obtain ⟨i1, i2, i3⟩ := ih (access w s k').1 h1
    simp only [accessAll]
    refine ⟨i1, by rw [i2, h2], ?_⟩
    intro r hr hk
    simp only [List.zip_cons_cons, List.mem_cons] at hr
    rcases hr with hr | hr
    · subst hr; exact h3 hk
    · exact i3 r hr hk

/-- …and the reuse does not depend on the file system any more: whatever the world has become (the file deleted,
replaced, the directory gone), an access of a cached kind returns the cached object and loads nothing -/
theorem C20_cached_any_world (w' : World) (s : State) (k : Kind) (o : Obj) (hc : s.cache k = some o) :
    access w' s k = (s, .ok o) := by
  simp [access, hc]

/-- no candidate file: RuntimeError naming the (resolved) compose path; nothing is loaded or cached -/
theorem C20_errors_missing (w : World) (s : State) (k : Kind) (hc : s.cache k = none)
    (h : ∀ c ∈ candidates k, w.exists (pathJoin s.composePath c) = false) :
    access w s k = (s, .error (.runtime s.composePath)) := by
  have : (candidates k).find? (fun i => w.exists (pathJoin s.composePath i)) = none := by
    rw [List.find?_eq_none]; intro c hc'; simp [h c hc']
  simp [access, hc, find, this]

/-- the exception classes wrapped by `_load_metadata`, as read from its `except` clause (with F20 repaired in /repo; the
clause `except ValueError` of before let KeyError / TypeError / AttributeError escape unwrapped) -/
theorem C20_wrapped_classes :
    Gen.composeWrapped = ["ValueError", "LookupError", "TypeError", "AttributeError"]
    ∧ wrapped .valueError = true ∧ wrapped .keyError = true ∧ wrapped .typeError = true ∧ wrapped .attributeError = true
    ∧ wrapped .indexError = true ∧ wrapped .runtimeError = false ∧ wrapped .other = false := by decide +kernel

/-- the file is there but loading raises an exception of a wrapped class – ValueError (JSON syntax error, undecodable
bytes, wrong metadata type, a failing validator) or KeyError / IndexError / TypeError / AttributeError (well-formed JSON that
is not the expected metadata: `{}`, `[]`, a header without payload, a payload of the wrong type): RuntimeError naming
the FILE; nothing is cached, so a later access tries again -/
theorem C20_errors_undecodable (w : World) (s : State) (k : Kind) (path : Str) (e : Err) (hc : s.cache k = none)
    (hf : find w s.composePath (candidates k) = .ok path) (hl : w.load k path = .error e)
    (he : e = .valueError ∨ e = .keyError ∨ e = .typeError ∨ e = .attributeError ∨ e = .indexError) :
    (access w s k).2 = .error (.runtime path) ∧ (access w s k).1.cache = s.cache := by
  have hw : wrapped e = true := by
    obtain ⟨_, h1, h2, h3, h4, h5, _⟩ := C20_wrapped_classes
    rcases he with he | he | he | he | he <;> subst he <;> assumption
  simp [access, hc, hf, hl, hw]

/-- any exception of a class outside the `except` clause (e.g. an OSError: the candidate is a directory) propagates
unchanged -/
theorem C20_errors_other_propagate (w : World) (s : State) (k : Kind) (path : Str) (e : Err) (hc : s.cache k = none)
    (hf : find w s.composePath (candidates k) = .ok path) (hl : w.load k path = .error e) (he : wrapped e = false) :
    (access w s k).2 = .error (.other e) := by
  simp [access, hc, hf, hl, he]

/-- what the accessors did before the F20 fix (`except ValueError` only), stated on the predicate itself: with that
clause a KeyError – what `{}` raises – is not wrapped -/
theorem C20_preF20_witness :
    ((errBases .keyError).any (fun c => ["ValueError"].contains c)) = false
    ∧ ((errBases .valueError).any (fun c => ["ValueError"].contains c)) = true := by decide +kernel

/-- a concrete tree with all three layouts at once -/
def exampleWorld : World :=
  World.ofTree
    [((false, ["P".toList]), true), ((false, ["P".toList, "compose".toList]), true),
     ((false, ["P".toList, "compose".toList, "metadata".toList]), true),
     ((false, ["P".toList, "compose".toList, "metadata".toList, "composeinfo.json".toList]), false),
     ((false, ["P".toList, "compose".toList, "metadata".toList, "image-manifest.json".toList]), false),
     ((false, ["P".toList, "metadata".toList]), true), ((false, ["P".toList, "1.0".toList]), true),
     ((false, ["P".toList, "1.0".toList, "metadata".toList]), true)]
    [((false, ["P".toList]), ["1.0".toList, "metadata".toList, "compose".toList])]
    [(("images", (false, ["P".toList, "compose".toList, "metadata".toList, "image-manifest.json".toList])), .ok "doc".toList)]

-- to let the kernel decide the closed equations below
attribute [local instance] decEqExcept

structure C20WorldFacts : Prop where
  resolved : resolve exampleWorld "P".toList = .ok "P/compose".toList
  resolved_slash : resolve exampleWorld "P/".toList = .ok "P/compose".toList
  images :
    (access exampleWorld { composePath := "P/compose".toList } "images").2
      = .ok ⟨0, "images", "P/compose/metadata/image-manifest.json".toList, "doc".toList⟩
  rpms : (access exampleWorld { composePath := "P/compose".toList } "rpms").2 = .error (.runtime "P/compose".toList)

theorem c20_world_facts : C20WorldFacts := by
  suffices h : _ ∧ _ ∧ _ ∧ _ from ⟨h.1, h.2.1, h.2.2.1, h.2.2.2⟩
  decide +kernel

example : resolve exampleWorld "P".toList = .ok "P/compose".toList := c20_world_facts.resolved
example : resolve exampleWorld "P/".toList = .ok "P/compose".toList := c20_world_facts.resolved_slash
example : (access exampleWorld { composePath := "P/compose".toList } "images").2
    = .ok ⟨0, "images", "P/compose/metadata/image-manifest.json".toList, "doc".toList⟩ := c20_world_facts.images
example : (access exampleWorld { composePath := "P/compose".toList } "rpms").2 = .error (.runtime "P/compose".toList) :=
  c20_world_facts.rpms

/-- what the source says a URL is, in `_file_exists` and in `open_file_obj` (the same tuple), which exceptions of the fetch
mean "absent", the shape of the two functions, and the mark that disables the legacy scan -/
theorem C20_url_schemes :
    Gen.urlSchemesExists = ["http://".toList, "https://".toList, "ftp://".toList]
    ∧ Gen.urlSchemesOpen = Gen.urlSchemesExists
    ∧ Gen.urlExistsCatches = ["URLError"]
    ∧ Gen.urlExistsShape = true ∧ Gen.urlOpenShape = true
    ∧ Gen.composeUrlMark = scheme := by decide +kernel

theorem isUrl_append (sch : List Str) (a b : Str) (h : isUrl sch a = true) : isUrl sch (a ++ b) = true := by
  simp only [isUrl, List.any_eq_true] at h ⊢
  obtain ⟨s, hs, hp⟩ := h
  exact ⟨s, hs, List.isPrefixOf_iff_prefix.mpr ((List.isPrefixOf_iff_prefix.mp hp).trans (List.prefix_append a b))⟩

theorem isUrl_pathJoin (sch : List Str) (a b : Str) (hb : Str.startsWith b ['/'] = false) (h : isUrl sch a = true) :
    isUrl sch (pathJoin a b) = true := by
  unfold pathJoin
  simp only [hb, Bool.false_eq_true, if_false]
  split
  · exact isUrl_append sch a b h
  · exact isUrl_append sch a ('/' :: b) h

theorem containsSub_iff (nd : Str) : ∀ s : Str, containsSub nd s = true ↔ nd <:+: s
  | [] => by simp [containsSub]
  | c :: cs => by
    rw [containsSub, Bool.or_eq_true, List.isPrefixOf_iff_prefix, containsSub_iff nd cs, List.infix_cons_iff]

theorem containsSub_of_prefix (nd : Str) : ∀ (s : Str), nd.isPrefixOf s = true → containsSub nd s = true :=
  fun s h => (containsSub_iff nd s).mpr (List.isPrefixOf_iff_prefix.mp h).isInfix

/-- every URL (as `_file_exists` sees it) contains the mark that `Compose.__init__` tests: both facts read from the source -/
theorem C20_url_has_mark (cp : Str) (h : isUrl Gen.urlSchemesExists cp = true) : containsSub Gen.composeUrlMark cp = true := by
  simp only [isUrl, List.any_eq_true] at h
  obtain ⟨s, hs, hp⟩ := h
  have hall : ∀ s ∈ Gen.urlSchemesExists, containsSub Gen.composeUrlMark s = true := by decide
  -- the mark occurs in the scheme, and the scheme is a prefix of `cp`
  exact (containsSub_iff _ cp).mpr (((containsSub_iff _ s).mp (hall s hs)).trans (List.isPrefixOf_iff_prefix.mp hp).isInfix)

/-- `_file_exists` on a URL, with the except clause read from the source evaluated: a response means present, URLError
means absent, every other exception propagates -/
theorem C20_url_exists (w : World) (n : Net) (log : FLog) (p : Str) (h : isUrl Gen.urlSchemesExists p = true) :
    existsU w n log p =
      match n.fetch p (seen log p) with
      | .ok _ => (log ++ [⟨p, true⟩], .ok true)
      | .urlError => (log ++ [⟨p, false⟩], .ok false)
      | .other e => (log ++ [⟨p, false⟩], .error e) := by
  unfold existsU
  simp only [h, if_true]
  cases hf : n.fetch p (seen log p) with
  | ok r => rfl
  | urlError =>
    have hc : ((fetchBases Fetch.urlError).any fun c => Gen.urlExistsCatches.contains c) = true := by decide
    exact if_pos hc
  | other e =>
    have hc : ¬ ((fetchBases (Fetch.other e)).any fun c => Gen.urlExistsCatches.contains c) = true := by
      cases e <;> decide
    exact if_neg hc

theorem resolveU_url (w : World) (n : Net) (cp : Str) (h : isUrl Gen.urlSchemesExists cp = true) :
    resolveU w n cp =
      match n.fetch (pathJoin (pathJoin cp Gen.composeSubdir) Gen.composeProbe) 0 with
      | .ok _ => ([⟨pathJoin (pathJoin cp Gen.composeSubdir) Gen.composeProbe, true⟩], .ok (pathJoin cp Gen.composeSubdir))
      | .urlError => ([⟨pathJoin (pathJoin cp Gen.composeSubdir) Gen.composeProbe, false⟩], .ok cp)
      | .other e => ([⟨pathJoin (pathJoin cp Gen.composeSubdir) Gen.composeProbe, false⟩], .error e) := by
  have hm := C20_url_has_mark cp h
  have hp := isUrl_pathJoin _ _ Gen.composeProbe (by decide) (isUrl_pathJoin _ cp Gen.composeSubdir (by decide) h)
  unfold resolveU
  simp only [C20_url_exists w n [] _ hp, hm, Bool.not_true, Bool.false_and, Bool.false_eq_true, if_false]
  have hs : seen [] (pathJoin (pathJoin cp Gen.composeSubdir) Gen.composeProbe) = 0 := rfl
  rw [hs]
  cases n.fetch (pathJoin (pathJoin cp Gen.composeSubdir) Gen.composeProbe) 0 <;> rfl

/-- a URL location: exactly ONE fetch (the `compose/` probe), no local file-system access at all – the result is the
same in every local world, whatever `listdir` would say – and only two outcomes: `<url>/compose` or the URL itself.
A legacy version-named sub-directory is not discoverable over a URL. -/
theorem C20_url_no_legacy_scan (w w' : World) (n : Net) (cp : Str) (h : isUrl Gen.urlSchemesExists cp = true) :
    resolveU w n cp = resolveU w' n cp
    ∧ (resolveU w n cp).1.length = 1
    ∧ ∀ p, (resolveU w n cp).2 = .ok p → p = cp ∨ p = pathJoin cp Gen.composeSubdir := by
  rw [resolveU_url w n cp h, resolveU_url w' n cp h]
  cases n.fetch (pathJoin (pathJoin cp Gen.composeSubdir) Gen.composeProbe) 0 <;> simp

/-- `compose/` wins over a URL whenever its `metadata/composeinfo.json` can be fetched, whatever else is served -/
theorem C20_url_compose_preferred (w : World) (n : Net) (cp : Str) (r : Str) (h : isUrl Gen.urlSchemesExists cp = true)
    (hf : n.fetch (pathJoin (pathJoin cp Gen.composeSubdir) Gen.composeProbe) 0 = .ok r) :
    (resolveU w n cp).2 = .ok (pathJoin cp Gen.composeSubdir) := by
  rw [resolveU_url w n cp h, hf]

/-- …and when that fetch fails with URLError (HTTP 404, refused, unknown host) the URL itself is the compose path -/
theorem C20_url_direct (w : World) (n : Net) (cp : Str) (h : isUrl Gen.urlSchemesExists cp = true)
    (hf : n.fetch (pathJoin (pathJoin cp Gen.composeSubdir) Gen.composeProbe) 0 = .urlError) :
    (resolveU w n cp).2 = .ok cp := by
  rw [resolveU_url w n cp h, hf]

/-- any OTHER failure of that fetch (socket timeout, `http.client` exception, ValueError for a malformed URL) leaves
the CONSTRUCTOR as it is: not "absent", not RuntimeError -/
theorem C20_url_probe_error_propagates (w : World) (n : Net) (cp : Str) (e : Err) (h : isUrl Gen.urlSchemesExists cp = true)
    (hf : n.fetch (pathJoin (pathJoin cp Gen.composeSubdir) Gen.composeProbe) 0 = .other e) :
    (resolveU w n cp).2 = .error e := by
  rw [resolveU_url w n cp h, hf]

/-- trailing slash on a URL: the same URLs are fetched and every path built from the result is the same string
(`os.path.join` adds no second slash).  `http://h/c//` is a different matter: `…//compose` is another URL, and what a
server makes of it is the world's business. -/
theorem C20_url_slash (w : World) (n : Net) (cp : Str) (h : isUrl Gen.urlSchemesExists cp = true)
    (hns : Str.endsWith cp ['/'] = false) (rel : Str) :
    (resolveU w n (cp ++ ['/'])).1 = (resolveU w n cp).1
    ∧ (resolveU w n (cp ++ ['/'])).2.map (fun p => pathJoin p rel) = (resolveU w n cp).2.map (fun p => pathJoin p rel) := by
  have hne : cp ≠ [] := by
    intro h0; subst h0; revert h; decide
  have hj : ∀ x, pathJoin (cp ++ ['/']) x = pathJoin cp x := fun x => pathJoin_slash cp x hne hns
  rw [resolveU_url w n cp h, resolveU_url w n _ (isUrl_append _ cp ['/'] h)]
  simp only [hj]
  cases n.fetch (pathJoin (pathJoin cp Gen.composeSubdir) Gen.composeProbe) 0 <;> simp [Except.map, hj]

/-- **Loaded once, then reused** over a URL: an access of a cached kind returns the cached object whatever the net has
become, performs no fetch and no load (the state, fetch log included, is unchanged) -/
theorem C20_url_cached (w : World) (n : Net) (s : UState) (k : Kind) (o : Obj) (hc : s.cache k = some o) :
    accessU w n s k = (s, .ok o) := by
  simp [accessU, hc]

theorem findU_skip (w : World) (n : Net) (hst : n.stationary) (p : Str) (hp : isUrl Gen.urlSchemesExists p = true) (rest : List Str) :
    ∀ (pre : List Str) (log : FLog), (∀ x ∈ pre, Str.startsWith x ['/'] = false) → (∀ x ∈ pre, n.fetch (pathJoin p x) 0 = .urlError) →
      findU w n p log (pre ++ rest) = findU w n p (log ++ pre.map (fun x => ⟨pathJoin p x, false⟩)) rest
  | [], log, _, _ => by simp
  | x :: pre, log, hrel, hall => by
    have hu := isUrl_pathJoin _ p x (hrel x List.mem_cons_self) hp
    rw [List.cons_append, findU, C20_url_exists w n log _ hu, hst, hall x List.mem_cons_self]
    simp only
    rw [findU_skip w n hst p hp rest pre _ (fun y hy => hrel y (List.mem_cons_of_mem _ hy))
      (fun y hy => hall y (List.mem_cons_of_mem _ hy))]
    simp

/-- candidate names over a URL are tried in the order of the source, exactly as locally: the first one that can be
fetched is used; the earlier ones were fetched (URLError) before it, and nothing after it is fetched -/
theorem C20_url_find_first (w : World) (n : Net) (hst : n.stationary) (p : Str) (hp : isUrl Gen.urlSchemesExists p = true)
    (r : Str) (c : Str) (post : List Str) :
    ∀ (pre : List Str) (log : FLog), (∀ x ∈ pre ++ [c], Str.startsWith x ['/'] = false) →
      (∀ x ∈ pre, n.fetch (pathJoin p x) 0 = .urlError) → n.fetch (pathJoin p c) 0 = .ok r →
      findU w n p log (pre ++ c :: post)
        = (log ++ pre.map (fun x => ⟨pathJoin p x, false⟩) ++ [⟨pathJoin p c, true⟩], .ok (pathJoin p c)) := by
  intro pre log hrel hpre hc
  have hu := isUrl_pathJoin _ p c (hrel c (by simp)) hp
  rw [findU_skip w n hst p hp _ pre log (fun x hx => hrel x (List.mem_append_left _ hx)) hpre, findU,
    C20_url_exists w n _ _ hu, hst, hc]

/-- the candidate names are the same as locally and relative -/
theorem C20_url_names :
    (∀ k ∈ ["info", "images", "rpms", "modules"], ∀ x ∈ candidates k, Str.startsWith x ['/'] = false)
    ∧ candidates "images" = ["metadata/images.json".toList, "metadata/image-manifest.json".toList]
    ∧ candidates "rpms" = ["metadata/rpms.json".toList, "metadata/rpm-manifest.json".toList] :=
  ⟨c20_name_facts.relative, c20_name_facts.names.2.1, c20_name_facts.names.2.2.1⟩

/-- no candidate can be fetched (URLError each): RuntimeError naming the resolved location; every candidate was tried
once, in order -/
theorem C20_url_find_none (w : World) (n : Net) (hst : n.stationary) (p : Str) (hp : isUrl Gen.urlSchemesExists p = true) :
    ∀ (cs : List Str) (log : FLog), (∀ x ∈ cs, Str.startsWith x ['/'] = false) → (∀ x ∈ cs, n.fetch (pathJoin p x) 0 = .urlError) →
      findU w n p log cs = (log ++ cs.map (fun x => ⟨pathJoin p x, false⟩), .error (.runtime p)) := by
  intro cs log hrel hall
  have := findU_skip w n hst p hp [] cs log hrel hall
  rwa [List.append_nil, findU] at this

/-- … and the accessor that finds none loads and caches nothing -/
theorem C20_url_errors_missing (w : World) (n : Net) (hst : n.stationary) (s : UState) (k : Kind) (hc : s.cache k = none)
    (hp : isUrl Gen.urlSchemesExists s.composePath = true) (hrel : ∀ x ∈ candidates k, Str.startsWith x ['/'] = false)
    (h : ∀ x ∈ candidates k, n.fetch (pathJoin s.composePath x) 0 = .urlError) :
    (accessU w n s k).2 = .error (.runtime s.composePath) ∧ (accessU w n s k).1.cache = s.cache
    ∧ (accessU w n s k).1.loads = s.loads := by
  simp [accessU, hc, C20_url_find_none w n hst s.composePath hp (candidates k) s.fetches hrel h]

/-- the file can be fetched but does not load – the fetch of the load itself fails with a ValueError, or parsing /
deserialising the response raises a class of the except clause (undecodable bytes, JSON syntax, wrong shape):
RuntimeError naming the URL of the file; nothing is cached; the response is NOT closed by the library -/
theorem C20_url_errors_undecodable (w : World) (n : Net) (s : UState) (k : Kind) (l : FLog) (path resp : Str) (e : Err)
    (hc : s.cache k = none) (hf : findU w n s.composePath s.fetches (candidates k) = (l, .ok path))
    (hu : isUrl Gen.urlSchemesOpen path = true) (hr : n.fetch path (seen l path) = .ok resp) (hl : n.parse k resp = .error e)
    (he : wrapped e = true) :
    (accessU w n s k).2 = .error (.runtime path) ∧ (accessU w n s k).1.cache = s.cache
    ∧ (accessU w n s k).1.fetches = l ++ [⟨path, false⟩] := by
  simp [accessU, hc, hf, loadU, hu, hr, hl, he]

/-- a fetch failure other than URLError while looking for the file (timeout, protocol error) leaves the accessor as it
is – it is neither "missing" nor RuntimeError; a URLError of the LOAD's own fetch (the file vanished between probe and
load) escapes as well: URLError is an OSError, not in the except clause.
`_partial`: read literally, "missing or unreadable metadata gives RuntimeError" would ask for RuntimeError in these cases
too; the statement says what the code does (a timeout is not a missing file). -/
theorem C20_url_propagates_partial (w : World) (n : Net) (s : UState) (k : Kind) (hc : s.cache k = none) :
    (∀ l e, findU w n s.composePath s.fetches (candidates k) = (l, .error (.other e)) → (accessU w n s k).2 = .error (.other e))
    ∧ (∀ l path, findU w n s.composePath s.fetches (candidates k) = (l, .ok path) → isUrl Gen.urlSchemesOpen path = true →
        n.fetch path (seen l path) = .urlError → (accessU w n s k).2 = .error (.other .other)) := by
  refine ⟨fun l e hf => by simp [accessU, hc, hf], fun l path hf hu hr => ?_⟩
  have : wrapped Err.other = false := by decide
  simp [accessU, hc, hf, loadU, hu, hr, fetchErr, this]

/-- each accessor equals loading that URL directly: a successful first access returns the text that `cls().load(url)`
gives at that moment, for the URL `_find_metadata_file` chose; one load is logged -/
theorem C20_url_equals_direct_load (w : World) (n : Net) (s s1 : UState) (k : Kind) (o : Obj)
    (hc : s.cache k = none) (h : accessU w n s k = (s1, .ok o)) :
    ∃ l, (findU w n s.composePath s.fetches (candidates k)) = (l, .ok o.path)
      ∧ (loadU w n l k o.path).2 = .ok o.text ∧ o.kind = k ∧ s1.loads = s.loads ++ [(k, o.path)]
      ∧ s1.fetches = (loadU w n l k o.path).1 := by
  rw [accessU, hc] at h
  rcases hf : findU w n s.composePath s.fetches (candidates k) with ⟨l, _ | path⟩
  · rw [hf] at h; cases h
  · rcases hl : loadU w n l k path with ⟨l2, _ | text⟩
    · simp only [hf, hl] at h; split at h <;> cases h
    · simp only [hf, hl] at h
      split at h <;> cases h <;> exact ⟨l, rfl, by rw [hl], rfl, rfl, by rw [hl]⟩

/-- …which for a URL means: the response of ONE fetch of that URL, parsed as the accessor's kind, closed afterwards -/
theorem C20_url_load (w : World) (n : Net) (l : FLog) (k : Kind) (path resp text : Str) (hu : isUrl Gen.urlSchemesOpen path = true)
    (hr : n.fetch path (seen l path) = .ok resp) (hp : n.parse k resp = .ok text) :
    loadU w n l k path = (l ++ [⟨path, true⟩], .ok text) := by
  simp [loadU, hu, hr, hp]

/-- a concrete net: both layouts served, the manifest only under its legacy name, rpms undecodable -/
def exampleNet : Net :=
  Net.ofTable
    [("http://h/c/compose/metadata/composeinfo.json".toList, [.ok "R1".toList]),
     ("http://h/c/metadata/composeinfo.json".toList, [.ok "R0".toList]),
     ("http://h/c/compose/metadata/image-manifest.json".toList, [.ok "R2".toList]),
     ("http://h/c/compose/metadata/rpms.json".toList, [.ok "R3".toList]),
     ("http://h/c/compose/metadata/modules.json".toList, [.other .other])]
    [(("info", "R1".toList), .ok "doc1".toList), (("images", "R2".toList), .ok "doc2".toList), (("rpms", "R3".toList), .error .valueError)]

/-- the same net frozen at its first answers is stationary (hypothesis `hst` of the theorems above) -/
example : ({ fetch := fun u _ => exampleNet.fetch u 0, parse := exampleNet.parse } : Net).stationary := fun _ _ => rfl

structure C20NetFacts : Prop where
  url : isUrl Gen.urlSchemesExists "http://h/c".toList = true
  resolved : (resolveU World.empty exampleNet "http://h/c/".toList).2 = .ok "http://h/c/compose".toList
  images :
    (accessU World.empty exampleNet { composePath := "http://h/c/compose".toList } "images").2
      = .ok ⟨0, "images", "http://h/c/compose/metadata/image-manifest.json".toList, "doc2".toList⟩
  rpms :
    (accessU World.empty exampleNet { composePath := "http://h/c/compose".toList } "rpms").2
      = .error (.runtime "http://h/c/compose/metadata/rpms.json".toList)
  modules : (accessU World.empty exampleNet { composePath := "http://h/c/compose".toList } "modules").2 = .error (.other .other)
  direct_images :
    (accessU World.empty exampleNet { composePath := "http://h/c".toList } "images").2 = .error (.runtime "http://h/c".toList)

theorem c20_net_facts : C20NetFacts := by
  suffices h : _ ∧ _ ∧ _ ∧ _ ∧ _ ∧ _ from ⟨h.1, h.2.1, h.2.2.1, h.2.2.2.1, h.2.2.2.2.1, h.2.2.2.2.2⟩
  decide +kernel

example : isUrl Gen.urlSchemesExists "http://h/c".toList = true := c20_net_facts.url
example : (resolveU World.empty exampleNet "http://h/c/".toList).2 = .ok "http://h/c/compose".toList := c20_net_facts.resolved
example : (accessU World.empty exampleNet { composePath := "http://h/c/compose".toList } "images").2
    = .ok ⟨0, "images", "http://h/c/compose/metadata/image-manifest.json".toList, "doc2".toList⟩ := c20_net_facts.images
example : (accessU World.empty exampleNet { composePath := "http://h/c/compose".toList } "rpms").2
    = .error (.runtime "http://h/c/compose/metadata/rpms.json".toList) := c20_net_facts.rpms
example : (accessU World.empty exampleNet { composePath := "http://h/c/compose".toList } "modules").2 = .error (.other .other) :=
  c20_net_facts.modules
example : (accessU World.empty exampleNet { composePath := "http://h/c".toList } "images").2 = .error (.runtime "http://h/c".toList) :=
  c20_net_facts.direct_images

end PM
