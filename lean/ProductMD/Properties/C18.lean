import ProductMD.Model.Dump
import ProductMD.Generated.Effects
/-!
# C18 — a dump that fails validation leaves the destination file untouched

`run sc obj fs path` interprets an effect script `sc` (the order of statements of a `dump` method) on an abstract
object `obj` (arbitrary outcomes of `validate()`, `_get_parser()`, `serialize()`, of the encoder in `build_file` – i.e.
any failure point, at top level, in any nested section writer or in the encoder) and an abstract file system.  The
scripts of the real `dump` methods are `Gen.dumpScript_*`, regenerated from the source AST on every run.
-/
namespace PM

theorem not_fallible {e : Eff} (h : (!e.fallible) = true) : e = .openW ∨ e = .unlink ∨ e = .newBuf ∨ e = .writeBuf := by
  cases e <;> simp [Eff.fallible] at h ⊢

/-- a `writeBuf` fails on an unbound buffer / unopened file only (a programming error, not a refusal) -/
theorem exec_after_open (o : DumpObj) (path : Path) :
    ∀ (sc : List Eff) (st : DumpSt), sc.all (fun e => !e.fallible) = true →
      (o.openErr = none ∨ sc.all (fun e => e != .openW) = true) →
      ∀ f, (exec o path sc st).result = .error f → f.1 = .writeBuf := by
  intro sc
  induction sc with
  | nil => intro st _ _ f h; simp [exec] at h
  | cons e rest ih =>
    intro st hall ho f h
    simp only [List.all_cons, Bool.and_eq_true] at hall
    obtain ⟨he, hrest⟩ := hall
    have ho' : o.openErr = none ∨ rest.all (fun e => e != .openW) = true := by
      rcases ho with ho | ho
      · exact .inl ho
      · simp only [List.all_cons, Bool.and_eq_true] at ho; exact .inr ho.2
    rcases not_fallible he with rfl | rfl | rfl | rfl
    · have hoe : o.openErr = none := by
        rcases ho with ho | ho
        · exact ho
        · simp at ho
      simp only [exec, step, hoe] at h
      exact ih _ hrest ho' f h
    · simp only [exec, step] at h
      exact ih _ hrest ho' f h
    · simp only [exec, step] at h
      exact ih _ hrest ho' f h
    · simp only [exec, step] at h
      cases hb : st.buffer with
      | none => simp [hb] at h; rw [← h]
      | some b =>
        simp only [hb] at h
        by_cases hop : st.opened = true
        · simp only [hop, if_true] at h; exact ih _ hrest ho' f h
        · simp [hop] at h; rw [← h]

theorem all_and_elim {α : Type} (l : List α) (p q : α → Bool) (h : l.all (fun e => p e && q e) = true) :
    l.all p = true ∧ l.all q = true := by
  rw [List.all_eq_true] at h
  constructor <;> rw [List.all_eq_true] <;> intro x hx
  · exact (Bool.and_eq_true _ _ ▸ h x hx).1
  · exact (Bool.and_eq_true _ _ ▸ h x hx).2

/-- the two other statements that write `fs`, `buildFile` and `writeBuf`, do so only when `opened` -/
theorem step_before_open (o : DumpObj) (path : Path) (st : DumpSt) (e : Eff) (hop : st.opened = false)
    (h1 : e ≠ .openW) (h2 : e ≠ .unlink) : (step o path st e).1.fs = st.fs ∧ (step o path st e).1.opened = false := by
  cases e with
  | openW => exact absurd rfl h1
  | unlink => exact absurd rfl h2
  | validate | unknown | readBack | newBuf => exact ⟨rfl, hop⟩
  | getParser =>
    simp only [step]
    split <;> exact ⟨rfl, hop⟩
  | serialize =>
    simp only [step]
    split
    · exact ⟨rfl, hop⟩
    · split <;> exact ⟨rfl, hop⟩
  | buildMem =>
    simp only [step]
    split
    · split <;> exact ⟨rfl, hop⟩
    · exact ⟨rfl, hop⟩
  | buildFile =>
    simp only [step]
    split
    · exact ⟨rfl, hop⟩
    · rw [if_neg (by rw [hop]; exact Bool.false_ne_true)]
      exact ⟨rfl, hop⟩
  | writeBuf =>
    simp only [step]
    split
    · exact ⟨rfl, hop⟩
    · rw [if_neg (by rw [hop]; exact Bool.false_ne_true)]
      exact ⟨rfl, hop⟩

/-- before the open no statement touches the file system (`step_before_open`); after it, in a script of the safe shape, only a
`writeBuf` can fail (`exec_after_open`) -/
theorem exec_safe (o : DumpObj) (path : Path) :
    ∀ (sc : List Eff) (st : DumpSt), noFallibleAfterOpen sc = true → st.opened = false →
      ∀ f, (exec o path sc st).result = .error f → f.1 ≠ .writeBuf → (exec o path sc st).st.fs = st.fs := by
  intro sc
  induction sc with
  | nil => intro st _ _ f h; simp [exec] at h
  | cons e rest ih =>
    intro st hs hop f h hne
    by_cases h1 : e = .openW
    · subst h1
      simp only [noFallibleAfterOpen] at hs
      cases ho : o.openErr with
      | some e => simp [exec, step, ho]
      | none =>
        exfalso
        simp only [exec, step, ho] at h
        exact hne (exec_after_open o path rest _ (all_and_elim rest _ _ hs).1 (.inl ho) f h)
    by_cases h2 : e = .unlink
    · subst h2
      simp only [noFallibleAfterOpen] at hs
      exfalso
      simp only [exec, step] at h
      exact hne (exec_after_open o path rest _ (all_and_elim rest _ _ hs).1 (.inr (all_and_elim rest _ _ hs).2) f h)
    have hs' : noFallibleAfterOpen rest = true := by
      rwa [noFallibleAfterOpen.eq_4 e rest h1 h2] at hs
    obtain ⟨hfs, hop'⟩ := step_before_open o path st e hop h1 h2
    simp only [exec] at h ⊢
    rcases hstep : step o path st e with ⟨st', r⟩
    rw [hstep] at hfs hop' h
    cases r with
    | ok u => cases u; simp only at h ⊢; rw [ih st' hs' hop' f h hne]; exact hfs
    | error f' => exact hfs

/-- **C18, for ANY script of the safe shape, any object, any failure point, any file system.**
If `dump` fails in `validate()`, in `serialize()` at whichever nested validator or section writer, in the encoder of
`build_file`, in `_get_parser()`, in an unrecognised statement, or because the destination could not be opened –
anywhere but in the final plain write –, the file system (every path, the destination included) is exactly what it
was.  "Safe shape": nothing that runs code of the object, the encoder included, comes after the open, and nothing fallible
at all (the open included) after a removal of the destination. -/
theorem C18_general (sc : List Eff) (h : noFallibleAfterOpen sc = true)
    (obj : DumpObj) (fs : FS) (path : Path) (eff : Eff) (e : Err) :
    (run sc obj fs path).2 = .error (eff, e) → eff ≠ .writeBuf → (run sc obj fs path).1 = fs := by
  intro hr hne
  exact exec_safe obj path sc { fs := fs } h rfl (eff, e) hr hne

/-- in particular: the bytes at the destination are the old ones, and no file appears where there was none -/
theorem C18_destination (sc : List Eff) (h : noFallibleAfterOpen sc = true)
    (obj : DumpObj) (fs : FS) (path : Path) (eff : Eff) (e : Err)
    (hr : (run sc obj fs path).2 = .error (eff, e)) (hne : eff ≠ .writeBuf) :
    (run sc obj fs path).1 path = fs path ∧ (fs path = none → (run sc obj fs path).1 path = none) := by
  rw [C18_general sc h obj fs path eff e hr hne]
  exact ⟨rfl, id⟩

/-- Both `dump` methods of the library have the safe shape (decided on the scripts regenerated from the source;
false for the order before the F2 fix and for the order before the F19 fix, see the witnesses below). -/
theorem C18_here : noFallibleAfterOpen Gen.dumpScript_MetadataBase = true
                 ∧ noFallibleAfterOpen Gen.dumpScript_TreeInfo = true := by decide

/-- …and so has every `dump` defined anywhere in the library; each of the seven formats runs one of them. -/
theorem C18_every_dump :
    (∀ p ∈ Gen.dumpScripts, noFallibleAfterOpen p.2 = true)
    ∧ (∀ p ∈ Gen.dumpOwner, (Gen.dumpScripts.map (·.1)).contains p.2 = true)
    ∧ Gen.dumpOwner.length = 7 := by decide

/-- every generated dump script has the standard shape `validate* getParser validate* serialize validate* newBuf buildMem openW writeBuf`
(a reordering that keeps the shape keeps every theorem below) -/
theorem C18_shape : ∀ p ∈ Gen.dumpScripts, standardShape p.2 = true := by decide

/-- the failure of statement `e` of a standard script, given that everything before it succeeded: it depends on the object only -/
def stmtFail (o : DumpObj) : Eff → Option Failure
  | .validate => match o.validate with | .ok _ => none | .error e => some (.validate, e)
  | .getParser => match o.getParser with | .ok _ => none | .error e => some (.getParser, e)
  | .serialize => match o.serialize with | .ok _ => none | .error e => some (.serialize, e)
  | .buildMem => o.buildFail.map fun ne => (.buildMem, ne.2)
  | .openW => o.openErr.map fun e => (.openW, e)
  | _ => none

def textOf : Except Err Content → Content
  | .ok t => t
  | .error _ => []

/-- what a dump through a standard script comes to: it fails at its first failing statement, with the file system it started
from, or writes the serialised text -/
def stdOutcome (o : DumpObj) (fs : FS) (path : Path) (sc : List Eff) : FS × Except Failure Unit :=
  match sc.findSome? (stmtFail o) with
  | none => (fs.write path (textOf o.serialize), .ok ())
  | some f => (fs, .error f)

theorem write_write (fs : FS) (path : Path) (c₀ c : Content) : (fs.write path c₀).write path c = fs.write path c := by
  funext q; by_cases hq : q = path <;> simp [FS.write, hq]

theorem phases_cons {p : Phase} {e : Eff} {rest : List Eff} (h : phases p (e :: rest) = some .done) :
    ∃ q, phaseStep p e = some q ∧ phases q rest = some .done := by
  rw [phases] at h
  cases hq : phaseStep p e with
  | none => rw [hq] at h; cases h
  | some q => rw [hq] at h; exact ⟨q, rfl, h⟩

/-- The invariant behind `run_standard_eq`: a standard script that has reached phase `p` with every statement so far successful is in
the state `stateAt … p` (Model/Dump), and from there the rest of the script comes to `stdOutcome` of the rest.  One case per edge
of `phaseStep` (named in the comments: `split` does not name them). -/
theorem exec_standard_eq (o : DumpObj) (fs : FS) (path : Path) :
    ∀ (sc : List Eff) (p : Phase), phases p sc = some .done →
      ((exec o path sc (stateAt fs path (textOf o.getParser) (textOf o.serialize) p)).st.fs,
       (exec o path sc (stateAt fs path (textOf o.getParser) (textOf o.serialize) p)).result) = stdOutcome o fs path sc := by
  intro sc
  induction sc with
  | nil =>
    intro p h
    simp only [phases, Option.some.injEq] at h
    subst h
    rfl
  | cons e rest ih =>
    intro p h
    obtain ⟨q, hq, hrest⟩ := phases_cons h
    unfold phaseStep at hq
    split at hq <;> cases hq
    · -- init, validate
      cases hv : o.validate with
      | ok u => cases u; simpa [exec, step, stateAt, stdOutcome, stmtFail, hv, liftErr] using ih .init hrest
      | error e => simp [exec, step, stateAt, stdOutcome, stmtFail, hv, liftErr]
    · -- init, getParser
      cases hv : o.getParser with
      | ok t => simpa [exec, step, stateAt, stdOutcome, stmtFail, hv, textOf] using ih .parsed hrest
      | error e => simp [exec, step, stateAt, stdOutcome, stmtFail, hv]
    · -- parsed, validate
      cases hv : o.validate with
      | ok u => cases u; simpa [exec, step, stateAt, stdOutcome, stmtFail, hv, liftErr] using ih .parsed hrest
      | error e => simp [exec, step, stateAt, stdOutcome, stmtFail, hv, liftErr]
    · -- parsed, serialize
      cases hv : o.serialize with
      | ok t => simpa [exec, step, stateAt, stdOutcome, stmtFail, hv, textOf] using ih .serialized hrest
      | error e => simp [exec, step, stateAt, stdOutcome, stmtFail, hv]
    · -- serialized, validate
      cases hv : o.validate with
      | ok u => cases u; simpa [exec, step, stateAt, stdOutcome, stmtFail, hv, liftErr] using ih .serialized hrest
      | error e => simp [exec, step, stateAt, stdOutcome, stmtFail, hv, liftErr]
    · -- serialized, newBuf
      simpa [exec, step, stateAt, stdOutcome, show stmtFail o .newBuf = none from rfl] using ih .buffered hrest
    · -- buffered, buildMem
      cases hv : o.buildFail with
      | none => simpa [exec, step, stateAt, stdOutcome, stmtFail, hv] using ih .built hrest
      | some ne => simp [exec, step, stateAt, stdOutcome, stmtFail, hv]
    · -- built, openW
      cases hv : o.openErr with
      | none => simpa [exec, step, stateAt, stdOutcome, stmtFail, hv] using ih .opened hrest
      | some e => simp [exec, step, stateAt, stdOutcome, stmtFail, hv]
    · -- opened, writeBuf
      simpa [exec, step, stateAt, stdOutcome, show stmtFail o .writeBuf = none from rfl, FS.write, write_write] using ih .done hrest

theorem phases_of_standard {sc : List Eff} (hs : standardShape sc = true) : phases .init sc = some .done := by
  simpa [standardShape] using hs

theorem run_standard_eq (sc : List Eff) (hs : standardShape sc = true) (o : DumpObj) (fs : FS) (path : Path) :
    run sc o fs path = stdOutcome o fs path sc :=
  exec_standard_eq o fs path sc .init (phases_of_standard hs)

theorem phases_mem : ∀ (sc : List Eff) (p : Phase), phases p sc = some .done →
    ((p = .init ∨ p = .parsed) → .serialize ∈ sc) ∧ ((p = .init ∨ p = .parsed ∨ p = .serialized ∨ p = .buffered) → .buildMem ∈ sc) := by
  intro sc
  induction sc with
  | nil => intro p h; simp only [phases, Option.some.injEq] at h; subst h; simp
  | cons e rest ih =>
    intro p h
    obtain ⟨q, hq, hrest⟩ := phases_cons h
    unfold phaseStep at hq
    split at hq <;> cases hq
    all_goals simp [ih _ hrest]

/-- **C18 for the standard shape, without the exception of `C18_general`**: whatever fails – the ENCODER (`json.dump` meeting a
value it cannot encode) and the open itself included – the file system is exactly what it was. -/
theorem C18_standard (sc : List Eff) (hs : standardShape sc = true)
    (obj : DumpObj) (fs : FS) (path : Path) (f : Failure) (hr : (run sc obj fs path).2 = .error f) :
    (run sc obj fs path).1 = fs := by
  rw [run_standard_eq sc hs, stdOutcome] at hr ⊢
  cases hf : sc.findSome? (stmtFail obj) with
  | none => rw [hf] at hr; cases hr
  | some f => rfl

theorem findSome?_only {α β : Type} {f : α → Option β} {a : α} (h : ∀ x, x ≠ a → f x = none) [DecidableEq α] :
    ∀ l : List α, a ∈ l → l.findSome? f = f a
  | x :: l, hm => by
    rw [List.findSome?_cons]
    by_cases hx : x = a
    · subst hx
      cases hfa : f x with
      | some v => rfl
      | none => exact List.findSome?_eq_none_iff.mpr fun y _ => by by_cases hy : y = x; exact hy ▸ hfa; exact h y hy
    · rw [h x hx]; exact findSome?_only h l ((List.mem_cons.mp hm).resolve_left (Ne.symm hx))

theorem run_standard (sc : List Eff) (hs : standardShape sc = true) (obj : DumpObj) (fs : FS) (path : Path) (t0 t : Content)
    (h1 : obj.validate = .ok ()) (h2 : obj.getParser = .ok t0) (h3 : obj.serialize = .ok t) (h4 : obj.openErr = none) :
    run sc obj fs path = (match obj.buildFail with | none => fs.write path t | some _ => fs,
      match obj.buildFail with | none => .ok () | some (_, e) => .error (.buildMem, e)) := by
  -- each hypothesis silences the statement that consults that field; only the in-memory build can still fail
  have hsilent : ∀ e : Eff, e ≠ .buildMem → stmtFail obj e = none := by
    intro e he
    cases e with
    | validate => simp only [stmtFail, h1]
    | getParser => simp only [stmtFail, h2]
    | serialize => simp only [stmtFail, h3]
    | openW => simp only [stmtFail, h4, Option.map_none]
    | buildMem => exact absurd rfl he
    | _ => rfl
  have hff : sc.findSome? (stmtFail obj) = stmtFail obj .buildMem :=
    findSome?_only hsilent sc ((phases_mem sc .init (phases_of_standard hs)).2 (.inl rfl))
  rw [run_standard_eq sc hs, stdOutcome, hff, stmtFail, h3]
  cases obj.buildFail <;> rfl

/-- Sections as a tree of validator outcomes.  If ANY reached validator of ANY nested section refuses
(`top.check = .error e`), `dump` through ANY script of the standard shape FAILS (it does not silently write
something) with that error, at `validate()` or inside `serialize`, before anything was opened, and the file system
is untouched: whether the top-level `validate()` saw the problem or only a nested section writer did. -/
theorem C18_nested (sc : List Eff) (hs : standardShape sc = true)
    (top : Sect) (text empty : Content) (fs : FS) (path : Path) (e : Err) (h : top.check = .error e) :
    ∃ eff, (eff = .validate ∨ eff = .serialize) ∧
      run sc (DumpObj.ofSect top text empty) fs path = (fs, .error (eff, e)) := by
  rw [run_standard_eq sc hs, stdOutcome]
  cases hf : sc.findSome? (stmtFail (DumpObj.ofSect top text empty)) with
  | none =>
    have := List.findSome?_eq_none_iff.mp hf .serialize ((phases_mem sc .init (phases_of_standard hs)).1 (.inl rfl))
    simp [stmtFail, DumpObj.ofSect, h] at this
  | some f =>
    obtain ⟨x, -, hx⟩ := List.exists_of_findSome?_eq_some hf
    obtain ⟨vs, kids⟩ := top
    cases x <;> simp only [stmtFail, DumpObj.ofSect, h, Sect.validators, Option.map_none, reduceCtorEq] at hx
    · -- the top-level `validate()` refuses: its error is the first refusal of the section tree
      refine ⟨.validate, .inl rfl, ?_⟩
      cases hv : firstErr vs with
      | ok u => simp [hv] at hx
      | error e' => simp [Sect.check, hv] at h; subst h; simp [hv] at hx; rw [hx]
    · exact ⟨.serialize, .inr rfl, by cases hx; rfl⟩

/-- C18 for the real scripts: any failure of `MetadataBase.dump` / `TreeInfo.dump` leaves every path as it was -/
theorem C18_dump (p : String × List Eff) (hp : p ∈ Gen.dumpScripts)
    (obj : DumpObj) (fs : FS) (path : Path) (f : Failure) (hr : (run p.2 obj fs path).2 = .error f) :
    (run p.2 obj fs path).1 = fs :=
  C18_standard p.2 (C18_shape p hp) obj fs path f hr

/-- `C18_nested` for every `dump` defined in the library -/
theorem C18_nested_here (p : String × List Eff) (hp : p ∈ Gen.dumpScripts)
    (top : Sect) (text empty : Content) (fs : FS) (path : Path) (e : Err) (h : top.check = .error e) :
    ∃ eff, (eff = .validate ∨ eff = .serialize) ∧
      run p.2 (DumpObj.ofSect top text empty) fs path = (fs, .error (eff, e)) :=
  C18_nested p.2 (C18_shape p hp) top text empty fs path e h

/-- and when nothing refuses, a script of the standard shape writes exactly the serialised text to the destination
and touches nothing else (so the theorems above are not about a `dump` that never writes) -/
theorem C18_success (sc : List Eff) (hs : standardShape sc = true)
    (obj : DumpObj) (fs : FS) (path : Path) (t0 t : Content)
    (h1 : obj.validate = .ok ()) (h2 : obj.getParser = .ok t0) (h3 : obj.serialize = .ok t)
    (h4 : obj.openErr = none) (h5 : obj.buildFail = none) :
    run sc obj fs path = (fs.write path t, .ok ()) := by
  rw [run_standard sc hs obj fs path t0 t h1 h2 h3 h4, h5]

/-- The encoder failure is covered (F19 is repaired in /repo): when everything validates and serialises but `build_file`
meets a value it cannot encode – after any number `n` of characters – a script of the standard shape fails in the
in-memory build and the file system, the destination included, is untouched.  (On the real library: an
`Rpms`/`Modules`/`ExtraFiles` payload, a composeinfo path or an image checksum holding e.g. a `set`.) -/
theorem C18_encoder_failure_covered (sc : List Eff) (hs : standardShape sc = true)
    (obj : DumpObj) (fs : FS) (path : Path) (t0 t : Content) (n : Nat) (e : Err)
    (h1 : obj.validate = .ok ()) (h2 : obj.getParser = .ok t0) (h3 : obj.serialize = .ok t)
    (h4 : obj.openErr = none) (h5 : obj.buildFail = some (n, e)) :
    run sc obj fs path = (fs, .error (.buildMem, e)) := by
  rw [run_standard sc hs obj fs path t0 t h1 h2 h3 h4, h5]

/-- The order the library had before the F2 fix (`validate; with open: get_parser; serialize; build_file`) does not
have the safe shape, and the model exhibits the damage: a nested validator refuses inside `serialize`, the good copy
at the destination is gone (empty file), and on a fresh path an empty file has appeared. -/
theorem C18_counterexample :
    noFallibleAfterOpen [.validate, .openW, .getParser, .serialize, .buildFile] = false
    ∧ ∃ (obj : DumpObj) (fs : FS) (path : Path),
        (run [.validate, .openW, .getParser, .serialize, .buildFile] obj fs path).2 = .error (.serialize, .valueError)
        ∧ fs path = some "good".toList
        ∧ (run [.validate, .openW, .getParser, .serialize, .buildFile] obj fs path).1 path = some []
        ∧ (run [.validate, .openW, .getParser, .serialize, .buildFile] obj (fun _ => none) path).1 path = some [] := by
  refine ⟨by decide, { serialize := .error .valueError }, (fun _ => some "good".toList), "p".toList, ?_, rfl, ?_, ?_⟩
    <;> simp [run, exec, step, liftErr, FS.write]

/-- The order between the F2 and the F19 fix (`validate; get_parser; serialize; with open: build_file`) is not safe
either – the encoder runs on the opened destination – and the model exhibits finding F19: everything validates,
`json.dump` gives up after one character, the good copy is replaced by `{` and a fresh path holds `{`. -/
theorem C18_preF19_witness :
    noFallibleAfterOpen preF19Shape = false ∧ standardShape preF19Shape = false
    ∧ ∃ (obj : DumpObj) (fs : FS) (path : Path),
        (run preF19Shape obj fs path).2 = .error (.buildFile, .typeError)
        ∧ fs path = some "good".toList
        ∧ (run preF19Shape obj fs path).1 path = some "{".toList
        ∧ (run preF19Shape obj (fun _ => none) path).1 path = some "{".toList := by
  refine ⟨by decide, by decide, { serialize := .ok "{}".toList, buildFail := some (1, .typeError) },
    (fun _ => some "good".toList), "p".toList, ?_, rfl, ?_, ?_⟩
    <;> simp [preF19Shape, run, exec, step, liftErr, FS.write]

/-- A removal of the destination before the work is done (seeded change C18-t4a of `docs/mutants_C18.md`: "break the hardlink" right after the
top-level `validate()`) does not have the safe shape either: a nested validator refuses inside `serialize` and the
last good copy is gone from the path. -/
theorem C18_unlink_witness :
    noFallibleAfterOpen [.validate, .unlink, .getParser, .serialize, .newBuf, .buildMem, .openW, .writeBuf] = false
    ∧ ∃ (obj : DumpObj) (fs : FS) (path : Path),
        (run [.validate, .unlink, .getParser, .serialize, .newBuf, .buildMem, .openW, .writeBuf] obj fs path).2
            = .error (.serialize, .valueError)
        ∧ fs path = some "good".toList
        ∧ (run [.validate, .unlink, .getParser, .serialize, .newBuf, .buildMem, .openW, .writeBuf] obj fs path).1 path = none := by
  refine ⟨by decide, { serialize := .error .valueError }, (fun _ => some "good".toList), "p".toList, ?_, rfl, ?_⟩
    <;> simp [run, exec, step, liftErr]

/-- Reading the written file back inside `dump` (seeded change C18-u5a of `docs/mutants_C18.md`) is a second validation pass AFTER the
destination has been replaced: an object every writer accepts but the reader refuses makes the dump fail with the
good copy already overwritten. -/
theorem C18_readback_witness :
    noFallibleAfterOpen [.validate, .getParser, .serialize, .newBuf, .buildMem, .openW, .writeBuf, .readBack] = false
    ∧ ∃ (obj : DumpObj) (fs : FS) (path : Path),
        (run [.validate, .getParser, .serialize, .newBuf, .buildMem, .openW, .writeBuf, .readBack] obj fs path).2
            = .error (.readBack, .valueError)
        ∧ fs path = some "good".toList
        ∧ (run [.validate, .getParser, .serialize, .newBuf, .buildMem, .openW, .writeBuf, .readBack] obj fs path).1 path
            = some "unreadable".toList := by
  refine ⟨by decide, { serialize := .ok "unreadable".toList, readBack := .error .valueError },
    (fun _ => some "good".toList), "p".toList, ?_, rfl, ?_⟩ <;> simp [run, exec, step, liftErr, FS.write]

example : noFallibleAfterOpen [.validate, .getParser, .serialize, .newBuf, .buildMem, .openW, .writeBuf] = true := by decide
example : ∃ obj : DumpObj, ∃ fs path eff e, (run Gen.dumpScript_MetadataBase obj fs path).2 = .error (eff, e) ∧ eff ≠ .writeBuf :=
  ⟨{ serialize := .error .valueError }, fun _ => none, [], .serialize, .valueError, rfl, by decide⟩
example : (Sect.node [.ok ()] [.node [.ok (), .error .typeError] []]).check = .error .typeError := rfl
example : standardShape [.getParser, .validate, .serialize, .newBuf, .buildMem, .openW, .writeBuf] = true := by decide
example : standardShape [.validate, .openW, .getParser, .serialize, .buildFile] = false := by decide
example : ∃ obj : DumpObj, obj.buildFail = some (1, .typeError) ∧ obj.serialize = .ok "{}".toList :=
  ⟨{ serialize := .ok "{}".toList, buildFail := some (1, .typeError) }, rfl, rfl⟩
example : (run Gen.dumpScript_TreeInfo { serialize := .ok "x".toList, buildFail := some (0, .typeError) }
    (fun _ => some "good".toList) "p".toList).1 "p".toList = some "good".toList := by rfl

end PM
