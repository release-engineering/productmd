import ProductMD.Proofs.Validation
import ProductMD.Proofs.ErrClass
import ProductMD.Generated.Regexes
/-!
# C06 — only objects meeting every documented field constraint can be written

Model (`Model/Validation.lean`): `dumps` = the walk of `validate()` calls and writer-side failure sources that `dump()`
performs up to the end of `serialize()`, first failure wins; `parts` = the objects the writer reaches (every section, every
variant of the forest at any depth, every image of every cell).  The rule lists `validate()` runs are regenerated from the
source (`Gen.allClasses`), the places where the writers call `validate()` are read from the regenerated call structure
(`Gen.struct_*`), the documented rules are the hand-written catalogue `Spec.catalogue`.

Full statement of the property:  ∀ obj, (∃ p ∈ parts obj, ∃ r ∈ catalogue p.cls, r violated on p) →
  ∃ e, dumps obj = .error e ∧ (e = .typeError ∨ e = .valueError);   conversely all rules hold → dumps obj = .ok.
`C06_enforced_*` (rejection) and `C06_errclass_*` (ANY failure of the walk is TypeError or ValueError) together give it.
No hand-bound validator body raises another class; what `C06_errclass_*` excludes is named exactly:
* the failures of `General.serialize`, a disjunct of the treeinfo theorem (`C06_general_failures`): IndexError from `variants[0]`
  when there is no variant at all (F12), OverflowError / ValueError from `int()` of a non-finite float build timestamp (F40);
* `StepsInDomain`: parts where the MODEL does not know the class (`Err.other`): a variant whose parent's uid is a list / dict /
  foreign object (`"%s-%s" % …` cannot be computed; Python yields "equal or ValueError"), a parent arch container that is a
  foreign object; and wrong-shape SKELETONS: a treeinfo checksum table that is a str/list/foreign object or a platform table that
  is not a dict (`.items()` of the real code raises AttributeError there — not a field rule, the catalogue has no rule about
  container shapes).
  `Part.InDomain` is a `Bool` function; for images and discinfo it holds of every part (no hypothesis), for rpms, modules and
  extra_files as well once the class name `m.cls`, a free parameter of `SimpleM`, is one of theirs (`plainClass m.cls`, decided for
  the three in `C06TableFacts.plain_classes`).
The converse carries every non-validator failure source of the writers as a hypothesis.
-/
namespace PM
open PM.Val

def conformsB (p : Part) : Bool := (Spec.catalogue p.cls).all fun r => isOk (r.check customs2 p.obj)

def exCompose : Obj := [(c!"id", .str c!"F-1-20200101.n.0"), (c!"date", .str c!"20200101"), (c!"type", .str c!"nightly"),
  (c!"respin", .int 0), (c!"label", .str c!"RC-1.0"), (c!"final", .bool true)]
def exImage (size : PyVal) : Obj := [(c!"path", .str c!"Server/x86_64/iso/boot.iso"), (c!"mtime", .int 1), (c!"size", size), (c!"volume_id", .none),
  (c!"type", .str c!"boot"), (c!"format", .str c!"iso"), (c!"arch", .str c!"x86_64"), (c!"disc_number", .int 1), (c!"disc_count", .int 1),
  (c!"checksums", .dict [(c!"md5", .str c!"aa")]), (c!"implant_md5", .none), (c!"bootable", .bool true), (c!"subvariant", .str []),
  (c!"unified", .bool false), (c!"additional_variants", .list [])]
def exImages (size : PyVal) : ImagesM := ⟨[(c!"version", .str c!"0.0")], exCompose, [(c!"Server", [(c!"x86_64", [exImage size])])]⟩

def stepsInDomainB (steps : List Step) : Bool := steps.all fun s => match s with | .validate p => p.InDomain | .check _ => true

def exRelease : Obj := [(c!"name", .str c!"F"), (c!"short", .str c!"F"), (c!"version", .str c!"1"), (c!"type", .str c!"ga"),
  (c!"is_layered", .bool false), (c!"internal", .bool false)]
def exVar (id uid : PyVal) (arches : List PyVal) : Obj :=
  [(c!"id", id), (c!"uid", uid), (c!"name", .str c!"n"), (c!"type", .str c!"variant"), (c!"arches", .list arches)]
/-- `Server` with a child `optional`; the parent's uid and the child's arches are the parameters -/
def exCI (puid : PyVal) (karch : PyVal) : ComposeInfoM :=
  ⟨[], exCompose, exRelease, [],
   [.mk c!"Server" (exVar (.str c!"Server") puid [.str c!"x86_64"]) []
      [.mk c!"optional" (exVar (.str c!"optional") (.str c!"Server-optional") [karch]) [] []]]⟩

def exTI (variants : List TIVar) (media : Obj) : TreeInfoM :=
  ⟨[(c!"version", .str c!"1.2")], [(c!"name", .str c!"F"), (c!"short", .str c!"F"), (c!"version", .str c!"1"), (c!"is_layered", .bool false)], [],
   [(c!"arch", .str c!"x86_64"), (c!"build_timestamp", .int 1), (c!"platforms", .list [.str c!"x86_64"])], variants,
   [(c!"checksums", .dict [])], [(c!"images", .dict [(c!"x86_64", .dict [(c!"kernel", .str c!"images/kernel")])])],
   [(c!"mainimage", .none), (c!"instimage", .none)], media⟩
def exTIVar : TIVar := .mk c!"S" [(c!"id", .str c!"S"), (c!"uid", .str c!"S"), (c!"name", .str c!"S"), (c!"type", .str c!"variant")] []
def noMedia : Obj := [(c!"discnum", .none), (c!"totaldiscs", .none)]

structure C06ExampleFacts : Prop where
  written : (exImages (.int 1)).parts.all conformsB = true ∧ isOk (exImages (.int 1)).dumps = true
  refused : (exImages (.int 0)).parts.all conformsB = false ∧ isOk (exImages (.int 0)).dumps = false
  domain : stepsInDomainB (exCI (.str c!"Server") (.str c!"x86_64")).steps = true ∧ isOk (exCI (.str c!"Server") (.str c!"x86_64")).dumps = true
    ∧ stepsInDomainB (exCI (.str c!"Server") (.str c!"sparc")).steps = true
    ∧ (match (exCI (.str c!"Server") (.str c!"sparc")).dumps with | .error .valueError => true | _ => false) = true
    ∧ stepsInDomainB (exCI (.list []) (.str c!"x86_64")).steps = false
  treeinfo : (exTI [exTIVar] noMedia).parts.all conformsB = true ∧ isOk (exTI [exTIVar] noMedia).dumps = true
    ∧ stepsInDomainB (exTI [exTIVar] noMedia).steps = true
    ∧ (exTI [] noMedia).parts.all conformsB = true ∧ (match (exTI [] noMedia).dumps with | .error .indexError => true | _ => false) = true
    ∧ (exTI [exTIVar] [(c!"discnum", .int 1), (c!"totaldiscs", .none)]).parts.all conformsB = true
    ∧ (match (exTI [exTIVar] [(c!"discnum", .int 1), (c!"totaldiscs", .none)]).dumps with | .error .typeError => true | _ => false) = true
  F23 :
    let v : Obj := [(c!"id", .str c!"Server"), (c!"uid", .none), (c!"name", .str c!"Server"), (c!"type", .str c!"variant"),
                    (c!"arches", .list [.str c!"x86_64"])]
    let m : ComposeInfoM := ⟨[], [(c!"id", .str c!"F-1-20200101.0"), (c!"date", .str c!"20200101"), (c!"type", .str c!"production"),
        (c!"respin", .int 0), (c!"label", .none), (c!"final", .bool false)],
      [(c!"name", .str c!"F"), (c!"short", .str c!"F"), (c!"version", .str c!"1"), (c!"type", .str c!"ga"), (c!"is_layered", .bool false),
       (c!"internal", .bool false)], [], [.mk c!"Server" v [] []]⟩
    (match m.dumps with | .error .typeError => true | _ => false) = true

/-- classes none of whose hand-bound rules has a domain condition: every part is in the domain -/
def plainClass (cls : String) : Bool :=
  ((genRules cls).flatMap Rule.customNamesIn).all fun n =>
    !(n == Spec.cCiParentArch) && !(n == Spec.cCiUid || n == Spec.cTiUid) && !(n == Spec.cTiChecksumPaths) && !(n == Spec.cTiImagePaths)

structure C06TableFacts : Prop where
  catalogue_enforced : ∀ e ∈ Spec.catalogueTable, rulesSubset e.2 (genRules e.1) = true
  catalogue_complete : ∀ e ∈ Gen.allClasses, rulesSubset e.2.flat (Spec.catalogue e.1) = true
  customs_bound : ∀ n ∈ Gen.customNames, n ∈ Spec.customNames
  label_patterns : Gen.re_composeinfo_LABEL_RE_LIST = Gen.LABEL_NAMES.map Spec.reLabel
  customs_bare : ∀ c ∈ Gen.allClasses, ∀ r ∈ c.2.flat, ∀ n ∈ Rule.customNamesIn r, r = .custom n ∧ n ∈ Spec.customNames
  id_before_uid : ∀ c ∈ Gen.allClasses,
    precededBy idRule (.custom Spec.cCiUid) c.2.flat = true ∧ precededBy idRule (.custom Spec.cTiUid) c.2.flat = true
  plain_classes : plainClass "common.Header" = true ∧ plainClass "composeinfo.Compose" = true ∧ plainClass "composeinfo.Release" = true
    ∧ plainClass "composeinfo.BaseProduct" = true ∧ plainClass "composeinfo.Variants" = true ∧ plainClass "composeinfo.ComposeInfo" = true
    ∧ plainClass "images.Image" = true ∧ plainClass "images.Images" = true ∧ plainClass "discinfo.DiscInfo" = true
    ∧ plainClass "treeinfo.Header" = true ∧ plainClass "treeinfo.Release" = true ∧ plainClass "treeinfo.BaseProduct" = true
    ∧ plainClass "treeinfo.Tree" = true ∧ plainClass "treeinfo.Variants" = true ∧ plainClass "treeinfo.Stage2" = true
    ∧ plainClass "treeinfo.Media" = true ∧ plainClass "treeinfo.TreeInfo" = true ∧ plainClass "rpms.Rpms" = true
    ∧ plainClass "modules.Modules" = true ∧ plainClass "extra_files.ExtraFiles" = true
  top_rule_less : Spec.catalogue "images.Images" = [] ∧ Spec.catalogue "composeinfo.ComposeInfo" = [] ∧ Spec.catalogue "treeinfo.TreeInfo" = []

/-- one declaration for both: they run over the same generated rule tables, whose string literals the kernel decodes anew in
every declaration -/
theorem c06_facts : C06TableFacts ∧ C06ExampleFacts := by
  -- the eight fields of `C06TableFacts` (propositions) as `decide _ = true`, the five of `C06ExampleFacts` (Bool equations) as they are
  suffices h : (decide _ = true ∧ decide _ = true ∧ decide _ = true ∧ decide _ = true ∧ decide _ = true ∧ decide _ = true
      ∧ decide _ = true ∧ decide _ = true) ∧ (_ ∧ _ ∧ _ ∧ _ ∧ _) by
    obtain ⟨⟨t1, t2, t3, t4, t5, t6, t7, t8⟩, e1, e2, e3, e4, e5⟩ := h
    exact ⟨⟨of_decide_eq_true t1, of_decide_eq_true t2, of_decide_eq_true t3, of_decide_eq_true t4, of_decide_eq_true t5,
      of_decide_eq_true t6, of_decide_eq_true t7, of_decide_eq_true t8⟩, ⟨e1, e2, e3, e4, e5⟩⟩
  decide +kernel

theorem c06_table_facts : C06TableFacts := c06_facts.1
theorem c06_example_facts : C06ExampleFacts := c06_facts.2

/-- every documented rule is among the rules `validate()` runs for its class (table form) -/
theorem C06_catalogue_enforced : ∀ e ∈ Spec.catalogueTable, rulesSubset e.2 (genRules e.1) = true := c06_table_facts.catalogue_enforced

/-- nothing undocumented is enforced: every rule `validate()` runs is in the catalogue (needed for the converse) -/
theorem C06_catalogue_complete : ∀ e ∈ Gen.allClasses, rulesSubset e.2.flat (Spec.catalogue e.1) = true := c06_table_facts.catalogue_complete

/-- the documented TYPE rules are strict about `bool`: the source's `_assert_type` (shape regenerated as
`Gen.assertTypeBoolStrict`) accepts a bool only where `bool` itself is listed.  With the bare `isinstance` loop
(`bool <: int`) this obligation fails, so the catalogue's "non-integer size/mtime/disc number" is not silently weakened
together with the code (F22/F43). -/
theorem C06_type_rule_bool_strict : Gen.assertTypeBoolStrict = true := by decide

/-- … and therefore: whatever the class, a `type` rule that does not list `bool` refuses every object holding a bool in
that field, with TypeError. -/
theorem C06_type_rule_refuses_bool (customs : Str → Obj → Except Err Unit) (o : Obj) (f : Str) (ts : List PyType) (b : Bool)
    (hf : o.get f = .bool b) (hts : ts.contains .bool = false) :
    Rule.check customs o (.type f ts) = .error .typeError := by
  simp only [Rule.check, hf, C06_type_rule_bool_strict, PyVal.assertTypeOk_strict_bool b hts]
  rfl

theorem C06_catalogue_sub (cls : String) : ∀ r ∈ Spec.catalogue cls, r ∈ genRules cls :=
  lookup_sub (f := id) C06_catalogue_enforced cls

theorem C06_generated_sub (cls : String) : ∀ r ∈ genRules cls, r ∈ Spec.catalogue cls :=
  lookup_sub (f := MethodRules.flat) C06_catalogue_complete cls

/-- every validator body outside the translated idiom is one the catalogue names (and `customs2` binds) -/
theorem C06_customs_bound : ∀ n ∈ Gen.customNames, n ∈ Spec.customNames := c06_table_facts.customs_bound

/-- the label patterns of the source are exactly `^<NAME>-\d+\.\d+$` for the documented label names -/
theorem C06_label_patterns : Gen.re_composeinfo_LABEL_RE_LIST = Gen.LABEL_NAMES.map Spec.reLabel := c06_table_facts.label_patterns

/-- every nested writer calls `self.validate()` where the model places it (first statement; last for the composeinfo
variant; after the early `return` of an empty treeinfo section; after `set_current_version()` in the JSON header) -/
theorem C06_flags :
    Flag.headerJsonSetsThenValidates = true ∧ Flag.compose = true ∧ Flag.ciRelease = true ∧ Flag.ciBaseProduct = true
    ∧ Flag.ciVariants = true ∧ Flag.ciVariantLast = true ∧ Flag.image = true ∧ Flag.dumpTop = true ∧ Flag.tiDumpTop = true
    ∧ Flag.tiHeader = true ∧ Flag.tiRelease = true ∧ Flag.tiBaseProduct = true ∧ Flag.tiTree = true ∧ Flag.tiVariants = true
    ∧ Flag.tiVariant = true ∧ Flag.tiChecksums = true ∧ Flag.tiImages = true ∧ Flag.tiStage2 = true ∧ Flag.tiMedia = true
    ∧ Flag.disc = true := by decide +kernel

/-- the GUARD under which each nested writer is called: the base product is written exactly for a layered release, a variant's
own release exactly for a layered product (what `parts` / `steps` assume); everything else unconditionally.  An obligation on the
source: the theorems about `dumps` below do not use it. -/
theorem C06_call_guards :
    (callSeq Gen.struct_composeinfo_ComposeInfo_serialize).map (fun e => (e.2.1, e.2.2))
      = [("self.header.serialize", []), ("self.compose.serialize", []), ("self.release.serialize", []),
         ("self.base_product.serialize", ["if:self.release.is_layered"]), ("self.variants.serialize", [])]
    ∧ (callSeq Gen.struct_treeinfo_TreeInfo_serialize).map (fun e => (e.2.1, e.2.2))
      = [("self", []), ("self.header.serialize", []), ("self.release.serialize", []), ("self.base_product.serialize", ["if:self.release.is_layered"]),
         ("self.tree.serialize", []), ("self.variants.serialize", []), ("self.checksums.serialize", []), ("self.images.serialize", []),
         ("self.stage2.serialize", []), ("self.media.serialize", []), ("general.serialize", [])]
    ∧ (callSeq Gen.struct_composeinfo_Variant_serialize).map (fun e => (e.2.1, e.2.2))
      = [("self.release.serialize", ["ifeq:self.type=layered-product"]), ("self.paths.serialize", []),
         ("variant.serialize", ["for:self.variants.values()"]), ("variant_ids.add", ["for:self.variants.values()"]), ("self", [])]
    ∧ (callSeq Gen.struct_images_Images_serialize).map (fun e => (e.2.1, e.2.2))
      = [("self.header.serialize", []), ("self.compose.serialize", []),
         ("image_obj.serialize", ["for:self.images", "for:self.images[variant]", "for:self.images[variant][arch]"])] := by
  decide +kernel

theorem callSeq_names : ∀ l : List (String × String × List String), l.map (·.2.1) = (l.map fun e => (e.2.1, e.2.2)).map (·.1)
  | [] => rfl
  | e :: l => congrArg (e.2.1 :: ·) (callSeq_names l)

/-- the order of the nested writers (what `parts`/`steps` follow); an obligation on the source, like `C06_call_guards` -/
theorem C06_call_order :
    (callSeq Gen.struct_composeinfo_ComposeInfo_serialize).map (·.2.1)
      = ["self.header.serialize", "self.compose.serialize", "self.release.serialize", "self.base_product.serialize", "self.variants.serialize"]
    ∧ (callSeq Gen.struct_images_Images_serialize).map (·.2.1) = ["self.header.serialize", "self.compose.serialize", "image_obj.serialize"]
    ∧ (callSeq Gen.struct_treeinfo_TreeInfo_serialize).map (·.2.1)
      = ["self", "self.header.serialize", "self.release.serialize", "self.base_product.serialize", "self.tree.serialize", "self.variants.serialize",
         "self.checksums.serialize", "self.images.serialize", "self.stage2.serialize", "self.media.serialize", "general.serialize"]
    ∧ (callSeq Gen.struct_rpms_Rpms_serialize).map (·.2.1) = ["self.header.serialize", "self.compose.serialize"]
    ∧ (callSeq Gen.struct_modules_Modules_serialize).map (·.2.1) = ["self", "self.header.serialize", "self.compose.serialize"]
    ∧ (callSeq Gen.struct_extra_files_ExtraFiles_serialize).map (·.2.1) = ["self", "self.header.serialize", "self.compose.serialize"] := by
  -- for the composite formats the order is the first component of the guard table
  obtain ⟨h1, h2, _, h4⟩ := C06_call_guards
  refine ⟨?_, ?_, ?_, ?_⟩
  · rw [callSeq_names, h1]
    rfl
  · rw [callSeq_names, h4]
    rfl
  · rw [callSeq_names, h2]
    rfl
  · decide +kernel

theorem mem_jsonHeader_validate {h : Obj} {p : Part} :
    Step.validate p ∈ jsonHeaderSteps h ↔ p = ⟨"common.Header", withCurrentVersion h⟩ := by
  simp [jsonHeaderSteps, C06_flags.1]

theorem mem_jsonHeader_check {h : Obj} {r : Except Err Unit} : Step.check r ∉ jsonHeaderSteps h := by
  simp [jsonHeaderSteps, C06_flags.1]

theorem validated_simple (m : SimpleM) (p : Part) : Step.validate p ∈ m.steps ↔ p = ⟨m.cls, []⟩ ∨ p ∈ m.parts := by
  simp only [SimpleM.steps, SimpleM.parts, List.mem_append, List.mem_cons, List.not_mem_nil, or_false, mem_vstep_validate,
    mem_jsonHeader_validate, C06_flags, true_and, or_assoc]

theorem checks_simple (m : SimpleM) (r : Except Err Unit) : Step.check r ∉ m.steps := by
  simp [SimpleM.steps, mem_vstep_check, mem_jsonHeader_check]

theorem validated_images (m : ImagesM) (p : Part) : Step.validate p ∈ m.steps ↔ p = ⟨"images.Images", []⟩ ∨ p ∈ m.parts := by
  simp only [ImagesM.steps, ImagesM.parts, List.mem_append, List.mem_cons, List.not_mem_nil, or_false, List.mem_flatMap, List.mem_map,
    mem_vstep_validate, mem_jsonHeader_validate, C06_flags, true_and, or_assoc, @eq_comm _ p]

theorem checks_images (m : ImagesM) (r : Except Err Unit) : Step.check r ∉ m.steps := by
  simp [ImagesM.steps, mem_vstep_check, mem_jsonHeader_check]

theorem validated_discinfo (m : DiscM) (p : Part) : Step.validate p ∈ m.steps ↔ p ∈ m.parts := by
  simp only [DiscM.steps, DiscM.parts, List.mem_append, List.mem_cons, List.not_mem_nil, or_false, mem_vstep_validate, C06_flags, true_and,
    or_self]

theorem checks_discinfo (m : DiscM) (r : Except Err Unit) : Step.check r ∉ m.steps := by
  simp [DiscM.steps, mem_vstep_check]

theorem validated_evSteps (p : Part) : ∀ (evs : List Ev) (seen : List PyVal),
    Step.validate p ∈ evSteps seen evs ↔ ∃ ev ∈ evs, p ∈ evParts ev := by
  intro evs
  induction evs with
  | nil => intro _; simp [evSteps]
  | cons ev rest ih =>
    intro seen
    cases ev <;> simp [evSteps, evParts, mem_vstep_validate, C06_flags, ih, @eq_comm _ p]

theorem validated_composeinfo (m : ComposeInfoM) (p : Part) :
    Step.validate p ∈ m.steps ↔ p = ⟨"composeinfo.ComposeInfo", []⟩ ∨ p ∈ m.parts := by
  simp only [ComposeInfoM.steps, ComposeInfoM.parts, List.mem_append, List.mem_cons, List.not_mem_nil, or_false, List.mem_flatMap,
    List.mem_ite_nil_right, mem_vstep_validate, mem_jsonHeader_validate, validated_evSteps, C06_flags, true_and, or_assoc]

theorem checks_composeinfo (m : ComposeInfoM) (r : Except Err Unit) : Step.check r ∈ m.steps ↔ Step.check r ∈ evSteps [] m.events := by
  simp [ComposeInfoM.steps, mem_vstep_check, mem_jsonHeader_check]

theorem validated_treeinfo (m : TreeInfoM) (p : Part) : Step.validate p ∈ m.steps ↔ p = ⟨"treeinfo.TreeInfo", []⟩ ∨ p ∈ m.parts := by
  simp only [TreeInfoM.steps, TreeInfoM.variantSteps, TreeInfoM.parts, List.mem_append, List.mem_flatMap, List.mem_map, List.mem_cons,
    List.not_mem_nil, or_false, List.mem_ite_nil_right, mem_vstep_validate, C06_flags, true_and,
    reduceCtorEq, or_assoc, @eq_comm _ p]

theorem checks_treeinfo (m : TreeInfoM) (r : Except Err Unit) : Step.check r ∈ m.steps ↔
    (∃ o ∈ m.flat, r = if isStr (o.get c!"uid") then .ok () else .error .typeError)
    ∨ (m.hasMedia = true ∧ (r = pyIntOk (m.media.get c!"discnum") ∨ r = pyIntOk (m.media.get c!"totaldiscs")))
    ∨ r = m.generalOk := by
  simp [TreeInfoM.steps, TreeInfoM.variantSteps, mem_vstep_check]

private theorem enforced (steps : List Step) (p : Part) (hmem : Step.validate p ∈ steps) (hv : p.Violates) :
    ∃ e, runSteps steps = .error e :=
  runSteps_error_of_mem steps _ hmem (validate2_rejects C06_catalogue_sub p hv)

/-- rpms / modules / extra_files (header and compose are the validated parts) -/
theorem C06_enforced_simple (m : SimpleM) (p : Part) (hp : p ∈ m.parts) (hv : p.Violates) : ∃ e, m.dumps = .error e :=
  enforced m.steps p ((validated_simple m p).mpr (Or.inr hp)) hv

/-- images: any image in any cell -/
theorem C06_enforced_images (m : ImagesM) (p : Part) (hp : p ∈ m.parts) (hv : p.Violates) : ∃ e, m.dumps = .error e :=
  enforced m.steps p ((validated_images m p).mpr (Or.inr hp)) hv

/-- composeinfo: any section, any variant of the forest at any depth, the release of any layered product -/
theorem C06_enforced_composeinfo (m : ComposeInfoM) (p : Part) (hp : p ∈ m.parts) (hv : p.Violates) : ∃ e, m.dumps = .error e :=
  enforced m.steps p ((validated_composeinfo m p).mpr (Or.inr hp)) hv

/-- treeinfo: any section, any variant at any depth -/
theorem C06_enforced_treeinfo (m : TreeInfoM) (p : Part) (hp : p ∈ m.parts) (hv : p.Violates) : ∃ e, m.dumps = .error e :=
  enforced m.steps p ((validated_treeinfo m p).mpr (Or.inr hp)) hv

theorem C06_enforced_discinfo (m : DiscM) (p : Part) (hp : p ∈ m.parts) (hv : p.Violates) : ∃ e, m.dumps = .error e :=
  enforced m.steps p ((validated_discinfo m p).mpr hp) hv

/-- `v` occurs in the forest `vs` at some depth -/
inductive CIVar.In : CIVar → List CIVar → Prop where
  | top (v : CIVar) (vs : List CIVar) : CIVar.In v (v :: vs)
  | next (v w : CIVar) (vs : List CIVar) : CIVar.In v vs → CIVar.In v (w :: vs)
  | under (v : CIVar) (k : Str) (a r : Obj) (kids vs : List CIVar) : CIVar.In v kids → CIVar.In v (CIVar.mk k a r kids :: vs)

/-- every variant of the forest, at any depth, contributes its `exit` event, i.e. a `composeinfo.Variant` part -/
theorem C06_parts_forest (v : CIVar) (vs : List CIVar) (h : CIVar.In v vs) :
    ∀ parent, ∃ par, Ev.exit (ciVarObj par v.attrs v.kids) ∈ eventsList parent vs := by
  induction h with
  | top vs =>
    intro parent
    cases v with
    | mk k a r kids =>
      exact ⟨parent, by simp [eventsList, CIVar.events, CIVar.attrs, CIVar.kids]⟩
  | next w vs _ ih =>
    intro parent
    obtain ⟨par, hpar⟩ := ih parent
    exact ⟨par, by simp only [eventsList, List.mem_append]; exact Or.inr hpar⟩
  | under k a r kids vs _ ih =>
    intro parent
    obtain ⟨par, hpar⟩ := ih (parentPseudo a)
    exact ⟨par, by simp only [eventsList, CIVar.events, List.mem_append, List.mem_cons]; exact Or.inl (Or.inr (Or.inl hpar))⟩

theorem checks_evSteps_tv : ∀ (evs : List Ev) (seen : List PyVal) (r : Except Err Unit),
    Step.check r ∈ evSteps seen evs → Fails r TV := by
  intro evs
  induction evs with
  | nil => intro _ r hr; cases hr
  | cons ev rest ih =>
    intro seen r hr
    cases ev with
    | enter o rel =>
      simp only [evSteps, List.mem_append, List.mem_cons, List.not_mem_nil, or_false, List.mem_ite_nil_right, mem_vstep_check,
        and_false, Step.check.injEq] at hr
      rcases hr with (rfl | rfl) | hr
      · exact pySortedOk_tv _
      · exact hashableElems_tv _
      · exact ih seen r hr
    | exit o =>
      simp only [evSteps, List.mem_append, List.mem_cons, List.not_mem_nil, or_false, mem_vstep_check, Step.check.injEq] at hr
      rcases hr with (rfl | rfl) | hr
      · exact hashable_tv _
      · -- the refusal of a UID already written: the only ValueError among the writer's own checks
        exact .ite (fun _ => .error tv_value) fun _ => .ok
      · exact ih _ r hr

theorem converse_of_steps (steps : List Step) (hv : ∀ p, Step.validate p ∈ steps → p.Conforms)
    (hc : ∀ r, Step.check r ∈ steps → r = .ok ()) : runSteps steps = .ok () := by
  refine (runSteps_ok_iff steps).mpr fun s hs => ?_
  cases s with
  | validate p => exact validate2_accepts C06_generated_sub p (hv p hs)
  | check r => exact hc r hs

theorem converse_of_validated {steps : List Step} {top : Part} {parts : List Part} (htop : Spec.catalogue top.cls = [])
    (hval : ∀ p, Step.validate p ∈ steps → p = top ∨ p ∈ parts) (h : ∀ p ∈ parts, p.Conforms)
    (hc : ∀ r, Step.check r ∈ steps → r = .ok ()) : runSteps steps = .ok () := by
  refine converse_of_steps steps (fun p hp => (hval p hp).elim (fun e r hr => ?_) (h p)) hc
  rw [e, htop] at hr
  cases hr

/-- images: every valid manifest is written (no writer-side failure source exists in the walk) -/
theorem C06_converse_images (m : ImagesM) (h : ∀ p ∈ m.parts, p.Conforms) : m.dumps = .ok () :=
  converse_of_validated (top := ⟨"images.Images", []⟩) c06_table_facts.top_rule_less.1 (fun p => (validated_images m p).mp) h
    (fun r hr => absurd hr (checks_images m r))

/-- rpms / modules / extra_files (`m.cls` one of the three top-level classes, none of which has a documented rule) -/
theorem C06_converse_simple (m : SimpleM) (hcls : Spec.catalogue m.cls = []) (h : ∀ p ∈ m.parts, p.Conforms) : m.dumps = .ok () :=
  converse_of_validated (top := ⟨m.cls, []⟩) hcls (fun p => (validated_simple m p).mp) h (fun r hr => absurd hr (checks_simple m r))

theorem C06_converse_discinfo (m : DiscM) (h : ∀ p ∈ m.parts, p.Conforms) : m.dumps = .ok () :=
  converse_of_steps m.steps (fun p hp => h p ((validated_discinfo m p).mp hp)) (fun r hr => absurd hr (checks_discinfo m r))

/-- composeinfo: all written parts conform and none of the writer's own failure sources fires — `sorted(arches)` on
incomparable elements, an unhashable arch or UID, a UID that an earlier variant already used — then the dump succeeds. -/
theorem C06_converse_composeinfo (m : ComposeInfoM) (h : ∀ p ∈ m.parts, p.Conforms)
    (hw : ∀ r, Step.check r ∈ evSteps [] m.events → r = .ok ()) : m.dumps = .ok () :=
  converse_of_validated (top := ⟨"composeinfo.ComposeInfo", []⟩) c06_table_facts.top_rule_less.2.1 (fun p => (validated_composeinfo m p).mp) h
    (fun r hr => hw r ((checks_composeinfo m r).mp hr))

/-- treeinfo: all written parts conform and none of the writer's own failure sources fires — `General.serialize` succeeds
(`generalOk`: the build timestamp is a FINITE number — `int(inf)`/`int(nan)` raise, finding F40 — and there is at least one variant,
`variants[0]`, F12; with `main_variant=None`, the only way `dumps()` calls it, the key exists), every
variant's uid is a string (`"variant-" + self.uid`), a written `[media]` section has both numbers (`int(None)`) — then the
dump succeeds.  (Unvalidated attributes the INI writer needs as strings — variant names, path tables, platforms — are the
well-typed skeleton, not part of the model.) -/
theorem C06_converse_treeinfo (m : TreeInfoM) (h : ∀ p ∈ m.parts, p.Conforms) (hv : m.generalOk = .ok ())
    (hu : ∀ o ∈ m.flat, isStr (o.get c!"uid") = true)
    (hm : m.hasMedia = true → pyIntOk (m.media.get c!"discnum") = .ok () ∧ pyIntOk (m.media.get c!"totaldiscs") = .ok ()) :
    m.dumps = .ok () := by
  refine converse_of_validated (top := ⟨"treeinfo.TreeInfo", []⟩) c06_table_facts.top_rule_less.2.2 (fun p => (validated_treeinfo m p).mp) h fun r hr => ?_
  rcases (checks_treeinfo m r).mp hr with ⟨o, ho, rfl⟩ | ⟨hl, rfl | rfl⟩ | rfl
  · simp [hu o ho]
  · exact (hm hl).1
  · exact (hm hl).2
  · exact hv

/-- hand-bound rules occur bare in the generated rule lists and are the nine the catalogue names -/
theorem C06_customs_bare : ∀ c ∈ Gen.allClasses, ∀ r ∈ c.2.flat, ∀ n ∈ Rule.customNamesIn r, r = .custom n ∧ n ∈ Spec.customNames := c06_table_facts.customs_bare

/-- in every class `_assert_type("id", str)` runs before the uid alignment body (method order `_validate_id` < `_validate_uid`) -/
theorem C06_id_before_uid : ∀ c ∈ Gen.allClasses,
    precededBy idRule (.custom Spec.cCiUid) c.2.flat = true ∧ precededBy idRule (.custom Spec.cTiUid) c.2.flat = true := c06_table_facts.id_before_uid

theorem genRules_cases (cls : String) : genRules cls = [] ∨ ∃ c ∈ Gen.allClasses, genRules cls = c.2.flat := by
  unfold genRules
  cases hf : Gen.allClasses.find? (·.1 == cls) with
  | none => exact Or.inl rfl
  | some c => exact Or.inr ⟨c, List.mem_of_find?_eq_some hf, rfl⟩

theorem genRules_customs_bare (cls : String) : ∀ r ∈ genRules cls, ∀ n ∈ Rule.customNamesIn r, r = .custom n ∧ n ∈ Spec.customNames := by
  rcases genRules_cases cls with h | ⟨c, hc, h⟩
  · rw [h]
    intro r hr
    cases hr
  · rw [h]
    exact C06_customs_bare c hc

theorem genRules_id_before_uid (cls : String) :
    precededBy idRule (.custom Spec.cCiUid) (genRules cls) = true ∧ precededBy idRule (.custom Spec.cTiUid) (genRules cls) = true := by
  rcases genRules_cases cls with h | ⟨c, hc, h⟩
  · rw [h]
    exact ⟨rfl, rfl⟩
  · rw [h]
    exact C06_id_before_uid c hc

/-- every validated part of the walk lies where the model knows the exception class (see the file header) -/
def StepsInDomain (steps : List Step) : Prop := ∀ p, Step.validate p ∈ steps → p.InDomain = true

theorem errclass_of_steps (P : Err → Prop) (steps : List Step) (hc : ∀ r, Step.check r ∈ steps → Fails r P)
    (hd : StepsInDomain steps) (e : Err) (h : runSteps steps = .error e) : TV e ∨ P e := by
  obtain ⟨s, hs, hrun⟩ := runSteps_error_src steps e h
  cases s with
  | validate p => exact Or.inl (validate2_tv genRules_customs_bare genRules_id_before_uid p (hd p hs) e hrun)
  | check r => exact Or.inr ((hc r hs).elim hrun)

theorem inDomain_of_plain (p : Part) (h : plainClass p.cls = true) : p.InDomain = true := by
  unfold Part.InDomain
  unfold plainClass at h
  refine List.all_eq_true.mpr fun n hn => ?_
  have := List.all_eq_true.mp h n hn
  simp only [Bool.and_eq_true, Bool.not_eq_true'] at this
  obtain ⟨⟨⟨h1, h2⟩, h3⟩, h4⟩ := this
  simp [nameDomain, h1, h2, h3, h4]

theorem errclass_of_validated (P : Err → Prop) {steps : List Step} {top : Part} {parts : List Part} (htop : plainClass top.cls = true)
    (hval : ∀ p, Step.validate p ∈ steps → p = top ∨ p ∈ parts) (hparts : ∀ p ∈ parts, p.InDomain = true)
    (hc : ∀ r, Step.check r ∈ steps → Fails r P) (e : Err) (h : runSteps steps = .error e) : TV e ∨ P e :=
  errclass_of_steps P steps hc (fun p hp => (hval p hp).elim (fun e => e ▸ inDomain_of_plain _ htop) (hparts p)) e h

/-- images: ANY failure of the dump is TypeError or ValueError (no hypothesis) -/
theorem C06_errclass_images (m : ImagesM) (e : Err) (h : m.dumps = .error e) : e = .typeError ∨ e = .valueError := by
  obtain ⟨header, compose, _, _, _, _, image, images, _⟩ := c06_table_facts.plain_classes
  refine (errclass_of_validated (fun _ => False) (top := ⟨"images.Images", []⟩) images (fun p => (validated_images m p).mp) (fun p hp => ?_)
    (fun r hr => absurd hr (checks_images m r)) e h).elim id False.elim
  simp only [ImagesM.parts, List.mem_append, List.mem_cons, List.not_mem_nil, or_false, List.mem_map] at hp
  rcases hp with (rfl | rfl) | ⟨o, _, rfl⟩
  · exact inDomain_of_plain _ header
  · exact inDomain_of_plain _ compose
  · exact inDomain_of_plain _ image

/-- rpms / modules / extra_files -/
theorem C06_errclass_simple (m : SimpleM) (hcls : plainClass m.cls = true) (e : Err) (h : m.dumps = .error e) :
    e = .typeError ∨ e = .valueError := by
  obtain ⟨header, compose, _⟩ := c06_table_facts.plain_classes
  refine (errclass_of_validated (fun _ => False) (top := ⟨m.cls, []⟩) hcls (fun p => (validated_simple m p).mp) (fun p hp => ?_)
    (fun r hr => absurd hr (checks_simple m r)) e h).elim id False.elim
  simp only [SimpleM.parts, List.mem_cons, List.not_mem_nil, or_false] at hp
  rcases hp with rfl | rfl
  · exact inDomain_of_plain _ header
  · exact inDomain_of_plain _ compose

theorem C06_errclass_discinfo (m : DiscM) (e : Err) (h : m.dumps = .error e) : e = .typeError ∨ e = .valueError := by
  obtain ⟨_, _, _, _, _, _, _, _, discInfo, _⟩ := c06_table_facts.plain_classes
  refine (errclass_of_steps (fun _ => False) m.steps (fun r hr => absurd hr (checks_discinfo m r)) (fun p hp => ?_) e h).elim id
    False.elim
  have := (validated_discinfo m p).mp hp
  simp only [DiscM.parts, List.mem_cons, List.not_mem_nil, or_false] at this
  exact this ▸ inDomain_of_plain _ discInfo

/-- composeinfo: ANY failure of the dump is TypeError or ValueError, for objects whose validated parts are in the model's domain
(scalar parent uids, no foreign arch container) -/
theorem C06_errclass_composeinfo (m : ComposeInfoM) (hd : StepsInDomain m.steps) (e : Err) (h : m.dumps = .error e) :
    e = .typeError ∨ e = .valueError :=
  (errclass_of_steps TV m.steps (fun r hr => checks_evSteps_tv _ _ r ((checks_composeinfo m r).mp hr)) hd e h).elim id id

theorem variant_inDomain (o : Obj) :
    Part.InDomain ⟨"composeinfo.Variant", o⟩ = (parentArchesKnown o && parentUidKnown o) := by
  have hnames : (genRules "composeinfo.Variant").flatMap Rule.customNamesIn = [Spec.cCiParentArch, Spec.cCiUid, Spec.cVariantKeys] := by
    decide +kernel
  rw [Part.InDomain, hnames]
  -- `nameDomain` of the third name, `Spec.cVariantKeys`, is `true`
  show (parentArchesKnown o && (parentUidKnown o && true)) = _
  rw [Bool.and_true]

/-- what `StepsInDomain` asks of a composeinfo object: of its variants, the two pseudo-attributes read through the parent -/
theorem composeinfo_inDomain (m : ComposeInfoM)
    (hv : ∀ ev ∈ m.events, ∀ o, ev = Ev.exit o → parentArchesKnown o = true ∧ parentUidKnown o = true) : StepsInDomain m.steps := by
  obtain ⟨header, compose, release, baseProduct, variants, composeInfo, _⟩ := c06_table_facts.plain_classes
  intro p hp
  rcases (validated_composeinfo m p).mp hp with rfl | hp
  · exact inDomain_of_plain _ composeInfo
  simp only [ComposeInfoM.parts, List.mem_append, List.mem_cons, List.not_mem_nil, or_false, List.mem_flatMap, List.mem_ite_nil_right,
    Ev.exists, evParts] at hp
  rcases hp with (((rfl | rfl | rfl) | ⟨_, rfl⟩) | rfl) | ⟨o, rel, _, _, rfl⟩ | ⟨o, ho, rfl⟩
  · exact inDomain_of_plain _ header
  · exact inDomain_of_plain _ compose
  · exact inDomain_of_plain _ release
  · exact inDomain_of_plain _ baseProduct
  · exact inDomain_of_plain _ variants
  · exact inDomain_of_plain _ release
  · obtain ⟨ha, hu⟩ := hv _ ho o rfl
    rw [variant_inDomain, ha, hu]
    rfl

/-- treeinfo: ANY failure of the dump is TypeError or ValueError — or a failure of `General.serialize` (`C06_general_failures`:
IndexError of a tree without variants, F12; a non-finite float build timestamp, F40) — for objects whose validated parts are in
the model's domain (scalar parent uids; checksum and platform tables that are dicts) -/
theorem C06_errclass_treeinfo (m : TreeInfoM) (hd : StepsInDomain m.steps) (e : Err) (h : m.dumps = .error e) :
    e = .typeError ∨ e = .valueError ∨ (m.generalOk = .error e) := by
  have hc : ∀ r, Step.check r ∈ m.steps → Fails r fun e => TV e ∨ m.generalOk = .error e := by
    intro r hr e he
    rcases (checks_treeinfo m r).mp hr with ⟨o, _, rfl⟩ | ⟨_, rfl | rfl⟩ | rfl
    · exact Or.inl ((Fails.ite (fun _ => .ok) (fun _ => .error tv_type)).elim he)
    · exact Or.inl ((pyIntOk_tv _).elim he)
    · exact Or.inl ((pyIntOk_tv _).elim he)
    · exact Or.inr he
  exact (errclass_of_steps _ m.steps hc hd e h).elim (fun h1 => or_assoc.mp (Or.inl h1)) or_assoc.mp

theorem nonFinite_some {v : PyVal} {e : Err} (h : nonFinite v = some e) : (e = .valueError ∨ e = .other) ∧ ∃ r, v = .float r := by
  unfold nonFinite at h
  split at h
  · rename_i r
    refine ⟨?_, r, rfl⟩
    split at h
    · exact Or.inl (Option.some.inj h).symm
    · split at h
      · exact Or.inr (Option.some.inj h).symm
      · cases h
  · cases h

/-- the failures of `General.serialize`: IndexError only when there is no variant (F12); otherwise the build timestamp is a
float, `nan` (ValueError) or `inf` (OverflowError, `Err.other`) (F40) -/
theorem C06_general_failures (m : TreeInfoM) (e : Err) (h : m.generalOk = .error e) :
    (e = .indexError ∧ m.variants = []) ∨ ((e = .valueError ∨ e = .other) ∧ ∃ r, m.tree.get c!"build_timestamp" = .float r) := by
  unfold TreeInfoM.generalOk at h
  split at h
  · rename_i hn
    cases h
    exact Or.inr (nonFinite_some hn)
  · split at h
    · rename_i hemp
      cases h
      exact Or.inl ⟨rfl, List.isEmpty_iff.mp hemp⟩
    · cases h

theorem stepsInDomain_of_B {steps : List Step} (h : stepsInDomainB steps = true) : StepsInDomain steps := by
  intro p hp
  exact List.all_eq_true.mp h _ hp

/-- a manifest all of whose parts conform (`conformsB`: the hypothesis of `C06_converse_images`, computed) and which is written -/
example : (exImages (.int 1)).parts.all conformsB = true ∧ isOk (exImages (.int 1)).dumps = true := c06_example_facts.written
/-- … and one image field corrupted (`size = 0`): a part violates the catalogue (the hypothesis of `C06_enforced_images`, computed), dump refused -/
example : (exImages (.int 0)).parts.all conformsB = false ∧ isOk (exImages (.int 0)).dumps = false := c06_example_facts.refused
/-- a two-level compose in the domain that is written; with a foreign child arch it is in the domain and refused with ValueError;
with a LIST as the parent's uid the child's alignment cannot be computed: outside the domain (`Err.other`) -/
example : stepsInDomainB (exCI (.str c!"Server") (.str c!"x86_64")).steps = true ∧ isOk (exCI (.str c!"Server") (.str c!"x86_64")).dumps = true
    ∧ stepsInDomainB (exCI (.str c!"Server") (.str c!"sparc")).steps = true
    ∧ (match (exCI (.str c!"Server") (.str c!"sparc")).dumps with | .error .valueError => true | _ => false) = true
    ∧ stepsInDomainB (exCI (.list []) (.str c!"x86_64")).steps = false := c06_example_facts.domain
/-- a tree meeting every hypothesis of `C06_converse_treeinfo` (written), and two of the writer-side failure sources, each with all
parts conforming: no variant (IndexError, F12), `[media]` with one number (`int(None)`, TypeError) -/
example : (exTI [exTIVar] noMedia).parts.all conformsB = true ∧ isOk (exTI [exTIVar] noMedia).dumps = true
    ∧ stepsInDomainB (exTI [exTIVar] noMedia).steps = true
    ∧ (exTI [] noMedia).parts.all conformsB = true ∧ (match (exTI [] noMedia).dumps with | .error .indexError => true | _ => false) = true
    ∧ (exTI [exTIVar] [(c!"discnum", .int 1), (c!"totaldiscs", .none)]).parts.all conformsB = true
    ∧ (match (exTI [exTIVar] [(c!"discnum", .int 1), (c!"totaldiscs", .none)]).dumps with | .error .typeError => true | _ => false) = true := c06_example_facts.treeinfo

/-- F23 (repaired by a `fix:` commit in /repo, before which the outcome was `AttributeError`; replayed on the real code by the
harness): a childless top-level variant whose uid is `None` is refused with TypeError, because `_validate_uid` asserts the type of
`uid` before calling `.replace` -/
theorem C06_F23_repaired :
    let v : Obj := [(c!"id", .str c!"Server"), (c!"uid", .none), (c!"name", .str c!"Server"), (c!"type", .str c!"variant"),
                    (c!"arches", .list [.str c!"x86_64"])]
    let m : ComposeInfoM := ⟨[], [(c!"id", .str c!"F-1-20200101.0"), (c!"date", .str c!"20200101"), (c!"type", .str c!"production"),
        (c!"respin", .int 0), (c!"label", .none), (c!"final", .bool false)],
      [(c!"name", .str c!"F"), (c!"short", .str c!"F"), (c!"version", .str c!"1"), (c!"type", .str c!"ga"), (c!"is_layered", .bool false),
       (c!"internal", .bool false)], [], [.mk c!"Server" v [] []]⟩
    (match m.dumps with | .error .typeError => true | _ => false) = true := c06_example_facts.F23

end PM
