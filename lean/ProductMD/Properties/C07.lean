import ProductMD.Properties.C06
import ProductMD.Model.Loads
import ProductMD.Model.LoadsForest
/-!
# C07 — documents violating a documented constraint are rejected on load

Model (`Model/Loads.lean`): `loads d = fill d >>= fun x => runSteps (checks x) >>= fun _ => pure x`, where `checks` are the
`validate()` calls of the section readers on what they filled — placed by the regenerated call structure — and `fill` is the
rest of the reader (key lookups, coercions, header version / type gate from the regenerated gate, `Images.add`).

Full statement: `loads d = ok x → ∀ part ∈ parts x, ∀ r ∈ catalogue part.cls, r holds` for every format, plus header and
required-key rejections.  Proved for all seven formats: rpms/modules/extra_files (header + compose, as the quantifier says), images (every image of
every cell), discinfo, composeinfo and treeinfo (every section, every variant of the rebuilt forest at any depth;
`Model/LoadsForest.lean`).  The models are total over header versions: the readers a generated version gate selects for documents
older than 0.3 / 0.4 / 1.0 / 1.1 / 1.2 (and for a treeinfo without a header) are part of `fill` (built from C05's models of the
legacy-specific steps), and `checks` are the same `validate()` calls, because every class validates AFTER dispatching on the gate
(`C07_legacy_dispatch`).  `C07_sound_*_all_versions` state the soundness for a document of any version.
-/
namespace PM
open PM.Val PM.Val.Loads

/-- every section reader ends by validating what it filled (no early return), `loads()` ends by validating the top-level
object, `add` validates the variant it is given -/
theorem C07_flags :
    LFlag.header = true ∧ LFlag.tiHeader = true ∧ LFlag.compose = true ∧ LFlag.ciRelease = true ∧ LFlag.ciBaseProduct = true
    ∧ LFlag.ciVariant = true ∧ LFlag.image = true ∧ LFlag.disc = true ∧ LFlag.loads = true ∧ LFlag.tiRelease = true
    ∧ LFlag.tiBaseProduct = true ∧ LFlag.tiTree = true ∧ LFlag.tiVariants = true ∧ LFlag.tiChecksums = true ∧ LFlag.tiImages = true
    ∧ LFlag.tiStage2 = true ∧ LFlag.tiMedia = true ∧ LFlag.addValidates = true := by decide +kernel

/-- the header type gate is exactly `version_tuple >= (1, 1)`, in both header readers -/
theorem C07_gate_boundary :
    Gen.gate_common_Header_deserialize_0 = { op := .ge, bound := (1, 1) }
    ∧ Gen.gate_treeinfo_Header_deserialize_0 = { op := .ge, bound := (1, 1) } := by decide +kernel

/-- hence: 1.0 is exempt, 1.1 and 1.2 are not -/
theorem C07_gate_probe :
    Gen.gate_common_Header_deserialize_0.eval? (1, 0) = some false ∧ Gen.gate_common_Header_deserialize_0.eval? (1, 1) = some true
    ∧ Gen.gate_common_Header_deserialize_0.eval? (1, 2) = some true ∧ Gen.gate_treeinfo_Header_deserialize_0.eval? (1, 0) = some false
    ∧ Gen.gate_treeinfo_Header_deserialize_0.eval? (1, 1) = some true := by
  obtain ⟨h1, h2⟩ := C07_gate_boundary
  rw [h1, h2]
  decide

/-- the GUARD under which each nested reader is called (not only the order): the base product is read exactly when the release
just read says it is layered (`if self.release.is_layered:`) — the model `ciFrontFill`/`tiFrontFill` does the same, which is what
makes the base-product section REQUIRED for a layered release; a layered-product variant's own release is read under
`self.type == "layered-product"`; every image goes through `add` (or `_add_1_1` on the other side of the generated gate); all other
section readers are called unconditionally -/
theorem C07_call_guards :
    (callSeq Gen.struct_composeinfo_ComposeInfo_deserialize).map (fun e => (e.2.1, e.2.2))
      = [("self.header.deserialize", []), ("self.compose.deserialize", []), ("self.release.deserialize", []),
         ("self.base_product.deserialize", ["if:self.release.is_layered"]), ("self.variants.deserialize", []),
         ("self.header.set_current_version", [])]
    ∧ (callSeq Gen.struct_treeinfo_TreeInfo_deserialize).map (fun e => (e.2.1, e.2.2))
      = [("self.header.deserialize", []), ("self.release.deserialize", []), ("self.base_product.deserialize", ["if:self.release.is_layered"]),
         ("self.tree.deserialize", []), ("self.variants.deserialize", []), ("self.checksums.deserialize", []), ("self.images.deserialize", []),
         ("self.stage2.deserialize", []), ("self.media.deserialize", []), ("self", []), ("self.header.set_current_version", [])]
    ∧ (callSeq Gen.struct_composeinfo_Variant_deserialize).map (fun e => (e.2.1, e.2.2))
      = [("self.release.deserialize", ["ifeq:self.type=layered-product"]), ("self.paths.deserialize", []),
         ("variant.deserialize", ["for:variant_uids"]), ("self.add", ["for:variant_uids"]), ("self", [])]
    ∧ (callSeq Gen.struct_composeinfo_Variants_deserialize).map (fun e => (e.2.1, e.2.2))
      = [("child_variants.add", ["for:data[self._section].values()", "for:var.get('variants', [])"]),
         ("variant.deserialize", ["for:variant_ids"]), ("self.add", ["for:variant_ids"])]
    ∧ (callSeq Gen.struct_treeinfo_Variants_deserialize).map (fun e => (e.2.1, e.2.2))
      = [("self.deserialize_0_0", ["gate:gate_treeinfo_Variants_deserialize_0"]), ("self.deserialize_1_0", ["notgate:gate_treeinfo_Variants_deserialize_0"]),
         ("variant.deserialize", ["for:variant_ids"]), ("self.add", ["for:variant_ids"]), ("self", [])]
    ∧ (callSeq Gen.struct_images_Images_deserialize).map (fun e => (e.2.1, e.2.2))
      = [("self.header.deserialize", []), ("self.compose.deserialize", []),
         ("image_obj.deserialize", ["for:data['payload']['images']", "for:data['payload']['images'][variant]", "for:data['payload']['images'][variant][arch]"]),
         ("self._add_1_1", ["for:data['payload']['images']", "for:data['payload']['images'][variant]", "for:data['payload']['images'][variant][arch]",
                            "gate:gate_images_Images_deserialize_0"]),
         ("self.add", ["for:data['payload']['images']", "for:data['payload']['images'][variant]", "for:data['payload']['images'][variant][arch]",
                       "notgate:gate_images_Images_deserialize_0"]),
         ("self.header.set_current_version", [])] := by
  decide +kernel

/-- the nested readers run in the documented order and the top-level readers of the composite formats call them all -/
theorem C07_call_order :
    (callSeq Gen.struct_composeinfo_ComposeInfo_deserialize).map (·.2.1)
      = ["self.header.deserialize", "self.compose.deserialize", "self.release.deserialize", "self.base_product.deserialize",
         "self.variants.deserialize", "self.header.set_current_version"]
    ∧ (callSeq Gen.struct_treeinfo_TreeInfo_deserialize).map (·.2.1)
      = ["self.header.deserialize", "self.release.deserialize", "self.base_product.deserialize", "self.tree.deserialize", "self.variants.deserialize",
         "self.checksums.deserialize", "self.images.deserialize", "self.stage2.deserialize", "self.media.deserialize", "self", "self.header.set_current_version"]
    ∧ (callSeq Gen.struct_images_Images_deserialize).map (·.2.1)
      = ["self.header.deserialize", "self.compose.deserialize", "image_obj.deserialize", "self._add_1_1", "self.add", "self.header.set_current_version"] := by
  -- the order is the first component of the guard table
  obtain ⟨h1, h2, _, _, _, h6⟩ := C07_call_guards
  refine ⟨?_, ?_, ?_⟩
  · rw [callSeq_names, h1]
    rfl
  · rw [callSeq_names, h2]
    rfl
  · rw [callSeq_names, h6]
    rfl

theorem loadsWith_ok {α} {fill : PyVal → Except Err α} {checks : α → List Step} {d : PyVal} {x : α}
    (h : loadsWith fill checks d = .ok x) : fill d = .ok x ∧ runSteps (checks x) = .ok () := by
  unfold loadsWith at h
  split at h
  · cases h
  · rename_i y hy
    split at h
    · cases h; exact ⟨hy, by assumption⟩
    · cases h

/-- a part validated during a successful load conforms: the catalogue is among the generated rules -/
theorem sound_of_validated {α} {fill : PyVal → Except Err α} {checks : α → List Step} {d : PyVal} {x : α}
    (h : loadsWith fill checks d = .ok x) {p : Part} (hp : Step.validate p ∈ checks x) : p.Conforms :=
  validate2_conforms C06_catalogue_sub ((runSteps_ok_iff _).mp (loadsWith_ok h).2 _ hp)

theorem validated_simpleChecks (m : SimpleM) (p : Part) :
    Step.validate p ∈ simpleChecks m ↔ p ∈ simpleLoadedParts m ∨ p = ⟨m.cls, []⟩ := by
  simp only [simpleChecks, simpleLoadedParts, List.mem_append, List.mem_cons, List.not_mem_nil, or_false, mem_vstep_validate, C07_flags,
    true_and, or_assoc]

theorem validated_imagesChecks (m : ImagesM) (p : Part) :
    Step.validate p ∈ imagesChecks m ↔ p ∈ imagesLoadedParts m ∨ p = ⟨"images.Images", []⟩ := by
  simp only [imagesChecks, imagesLoadedParts, List.mem_append, List.mem_cons, List.not_mem_nil, or_false, List.mem_flatMap, List.mem_map,
    mem_vstep_validate, C07_flags, true_and, or_assoc, @eq_comm _ p]

theorem validated_tiChecks (m : TreeInfoM) (p : Part) :
    Step.validate p ∈ tiChecks m ↔ p ∈ tiLoadedParts m ∨ p = ⟨"treeinfo.TreeInfo", []⟩ := by
  simp only [tiChecks, tiLoadedParts, List.mem_append, List.mem_cons, List.not_mem_nil, or_false, List.mem_flatMap, List.mem_map,
    List.mem_ite_nil_right, mem_vstep_validate, C07_flags, true_and, or_assoc, @eq_comm _ p]

theorem validated_discChecks (m : DiscM) (p : Part) : Step.validate p ∈ discChecks m ↔ p ∈ m.parts := by
  simp only [discChecks, DiscM.parts, List.mem_append, List.mem_cons, List.not_mem_nil, or_false, mem_vstep_validate, C07_flags, true_and,
    or_self]

theorem validated_ciFrontChecks (f : CIFront) (p : Part) : Step.validate p ∈ ciFrontChecks f ↔ p ∈ ciFrontParts f := by
  cases hbp : f.baseProduct <;>
    simp only [ciFrontChecks, ciFrontParts, hbp, List.mem_append, List.mem_cons, List.not_mem_nil, or_false, mem_vstep_validate, C07_flags,
      true_and, or_assoc]

theorem validated_ciChecks (m : ComposeInfoM) (p : Part) :
    Step.validate p ∈ ciChecks m ↔ p ∈ ciLoadedParts m ∨ p = ⟨"composeinfo.ComposeInfo", []⟩ := by
  simp only [ciChecks, ciVariantChecks, ciLoadedParts, List.mem_append, List.mem_cons, List.not_mem_nil, or_false, List.mem_flatMap,
    Ev.exists, List.mem_ite_nil_right, mem_vstep_validate, C07_flags, Bool.true_or, true_and, or_assoc]

theorem simple_sound (fill : PyVal → Except Err SimpleM) (d : PyVal) (m : SimpleM) (h : loadsWith fill simpleChecks d = .ok m) :
    ∀ p ∈ simpleLoadedParts m, p.Conforms :=
  fun p hp => sound_of_validated h ((validated_simpleChecks m p).mpr (Or.inl hp))

/-- rpms: a loaded manifest has a valid header and compose section (its payload table is stored as given) -/
theorem C07_sound_rpms (d : PyVal) (m : SimpleM) (h : rpmsLoads d = .ok m) : ∀ p ∈ simpleLoadedParts m, p.Conforms :=
  simple_sound _ d m h
theorem C07_sound_modules (d : PyVal) (m : SimpleM) (h : modulesLoads d = .ok m) : ∀ p ∈ simpleLoadedParts m, p.Conforms :=
  simple_sound _ d m h
theorem C07_sound_extra_files (d : PyVal) (m : SimpleM) (h : extraFilesLoads d = .ok m) : ∀ p ∈ simpleLoadedParts m, p.Conforms :=
  simple_sound _ d m h

/-- images: header, compose and EVERY image of every cell of a loaded manifest satisfy the catalogue -/
theorem C07_sound_images (d : PyVal) (m : ImagesM) (h : imagesLoads d = .ok m) : ∀ p ∈ imagesLoadedParts m, p.Conforms :=
  fun p hp => sound_of_validated h ((validated_imagesChecks m p).mpr (Or.inl hp))

theorem C07_sound_discinfo (d : PyVal) (m : DiscM) (h : discLoads d = .ok m) : ∀ p ∈ m.parts, p.Conforms :=
  fun p hp => sound_of_validated h ((validated_discChecks m p).mpr hp)

/-- composeinfo, leading sections (header, compose, release, base product of a layered release) -/
theorem C07_sound_composeinfo_front (d : PyVal) (f : CIFront) (h : ciFrontLoads d = .ok f) : ∀ p ∈ ciFrontParts f, p.Conforms :=
  fun p hp => sound_of_validated h ((validated_ciFrontChecks f p).mpr hp)

/-- composeinfo (every format version): every section and EVERY variant of the rebuilt forest, at any depth, and the release of
every layered product satisfy the catalogue.  The forest is the one `ciFill` rebuilds from the document by following the
`"%s-%s" % (uid, child)` references; the validate() calls are those of `Variant.deserialize` (last statement) and
`VariantBase.add` (on its argument) per the generated flags. -/
theorem C07_sound_composeinfo (d : PyVal) (m : ComposeInfoM) (h : ciLoads d = .ok m) : ∀ p ∈ ciLoadedParts m, p.Conforms :=
  fun p hp => sound_of_validated h ((validated_ciChecks m p).mpr (Or.inl hp))

/-- treeinfo (every format version and files without a header): every section — present or not — and every variant at any depth satisfy the catalogue -/
theorem C07_sound_treeinfo (d : PyVal) (m : TreeInfoM) (h : tiLoads d = .ok m) : ∀ p ∈ tiLoadedParts m, p.Conforms :=
  fun p hp => sound_of_validated h ((validated_tiChecks m p).mpr (Or.inl hp))

/-- what a conforming header is: a string version matching `^\d+\.\d+$` (CPython's `$`: F15) -/
theorem header_conforms_iff (h : Obj) (hc : (⟨"common.Header", h⟩ : Part).Conforms) :
    ∃ s, h.get c!"version" = .str s ∧ pyMatches Spec.reHeaderVersion s = true := by
  have hcat : Spec.catalogue "common.Header" = [.type c!"version" [.str], .re c!"version" [Spec.reHeaderVersion]] := by decide +kernel
  obtain ⟨s, hs, hm⟩ := Rule.check_re_iff.mp (hc _ (hcat ▸ List.mem_cons_of_mem _ List.mem_cons_self))
  exact ⟨s, hs, by simpa using hm⟩

/-- C07, header: a document accepted by `Header.deserialize` has the class's own type whenever the generated gate holds for
its version, and the gate is `>= (1, 1)` (`C07_gate_boundary`) -/
theorem C07_header (expected : Str) (doc : PyVal) (h : Obj) (vt : Nat × Nat) (hf : headerFill expected doc = .ok (h, vt)) :
    (∃ sec ver, getItem doc c!"header" = .ok sec ∧ getItem sec c!"version" = .ok ver ∧ versionTuple ver = .ok vt ∧ h = [(c!"version", ver)])
    ∧ (Gen.gate_common_Header_deserialize_0.eval? vt = some true →
        ∃ sec ty, getItem doc c!"header" = .ok sec ∧ getItem sec c!"type" = .ok ty ∧ PyVal.pyEq ty (.str expected) = true) := by
  rw [headerFill] at hf
  obtain ⟨sec, h1, hf⟩ := bind_ok hf
  obtain ⟨ver, h2, hf⟩ := bind_ok hf
  obtain ⟨vt', h3, hf⟩ := bind_ok hf
  cases hg : Gen.gate_common_Header_deserialize_0.eval? vt' with
  | none => rw [hg] at hf; cases hf
  | some b =>
    rw [hg] at hf
    cases b with
    | false =>
      cases hf
      exact ⟨⟨sec, ver, h1, h2, h3, rfl⟩, fun hc => by rw [hg] at hc; cases hc⟩
    | true =>
      obtain ⟨ty, h4, hf⟩ := bind_ok hf
      split at hf
      · rename_i heq
        cases hf
        exact ⟨⟨sec, ver, h1, h2, h3, rfl⟩, fun _ => ⟨sec, ty, h1, h4, heq⟩⟩
      · cases hf

/-- the version tuple is only computed for a version that validates -/
theorem C07_version_validated (ver : PyVal) (vt : Nat × Nat) (h : versionTuple ver = .ok vt) :
    validate2 "common.Header" [(c!"version", ver)] = .ok () := by
  unfold versionTuple at h
  obtain ⟨_, hv, _⟩ := bind_ok h
  exact hv

def okIs (r : Except Err (Nat × Nat)) (v : Nat × Nat) : Bool := match r with | .ok x => x == v | .error _ => false
def rejected (r : Except Err (Nat × Nat)) : Bool := match r with | .ok _ => false | .error _ => true

/-- malformed versions are rejected (decided on the generated header rule): "1", "1.x", "1.2.3", "", an int, None -/
theorem C07_version_witnesses :
    rejected (versionTuple (.str c!"1")) = true ∧ rejected (versionTuple (.str c!"1.x")) = true
    ∧ rejected (versionTuple (.str c!"1.2.3")) = true ∧ rejected (versionTuple (.str [])) = true
    ∧ rejected (versionTuple (.int 12)) = true ∧ rejected (versionTuple .none) = true
    ∧ okIs (versionTuple (.str c!"1.2")) (1, 2) = true ∧ okIs (versionTuple (.str c!"1.10")) (1, 10) = true := by decide +kernel

/-- F15 witness: the trailing line feed is accepted by the header version rule -/
theorem C07_F15_witness : okIs (versionTuple (.str c!"1.2\n")) (1, 2) = true := by decide +kernel

/-- a key lookup on a document that lacks the key fails (so the lemmas below apply to "delete one required key") -/
theorem C07_getItem_missing (kvs : List (Str × PyVal)) (k : Str) (h : kvs.all (fun kv => kv.1 != k) = true) :
    getItem (.dict kvs) k = .error .keyError := by
  unfold getItem
  have : kvs.find? (·.1 == k) = none := by
    rw [List.find?_eq_none]
    intro kv hkv
    have := List.all_eq_true.mp h kv hkv
    simpa using this
  simp [this]

theorem C07_required_header (cls : String) (expected table : Str) (g : Option Gate) (doc : PyVal) (e : Err)
    (h : getItem doc c!"header" = .error e) : ∀ m, simpleFill cls expected table g doc ≠ .ok m := by
  intro m hm
  simp [simpleFill, headerFill, h, bind, Except.bind] at hm

theorem C07_required_version (cls : String) (expected table : Str) (g : Option Gate) (doc sec : PyVal) (e : Err)
    (h1 : getItem doc c!"header" = .ok sec) (h2 : getItem sec c!"version" = .error e) :
    ∀ m, simpleFill cls expected table g doc ≠ .ok m := by
  intro m hm
  simp [simpleFill, headerFill, h1, h2, bind, Except.bind] at hm

/-- at a version for which the gate holds, the header type is required -/
theorem C07_required_type (expected : Str) (doc sec ver : PyVal) (vt : Nat × Nat) (e : Err)
    (h1 : getItem doc c!"header" = .ok sec) (h2 : getItem sec c!"version" = .ok ver) (h3 : versionTuple ver = .ok vt)
    (hg : Gen.gate_common_Header_deserialize_0.eval? vt = some true) (h4 : getItem sec c!"type" = .error e) :
    ∀ r, headerFill expected doc ≠ .ok r := by
  intro r hr
  simp [headerFill, h1, h2, h3, hg, h4, bind, Except.bind] at hr

/-- … and a type other than the class's own is refused -/
theorem C07_type_mismatch (expected : Str) (doc sec ver ty : PyVal) (vt : Nat × Nat)
    (h1 : getItem doc c!"header" = .ok sec) (h2 : getItem sec c!"version" = .ok ver) (h3 : versionTuple ver = .ok vt)
    (hg : Gen.gate_common_Header_deserialize_0.eval? vt = some true) (h4 : getItem sec c!"type" = .ok ty)
    (hne : PyVal.pyEq ty (.str expected) = false) : ∀ r, headerFill expected doc ≠ .ok r := by
  intro r hr
  simp [headerFill, h1, h2, h3, hg, h4, hne, bind, Except.bind] at hr

theorem C07_required_payload (cls : String) (expected table : Str) (doc : PyVal) (hv : Obj × (Nat × Nat)) (e : Err)
    (h1 : headerFill expected doc = .ok hv) (h2 : getItem doc c!"payload" = .error e) :
    ∀ m, simpleFill cls expected table none doc ≠ .ok m := by
  intro m hm
  simp [simpleFill, h1, h2, bind, Except.bind, pure, Except.pure] at hm

theorem gateB_ok {g : Gate} {vt : Nat × Nat} {b : Bool} : gateB g vt = .ok b ↔ g.eval? vt = some b := by
  unfold gateB
  cases g.eval? vt <;> simp

theorem composeFill_ok {vt : Nat × Nat} {payload : PyVal} : Post (composeFill vt payload) fun o =>
    ∃ legacy sec id label ty final, Gen.gate_composeinfo_Compose_deserialize_0.eval? vt = some legacy
      ∧ getItem payload c!"compose" = .ok sec ∧ getItem sec c!"id" = .ok id ∧ getD sec c!"label" .none = .ok label
      ∧ getItem sec c!"type" = .ok ty ∧ getD sec c!"final" (.bool false) = .ok final
      ∧ (legacy = true → ∃ dtr, Mf.dateTypeRespinOf id = .ok dtr
          ∧ o = [(c!"id", id), (c!"label", orNone label), (c!"type", dtr.2.1), (c!"date", dtr.1), (c!"respin", dtr.2.2), (c!"final", pyBool final)])
      ∧ (legacy = false → ∃ date respin, getItem sec c!"date" = .ok date ∧ getItem sec c!"respin" = .ok respin) := by
  unfold composeFill
  refine .bind' fun legacy hg => .bind' fun sec h1 => .bind' fun id h2 => .bind' fun label h3 => .bind' fun ty h4 => ?_
  cases legacy with
  | true =>
    exact .bind' fun dtr h5 => .bind' fun final h6 => .pure
      ⟨true, sec, id, label, ty, final, gateB_ok.mp hg, h1, h2, h3, h4, h6, fun _ => ⟨dtr, h5, rfl⟩, nofun⟩
  | false =>
    exact .bind' fun date hd => .bind' fun respin hr => .bind fun _ => .bind' fun final h6 => .pure
      ⟨false, sec, id, label, ty, final, gateB_ok.mp hg, h1, h2, h3, h4, h6, nofun, fun _ => ⟨date, respin, hd, hr⟩⟩

theorem C07_required_compose (vt : Nat × Nat) (payload : PyVal) (e : Err) (h : getItem payload c!"compose" = .error e) :
    ∀ o, composeFill vt payload ≠ .ok o := by
  intro o ho
  obtain ⟨_, _, _, _, _, _, _, hsec, _⟩ := composeFill_ok.elim ho
  rw [h] at hsec; cases hsec

/-- `id` and `type` are required in every format version; `date` and `respin` from 0.3 on (below, `deserialize_0_3` decodes them
from the id and never looks at the keys: `C07_composeinfo_0_2_witness`) -/
theorem C07_required_compose_key (vt : Nat × Nat) (payload sec : PyVal) (k : Str) (e : Err)
    (hk : k = c!"id" ∨ k = c!"type" ∨ ((k = c!"date" ∨ k = c!"respin") ∧ Gen.gate_composeinfo_Compose_deserialize_0.eval? vt = some false))
    (h1 : getItem payload c!"compose" = .ok sec) (h2 : getItem sec k = .error e) :
    ∀ o, composeFill vt payload ≠ .ok o := by
  intro o ho
  obtain ⟨legacy, sec', _, _, _, _, hg, hsec, hid, _, hty, _, _, hnew⟩ := composeFill_ok.elim ho
  rw [h1] at hsec; cases hsec
  rcases hk with rfl | rfl | ⟨hk, hf⟩
  · rw [h2] at hid; cases hid
  · rw [h2] at hty; cases hty
  · rw [hf] at hg; cases hg
    obtain ⟨_, _, hd, hr⟩ := hnew rfl
    rcases hk with rfl | rfl
    · rw [h2] at hd; cases hd
    · rw [h2] at hr; cases hr

/-- the payload table is required, for the formats read by `simpleFill … none` (`modules`, `extra_files`; the `rpms` reader
passes a gate and is not covered) -/
theorem C07_required_table (cls : String) (expected table : Str) (doc payload : PyVal) (hv : Obj × (Nat × Nat)) (c : Obj) (e : Err)
    (h1 : headerFill expected doc = .ok hv) (h2 : getItem doc c!"payload" = .ok payload) (h3 : composeFill hv.2 payload = .ok c)
    (h4 : getItem payload table = .error e) : ∀ m, simpleFill cls expected table none doc ≠ .ok m := by
  intro m hm
  simp [simpleFill, h1, h2, h3, h4, bind, Except.bind, pure, Except.pure] at hm

/-- GENERATED OBLIGATION: what the dispatchers call.  Each calls its legacy reader under the generated gate and the current one
under the gate's negation, and its `self.validate()` comes after the dispatch, unguarded, for BOTH branches (moving it into the
`else:` branch changes this list).  A `return` out of the legacy branch does not (`callSeq` keeps `validate` and `call` events only):
for `Compose` and `Release` it is excluded by `validatesLast` (`C07_flags`).  That nothing else calls a legacy reader is not stated.
rpms `deserialize_0_3` files every entry through `self.add` (the refusals of `add` are what rejects a bad 0.3 manifest); images
`_add_1_1` files through `self.add` on both of its branches. -/
theorem C07_legacy_dispatch :
    callSeq Gen.struct_composeinfo_Compose_deserialize
      = [("call", "self.deserialize_0_3", ["gate:gate_composeinfo_Compose_deserialize_0"]),
         ("call", "self.deserialize_1_0", ["notgate:gate_composeinfo_Compose_deserialize_0"]), ("validate", "self", [])]
    ∧ callSeq Gen.struct_composeinfo_Release_deserialize
      = [("call", "self.deserialize_0_3", ["gate:gate_composeinfo_Release_deserialize_0"]),
         ("call", "self.deserialize_1_0", ["notgate:gate_composeinfo_Release_deserialize_0"]), ("validate", "self", [])]
    ∧ callSeq Gen.struct_rpms_Rpms_deserialize
      = [("call", "self.header.deserialize", []), ("call", "self.deserialize_0_3", ["gate:gate_rpms_Rpms_deserialize_0"]),
         ("call", "self.deserialize_1_0", ["notgate:gate_rpms_Rpms_deserialize_0"]), ("validate", "self", []),
         ("call", "self.header.set_current_version", [])] := by
  decide +kernel

theorem C07_legacy_dispatch_add :
    (callSeq Gen.struct_rpms_Rpms_deserialize_0_3).map (·.2.1) = ["self.compose.deserialize", "self.add", "self.add"]
    ∧ (callSeq Gen.struct_images_Images__add_1_1).map (fun e => (e.2.1, e.2.2))
      = [("self.add", ["ifeq:arch=src", "for:data['payload']['images'][variant]"]), ("self.add", ["ifne:arch=src"])] := by
  decide +kernel

theorem C07_legacy_dispatch_treeinfo :
    callSeq Gen.struct_treeinfo_Release_deserialize
      = [("call", "self.deserialize_0_0", ["gate:gate_treeinfo_Release_deserialize_0"]),
         ("call", "self.deserialize_0_3", ["notgate:gate_treeinfo_Release_deserialize_0", "gate:gate_treeinfo_Release_deserialize_1"]),
         ("call", "self.deserialize_1_0", ["notgate:gate_treeinfo_Release_deserialize_0", "notgate:gate_treeinfo_Release_deserialize_1"]),
         ("validate", "self", [])]
    ∧ callSeq Gen.struct_treeinfo_Tree_deserialize
      = [("call", "self.deserialize_0_0", ["gate:gate_treeinfo_Tree_deserialize_0"]),
         ("call", "self.deserialize_1_0", ["notgate:gate_treeinfo_Tree_deserialize_0"]), ("validate", "self", [])]
    ∧ callSeq Gen.struct_treeinfo_Media_deserialize
      = [("call", "self.deserialize_0_0", ["gate:gate_treeinfo_Media_deserialize_0"]),
         ("call", "self.deserialize_1_0", ["notgate:gate_treeinfo_Media_deserialize_0"]), ("validate", "self", [])]
    ∧ callSeq Gen.struct_treeinfo_VariantPaths_deserialize
      = [("call", "self.deserialize_0_0", ["gate:gate_treeinfo_VariantPaths_deserialize_0"]),
         ("call", "self.deserialize_0_3", ["notgate:gate_treeinfo_VariantPaths_deserialize_0", "gate:gate_treeinfo_VariantPaths_deserialize_1"]),
         ("call", "self.deserialize_1_0", ["notgate:gate_treeinfo_VariantPaths_deserialize_0", "notgate:gate_treeinfo_VariantPaths_deserialize_1"]),
         ("validate", "self", [])]
    ∧ (callSeq Gen.struct_treeinfo_Variants_deserialize).map (fun e => (e.2.1, e.2.2))
      = [("self.deserialize_0_0", ["gate:gate_treeinfo_Variants_deserialize_0"]), ("self.deserialize_1_0", ["notgate:gate_treeinfo_Variants_deserialize_0"]),
         ("variant.deserialize", ["for:variant_ids"]), ("self.add", ["for:variant_ids"]), ("self", [])]
    ∧ (callSeq Gen.struct_treeinfo_Variant_deserialize).map (fun e => (e.2.1, e.2.2))
      = [("self.deserialize_0_0", ["gate:gate_treeinfo_Variant_deserialize_1"]),
         ("self.deserialize_0_3", ["notgate:gate_treeinfo_Variant_deserialize_1", "gate:gate_treeinfo_Variant_deserialize_2"]),
         ("self.deserialize_1_0", ["notgate:gate_treeinfo_Variant_deserialize_1", "notgate:gate_treeinfo_Variant_deserialize_2"]),
         ("self.paths.deserialize", [])] := by
  -- the fifth table is the one `C07_call_guards` has for `Variants.deserialize`
  suffices h : _ ∧ _ ∧ _ ∧ _ ∧ _ from ⟨h.1, h.2.1, h.2.2.1, h.2.2.2.1, C07_call_guards.2.2.2.2.1, h.2.2.2.2⟩
  decide +kernel

/-- no generated gate is a comparison the translator could not read: the models never leave a version undecided -/
theorem C07_gates_recognised : Gen.allGates.all (fun g => g.2.op != .unknown) = true := by decide +kernel

theorem Gate.eval?_total (g : Gate) (h : (g.op != .unknown) = true) (vt : Nat × Nat) : ∃ b, g.eval? vt = some b := by
  unfold Gate.eval?
  cases hop : g.op <;> simp_all

theorem gateB_total (g : Gate) (h : (g.op != .unknown) = true) (vt : Nat × Nat) : ∃ b, gateB g vt = .ok b :=
  (Gate.eval?_total g h vt).imp fun _ => gateB_ok.mpr

/-- for EVERY version each gate the JSON readers consult has a verdict -/
theorem C07_gates_total (vt : Nat × Nat) :
    (∃ b, gateB Gen.gate_composeinfo_Compose_deserialize_0 vt = .ok b) ∧ (∃ b, gateB Gen.gate_composeinfo_Release_deserialize_0 vt = .ok b)
    ∧ (∃ b, gateB Gen.gate_composeinfo_Variants_deserialize_0 vt = .ok b) ∧ (∃ b, gateB Gen.gate_composeinfo_Variant_deserialize_0 vt = .ok b)
    ∧ (∃ b, gateB Gen.gate_rpms_Rpms_deserialize_0 vt = .ok b) ∧ (∃ b, gateB Gen.gate_images_Images_deserialize_0 vt = .ok b)
    ∧ (∃ b, gateB Gen.gate_images_Image_deserialize_0 vt = .ok b) ∧ (∃ b, gateB Gen.gate_images_Images_add_0 vt = .ok b) := by
  refine ⟨gateB_total _ ?_ vt, gateB_total _ ?_ vt, gateB_total _ ?_ vt, gateB_total _ ?_ vt, gateB_total _ ?_ vt, gateB_total _ ?_ vt,
    gateB_total _ ?_ vt, gateB_total _ ?_ vt⟩ <;> decide

/-- … and the treeinfo selection (C05's `selsOf`: eleven selections from the fourteen treeinfo gates) is defined for every version -/
theorem C07_ti_gates_total (vt : Nat × Nat) : ∃ b, tiIsLegacy vt = .ok b := by
  have hg : ∀ g : Gate, (g.op != .unknown) = true → ∃ b, TI.Legacy.gateB g vt = .ok b := fun g h => by
    obtain ⟨b, hb⟩ := Gate.eval?_total g h vt
    exact ⟨b, by rw [TI.Legacy.gateB, hb]⟩
  have hs : ∀ g0 g1 : Gate, (g0.op != .unknown) = true → (g1.op != .unknown) = true → ∃ s, TI.Legacy.sel2 g0 g1 vt = .ok s :=
    fun g0 g1 h0 h1 => by
      obtain ⟨b0, e0⟩ := hg g0 h0
      obtain ⟨b1, e1⟩ := hg g1 h1
      rw [TI.Legacy.sel2, e0, e1]
      cases b0 <;> cases b1 <;> exact ⟨_, rfl⟩
  unfold tiIsLegacy
  refine bind_total ?_ fun _ => ⟨_, rfl⟩
  unfold TI.Legacy.selsOf
  -- one line per gate or pair of gates that `selsOf` consults, in its order
  exact bind_total (hg _ (by decide)) fun _ =>
    bind_total (hs _ _ (by decide) (by decide)) fun _ =>
    bind_total (hg _ (by decide)) fun _ =>
    bind_total (hg _ (by decide)) fun _ =>
    bind_total (hs _ _ (by decide) (by decide)) fun _ =>
    bind_total (hg _ (by decide)) fun _ =>
    bind_total (hs _ _ (by decide) (by decide)) fun _ =>
    bind_total (hg _ (by decide)) fun _ =>
    bind_total (hg _ (by decide)) fun _ =>
    bind_total (hg _ (by decide)) fun _ =>
    bind_total (hg _ (by decide)) fun _ => ⟨_, rfl⟩

/-- `C07_sound_composeinfo` is about ANY format version: also a load through `Compose.deserialize_0_3` (< 0.3),
`Release.deserialize_0_3` (≤ 0.3, also for the release of a layered-product variant) and the prefix-derived variant table (< 1.0) -/
theorem C07_sound_composeinfo_all_versions (d : PyVal) (m : ComposeInfoM) (h : ciLoads d = .ok m) : ∀ p ∈ ciLoadedParts m, p.Conforms :=
  C07_sound_composeinfo d m h

/-- C07, images, any format version (`Compose.deserialize_0_3` below 0.3, optional subvariant at ≤ 1.0, `_add_1_1` at ≤ 1.1) -/
theorem C07_sound_images_all_versions (d : PyVal) (m : ImagesM) (h : imagesLoads d = .ok m) : ∀ p ∈ imagesLoadedParts m, p.Conforms :=
  C07_sound_images d m h

/-- C07, rpms, any format version: header and compose section conform (the quantifier of C07 for rpms), and a manifest of format
≤ 0.3 was accepted entry by entry by `Rpms.add` (C05/C12's model: known binary arch, supported category, relative non-empty path,
well-formed NEVRAs, category/arch agreement) -/
theorem C07_sound_rpms_all_versions (d : PyVal) (m : SimpleM) (h : rpmsLoads d = .ok m) :
    (∀ p ∈ simpleLoadedParts m, p.Conforms)
    ∧ ∃ hv payload, headerFill Gen.HEADER_TYPE_Rpms d = .ok hv ∧ getItem d c!"payload" = .ok payload
        ∧ (Gen.gate_rpms_Rpms_deserialize_0.eval? hv.2 = some true → ∃ s, Mf.manifest03 payload = .ok s) := by
  refine ⟨C07_sound_rpms d m h, ?_⟩
  have hf := (loadsWith_ok h).1
  rw [simpleFill] at hf
  obtain ⟨⟨hd, vt⟩, h1, hf⟩ := bind_ok hf
  obtain ⟨old, hg, hf⟩ := bind_ok hf
  obtain ⟨payload, h2, hf⟩ := bind_ok hf
  obtain ⟨_, _, hf⟩ := bind_ok hf
  refine ⟨(hd, vt), payload, h1, h2, fun hgt => ?_⟩
  cases (gateB_ok.mp hg).symm.trans hgt
  simp only [↓reduceIte] at hf
  obtain ⟨s, h4, _⟩ := bind_ok hf
  exact ⟨s, h4⟩

/-- `C07_sound_treeinfo` is about any format version and files without `[header]` (C05's reader of the pre-productmd layout, the
`[product]` reader of ≤ 0.3) -/
theorem C07_sound_treeinfo_all_versions (d : PyVal) (m : TreeInfoM) (h : tiLoads d = .ok m) : ∀ p ∈ tiLoadedParts m, p.Conforms :=
  C07_sound_treeinfo d m h

/-- what `Compose.deserialize_0_3` does: below the generated gate the date, type and respin of the loaded compose are the ones
decoded from the id (`get_date_type_respin`), whatever the section says -/
theorem C07_compose_legacy_decoded (vt : Nat × Nat) (payload sec id : PyVal) (o : Obj)
    (hg : Gen.gate_composeinfo_Compose_deserialize_0.eval? vt = some true)
    (h1 : getItem payload c!"compose" = .ok sec) (h2 : getItem sec c!"id" = .ok id) (h : composeFill vt payload = .ok o) :
    ∃ dtr, Mf.dateTypeRespinOf id = .ok dtr ∧ o.get c!"date" = dtr.1 ∧ o.get c!"type" = dtr.2.1 ∧ o.get c!"respin" = dtr.2.2 := by
  obtain ⟨legacy, sec', id', _, _, _, hg', hsec, hid, _, _, _, hold, _⟩ := composeFill_ok.elim h
  rw [hg] at hg'; cases hg'
  rw [h1] at hsec; cases hsec
  rw [h2] at hid; cases hid
  obtain ⟨dtr, hd, rfl⟩ := hold rfl
  exact ⟨dtr, hd, rfl, rfl, rfl⟩

/-- at ≤ 0.3 the release is read from `product`: a document that has only a `release` section is refused -/
theorem C07_required_product (vt : Nat × Nat) (data : PyVal) (e : Err)
    (hg : Gen.gate_composeinfo_Release_deserialize_0.eval? vt = some true) (h : getItem data c!"product" = .error e) :
    ∀ o, ciReleaseFill vt data ≠ .ok o := by
  intro o ho
  simp [ciReleaseFill, gateB, hg, h, bind, Except.bind] at ho

def exDoc (ver ty : String) : PyVal :=
  .dict [(c!"header", .dict [(c!"version", .str ver.toList), (c!"type", .str ty.toList)]),
         (c!"payload", .dict [(c!"compose", .dict [(c!"id", .str c!"F-1-20200101.n.0"), (c!"date", .str c!"20200101"), (c!"type", .str c!"nightly"),
                                                   (c!"respin", .int 0)]),
                              (c!"rpms", .dict [])])]

def exVarDoc (id uid : Str) (arches : List Str) (kids : Option (List Str)) : PyVal :=
  .dict ([(c!"id", .str id), (c!"uid", .str uid), (c!"name", .str c!"n"), (c!"type", .str c!"variant"),
          (c!"arches", .list (arches.map .str)), (c!"paths", .dict [])]
         ++ match kids with | some ks => [(c!"variants", .list (ks.map .str))] | none => [])

def exCIDoc (childArches : List Str) (refs : List Str) : PyVal :=
  .dict [(c!"header", .dict [(c!"version", .str c!"1.2"), (c!"type", .str c!"productmd.composeinfo")]),
         (c!"payload", .dict [(c!"compose", .dict [(c!"id", .str c!"F-1-20200101.n.0"), (c!"date", .str c!"20200101"), (c!"type", .str c!"nightly"),
                                                   (c!"respin", .int 0)]),
                              (c!"release", .dict [(c!"name", .str c!"F"), (c!"short", .str c!"F"), (c!"version", .str c!"1"), (c!"type", .str c!"ga")]),
                              (c!"variants", .dict [(c!"Server", exVarDoc c!"Server" c!"Server" [c!"x86_64"] (some refs)),
                                                    (c!"Server-optional", exVarDoc c!"optional" c!"Server-optional" childArches none)])])]

def exOldCompose (id : Str) : PyVal := .dict [(c!"id", .str id), (c!"type", .str c!"whatever")]
def exOldVar (id uid : Str) (arches : List Str) : PyVal :=
  .dict [(c!"id", .str id), (c!"uid", .str uid), (c!"name", .str c!"n"), (c!"type", .str c!"variant"),
         (c!"arches", .list (arches.map .str)), (c!"paths", .dict [])]
/-- a composeinfo document in the layout of formats below 0.3: no header type, compose without date / respin (its `type` is there but
ignored), the release under `relKey`, variants related by UID prefix only -/
def exCIOld (ver : String) (relKey id : Str) (childArches : List Str) : PyVal :=
  .dict [(c!"header", .dict [(c!"version", .str ver.toList)]),
         (c!"payload", .dict [(c!"compose", exOldCompose id),
                              (relKey, .dict [(c!"name", .str c!"F"), (c!"short", .str c!"F"), (c!"version", .str c!"1")]),
                              (c!"variants", .dict [(c!"Server", exOldVar c!"Server" c!"Server" [c!"x86_64"]),
                                                    (c!"Server-optional", exOldVar c!"optional" c!"Server-optional" childArches)])])]

def exRpms03 (cat : Str) : PyVal :=
  .dict [(c!"header", .dict [(c!"version", .str c!"0.3")]),
         (c!"payload", .dict [(c!"compose", .dict [(c!"id", .str c!"F-1-20200101.n.0"), (c!"date", .str c!"20200101"), (c!"type", .str c!"nightly"), (c!"respin", .int 0)]),
            (c!"manifest", .dict [(c!"Server", .dict [(c!"x86_64", .dict [(c!"bash-0:4.3-1.src", .dict [(c!"bash-0:4.3-1.x86_64",
               .dict [(c!"path", .str c!"Server/b.rpm"), (c!"sigkey", .none), (c!"type", .str cat)])])])])])])]

def exTI00 (arch : Str) : PyVal :=
  .dict [(c!"general", .dict [(c!"arch", .str arch), (c!"family", .str c!"Fedora"), (c!"version", .str c!"20"), (c!"variant", .str c!"Server")])]
def exTI03 (sec : Str) : PyVal :=
  .dict [(c!"header", .dict [(c!"version", .str c!"0.3")]),
         (sec, .dict [(c!"name", .str c!"Fedora"), (c!"short", .str c!"F"), (c!"version", .str c!"20")]),
         (c!"tree", .dict [(c!"arch", .str c!"x86_64"), (c!"build_timestamp", .str c!"1400000000"), (c!"platforms", .str c!"x86_64"), (c!"variants", .str c!"Server")]),
         (c!"variant-Server", .dict [(c!"id", .str c!"Server"), (c!"uid", .str c!"Server"), (c!"name", .str c!"Server"), (c!"type", .str c!"variant")])]

def exCycDoc (vs : List (Str × PyVal)) : PyVal :=
  .dict [(c!"header", .dict [(c!"version", .str c!"1.2"), (c!"type", .str c!"productmd.composeinfo")]),
         (c!"payload", .dict [(c!"compose", .dict [(c!"id", .str c!"F-1-20200101.n.0"), (c!"date", .str c!"20200101"), (c!"type", .str c!"nightly"),
                                                   (c!"respin", .int 0)]),
                              (c!"release", .dict [(c!"name", .str c!"F"), (c!"short", .str c!"F"), (c!"version", .str c!"1"), (c!"type", .str c!"ga")]),
                              (c!"variants", .dict vs)])]

def isRecursion : Except Err ComposeInfoM → Bool | .error .runtimeError => true | _ => false

/-- closed facts about the example documents, evaluated in one declaration (DESIGN.md §3, closed facts) -/
structure C07LoadFacts : Prop where
  rpms :
    isOk (rpmsLoads (exDoc "1.2" "productmd.rpms")) = true ∧ isOk (rpmsLoads (exDoc "1.1" "productmd.images")) = false
    ∧ isOk (rpmsLoads (exDoc "1.2" "productmd.images")) = false ∧ isOk (rpmsLoads (exDoc "1.0" "productmd.images")) = true
  composeinfo : isOk (ciLoads (exCIDoc [c!"x86_64"] [c!"optional"])) = true
    ∧ (match ciLoads (exCIDoc [c!"x86_64"] [c!"optional"]) with | .ok m => m.variants.length == 1 && (m.variants.map (·.kids.length)) == [1] | _ => false) = true
    ∧ isOk (ciLoads (exCIDoc [c!"sparc"] [c!"optional"])) = false
    ∧ isOk (ciLoads (exCIDoc [c!"x86_64"] [c!"optional", c!"ghost"])) = false
  composeinfo_0_2 :
    (match ciLoads (exCIOld "0.2" c!"product" c!"F-1-20200101.n.3" [c!"x86_64"]) with
      | .ok m => m.variants.map (fun v => (CIVar.kids v).length) == [1] && PyVal.pyEq (m.compose.get c!"date") (PyVal.str c!"20200101")
                  && PyVal.pyEq (m.compose.get c!"respin") (PyVal.int 3) && PyVal.pyEq (m.compose.get c!"type") (PyVal.str c!"nightly")
      | .error _ => false) = true
    ∧ isOk (ciLoads (exCIOld "0.2" c!"product" c!"F-1-20200101.n.3" [c!"sparc"])) = false
    ∧ isOk (ciLoads (exCIOld "0.2" c!"release" c!"F-1-20200101.n.3" [c!"x86_64"])) = false
    ∧ isOk (ciLoads (exCIOld "0.2" c!"product" c!"F-1" [c!"x86_64"])) = false
    ∧ isOk (ciLoads (exCIOld "0.4" c!"release" c!"F-1-20200101.n.3" [c!"x86_64"])) = false
  rpms_0_3 :  isOk (rpmsLoads (exRpms03 c!"package")) = true ∧ isOk (rpmsLoads (exRpms03 c!"floppy")) = false
  treeinfo_legacy :
    (match tiLoads (exTI00 c!"x86_64") with
      | .ok m => PyVal.pyEq (m.header.get c!"version") (PyVal.str c!"0.0") && m.variants.length == 1
                  && PyVal.pyEq (m.tree.get c!"build_timestamp") (PyVal.int (-1))
      | .error _ => false) = true
    ∧ isOk (tiLoads (exTI00 c!"")) = false
    ∧ isOk (tiLoads (exTI03 c!"product")) = true ∧ isOk (tiLoads (exTI03 c!"release")) = false
  cycle :
    isRecursion (ciLoads (exCycDoc [(c!"T", exVarDoc c!"T" c!"T" [c!"x86_64"] (some [c!"x"])),
                                    (c!"T-x", exVarDoc c!"x" c!"T" [c!"x86_64"] (some [c!"x"]))])) = true
    ∧ isRecursion (ciLoads (exCycDoc [(c!"T", exVarDoc c!"T" c!"T" [c!"x86_64"] (some [c!"x"])),
                                      (c!"T-x", exVarDoc c!"x" c!"T-x" [c!"x86_64"] (some [c!"y"])),
                                      (c!"T-x-y", exVarDoc c!"y" c!"T" [c!"x86_64"] (some [c!"x"]))])) = true
    ∧ (match ciLoads (exCycDoc [(c!"P-Q", exVarDoc c!"Q" c!"P-Q" [c!"x86_64"] (some [c!"R"])),
                                (c!"P-Q-R", exVarDoc c!"R" c!"P" [c!"x86_64"] (some [c!"Q"]))]) with
        | .ok m => m.variants.isEmpty
        | .error _ => false) = true

theorem c07_load_facts : C07LoadFacts := by
  suffices h : _ ∧ _ ∧ _ ∧ _ ∧ _ ∧ _ from ⟨h.1, h.2.1, h.2.2.1, h.2.2.2.1, h.2.2.2.2.1, h.2.2.2.2.2⟩
  decide +kernel

/-- a valid rpms document loads; the same document with another format's type is refused at 1.1 and 1.2 but not at 1.0 -/
example : isOk (rpmsLoads (exDoc "1.2" "productmd.rpms")) = true ∧ isOk (rpmsLoads (exDoc "1.1" "productmd.images")) = false
    ∧ isOk (rpmsLoads (exDoc "1.2" "productmd.images")) = false ∧ isOk (rpmsLoads (exDoc "1.0" "productmd.images")) = true := c07_load_facts.rpms

/-- a two-level compose loads (the forest is rebuilt: one top-level variant with one child); the same document with a child arch
outside its parent's, or with a reference to a child that has no entry, is refused -/
example : isOk (ciLoads (exCIDoc [c!"x86_64"] [c!"optional"])) = true
    ∧ (match ciLoads (exCIDoc [c!"x86_64"] [c!"optional"]) with | .ok m => m.variants.length == 1 && (m.variants.map (·.kids.length)) == [1] | _ => false) = true
    ∧ isOk (ciLoads (exCIDoc [c!"sparc"] [c!"optional"])) = false
    ∧ isOk (ciLoads (exCIDoc [c!"x86_64"] [c!"optional", c!"ghost"])) = false := c07_load_facts.composeinfo

/-- C07 on a 0.2 composeinfo: the document loads, the forest is rebuilt from the UID prefixes (one
top-level variant with one child), date and respin are the ones inside the id; the same document is REFUSED when the child has an arch
its parent lacks, when the release sits under `release` instead of `product`, when the id carries no date, and at 0.4 (where
`date` / `respin` are required keys) -/
theorem C07_composeinfo_0_2_witness :
    (match ciLoads (exCIOld "0.2" c!"product" c!"F-1-20200101.n.3" [c!"x86_64"]) with
      | .ok m => m.variants.map (fun v => (CIVar.kids v).length) == [1] && PyVal.pyEq (m.compose.get c!"date") (PyVal.str c!"20200101")
                  && PyVal.pyEq (m.compose.get c!"respin") (PyVal.int 3) && PyVal.pyEq (m.compose.get c!"type") (PyVal.str c!"nightly")
      | .error _ => false) = true
    ∧ isOk (ciLoads (exCIOld "0.2" c!"product" c!"F-1-20200101.n.3" [c!"sparc"])) = false
    ∧ isOk (ciLoads (exCIOld "0.2" c!"release" c!"F-1-20200101.n.3" [c!"x86_64"])) = false
    ∧ isOk (ciLoads (exCIOld "0.2" c!"product" c!"F-1" [c!"x86_64"])) = false
    ∧ isOk (ciLoads (exCIOld "0.4" c!"release" c!"F-1-20200101.n.3" [c!"x86_64"])) = false := c07_load_facts.composeinfo_0_2

/-- a 0.3 rpms manifest loads with the documented category `package`, and is refused with a category `Rpms.add` does not know -/
theorem C07_rpms_0_3_witness : isOk (rpmsLoads (exRpms03 c!"package")) = true ∧ isOk (rpmsLoads (exRpms03 c!"floppy")) = false := c07_load_facts.rpms_0_3

/-- a treeinfo without `[header]` is read as 0.0 from `[general]` (one variant, no timestamp: -1) and refused with a blank arch; a
0.3 treeinfo loads with `[product]` and is refused with `[release]` -/
theorem C07_treeinfo_legacy_witness :
    (match tiLoads (exTI00 c!"x86_64") with
      | .ok m => PyVal.pyEq (m.header.get c!"version") (PyVal.str c!"0.0") && m.variants.length == 1
                  && PyVal.pyEq (m.tree.get c!"build_timestamp") (PyVal.int (-1))
      | .error _ => false) = true
    ∧ isOk (tiLoads (exTI00 c!"")) = false
    ∧ isOk (tiLoads (exTI03 c!"product")) = true ∧ isOk (tiLoads (exTI03 c!"release")) = false := c07_load_facts.treeinfo_legacy

/-- a child-list cycle that is reachable from a top-level variant never ends (every reference builds a fresh `Variant`, so the
identity test "Dependency cycle detected" of `VariantBase.add` cannot fire on load): RecursionError — a self-loop and a 2-cycle
below `T`.  A cycle none of whose members is a top-level variant is never read: the document loads with no variants at all. -/
theorem C07_cycle_witness :
    isRecursion (ciLoads (exCycDoc [(c!"T", exVarDoc c!"T" c!"T" [c!"x86_64"] (some [c!"x"])),
                                    (c!"T-x", exVarDoc c!"x" c!"T" [c!"x86_64"] (some [c!"x"]))])) = true
    ∧ isRecursion (ciLoads (exCycDoc [(c!"T", exVarDoc c!"T" c!"T" [c!"x86_64"] (some [c!"x"])),
                                      (c!"T-x", exVarDoc c!"x" c!"T-x" [c!"x86_64"] (some [c!"y"])),
                                      (c!"T-x-y", exVarDoc c!"y" c!"T" [c!"x86_64"] (some [c!"x"]))])) = true
    ∧ (match ciLoads (exCycDoc [(c!"P-Q", exVarDoc c!"Q" c!"P-Q" [c!"x86_64"] (some [c!"R"])),
                                (c!"P-Q-R", exVarDoc c!"R" c!"P" [c!"x86_64"] (some [c!"Q"]))]) with
        | .ok m => m.variants.isEmpty
        | .error _ => false) = true := c07_load_facts.cycle

end PM
