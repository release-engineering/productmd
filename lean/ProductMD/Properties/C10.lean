import ProductMD.Spec.Arches
import ProductMD.Proofs.C10ImagesRefile
import ProductMD.Proofs.C10RpmsRefile
import ProductMD.Properties.C12
/-!
# C10 — source content is always filed under binary architectures

Models: `Img.add` = the statement list of `Images.add` **read from the current source**
(`Gen.images_add_script`, literal refusal list `Gen.images_add_refused`), `Img.deserialize` with `_add_1_1`'s
re-filing loop (`Img.refile`) behind the generated gate `<= (1, 1)`; `Mf.Rpms.add` (`Model/Builders.lean`, literal list
`Gen.RPMS_ADD_SOURCE_ARCHES`) and the 0.3 reader `Mf.manifest03` / `Mf.deserializeL`
(`Model/RpmsLegacy.lean`) behind the generated gate `<= (0, 3)`.

`Spec.BinaryArch a` : `a ∈ Gen.RPM_ARCHES ∧ a ≠ "src" ∧ a ≠ "nosrc"` (`Spec/Arches.lean`).
`Img.C10.archKeys` / `Mf.C10.archKeys` list EVERY key on the arch level of the manifest, also keys of empty tables.
-/
namespace PM
open PM.Spec

/-- `src` and `nosrc` ARE in the architecture table: the table check alone does not keep them out … -/
theorem C10_source_names_in_table : L "src" ∈ Gen.RPM_ARCHES ∧ L "nosrc" ∈ Gen.RPM_ARCHES := by decide

/-- … so both must be in the literal refusal list of `Images.add` and of `Rpms.add` -/
theorem C10_refusal_lists :
    (L "src" ∈ Gen.images_add_refused ∧ L "nosrc" ∈ Gen.images_add_refused)
    ∧ (L "src" ∈ Gen.RPMS_ADD_SOURCE_ARCHES ∧ L "nosrc" ∈ Gen.RPMS_ADD_SOURCE_ARCHES) := by decide

/-- … and NOTHING ELSE is in them (both inclusions, as sets): the refusal lists are exactly the two source names, so no
binary architecture is refused by these statements -/
theorem C10_refusal_lists_exact :
    (Gen.images_add_refused.all (Spec.sourceArchNames.contains ·) && Spec.sourceArchNames.all (Gen.images_add_refused.contains ·)) = true
    ∧ (Gen.RPMS_ADD_SOURCE_ARCHES.all (Spec.sourceArchNames.contains ·) && Spec.sourceArchNames.all (Gen.RPMS_ADD_SOURCE_ARCHES.contains ·)) = true := by
  decide

/-- a binary architecture passes both arch checks of both builders -/
theorem C10_binary_not_refused (a : Str) (h : BinaryArch a) :
    Gen.RPM_ARCHES.contains a = true ∧ Img.refusedArches.contains a = false ∧ a ∉ Mf.srcArches := by
  obtain ⟨h1, h2, h3⟩ := h
  have hs : a ∉ Spec.sourceArchNames := by
    intro hm
    simp only [Spec.sourceArchNames, List.mem_cons, List.not_mem_nil, or_false] at hm
    rcases hm with e | e
    · exact h2 e
    · exact h3 e
  have e1 := C10_refusal_lists_exact.1
  have e2 := C10_refusal_lists_exact.2
  simp only [Bool.and_eq_true, List.all_eq_true] at e1 e2
  refine ⟨by simpa using h1, ?_, ?_⟩
  · cases hc : Img.refusedArches.contains a
    · rfl
    · exfalso
      have hm : a ∈ Gen.images_add_refused := by simpa [Img.refusedArches] using hc
      exact hs (by simpa using e1.1 a hm)
  · intro hm
    exact hs (by simpa using e2.1 a hm)

/-- statement order of `Images.add` read from the source: the insertion comes after both arch checks, both
checks stand at the head of the body, nothing that can raise follows the insertion -/
theorem C10_images_script :
    Img.C10.archGuard Gen.images_add_script false false = true ∧ Img.C10.headChecks Gen.images_add_script = (true, true)
    ∧ Img.safeOrder Gen.images_add_script = true := by decide

/-- the explicit refusal is necessary: with the table check alone an `add` under `src` files the image there -/
theorem C10_refusal_necessary :
    Img.C10.archKeys (Img.runSteps (L "Server") (L "src") 0 {} [.archTable, .insert] {}).1.cells = [L "src"]
    ∧ Img.C10.archKeys (Img.runSteps (L "Server") (L "nosrc") 0 {} [.archTable, .insert] {}).1.cells = [L "nosrc"] := by decide

theorem c10_images_admissible_binary {a : Str} (h : Img.C10.Admissible a) : BinaryArch a := by
  obtain ⟨h1, h2⟩ := h
  have h2' : a ∉ Gen.images_add_refused := by
    intro hm
    have : Img.refusedArches.contains a = true := by simpa [Img.refusedArches] using hm
    rw [h2] at this; cases this
  refine ⟨by simpa using h1, ?_, ?_⟩
  · rintro rfl; exact h2' C10_refusal_lists.1.1
  · rintro rfl; exact h2' C10_refusal_lists.1.2

theorem c10_rpms_admissible_binary {a : Str} (h : Mf.C10.Admissible a) : BinaryArch a := by
  obtain ⟨h1, h2⟩ := h
  refine ⟨h1, ?_, ?_⟩
  · rintro rfl; exact h2 C10_refusal_lists.2.1
  · rintro rfl; exact h2 C10_refusal_lists.2.2

/-- **step**: whatever the call (accepted or refused, any arch string), the arch keys stay binary -/
theorem C10_images_step (s : Img.ImgState) (v a : Str) (id : Nat) (img : Img.Image) (hk : Img.C10.KeysOK s.cells) :
    Img.C10.KeysOK (Img.add s v a id img).1.cells :=
  Img.C10.keys_of_archGuard v a id img Img.addScript s false false C10_images_script.1 (fun h => by cases h) (fun h => by cases h) hk

/-- **refusal**: adding under `src`, `nosrc` or a name outside the table raises ValueError and the manifest is
IDENTICAL to what it was — no variant key, no empty arch table is left behind (any state, any header version) -/
theorem C10_images_refused (s : Img.ImgState) (v a : Str) (id : Nat) (img : Img.Image) (h : ¬ BinaryArch a) :
    Img.add s v a id img = (s, .error .valueError) := by
  apply Img.C10.refused_of_headChecks
  have e : Img.C10.headChecks Img.addScript = (true, true) := C10_images_script.2.1
  rw [e]
  by_cases h1 : Gen.RPM_ARCHES.contains a = true
  · by_cases h2 : Img.refusedArches.contains a = true
    · exact Or.inr ⟨h2, rfl⟩
    · exact absurd (c10_images_admissible_binary ⟨h1, by simpa using h2⟩) h
  · exact Or.inl ⟨by simpa using h1, rfl⟩

/-- **histories**: every state reachable from the empty manifest by any list of `add` calls (refused ones
included, any arch strings, any header version set by the caller) has only binary arch keys -/
theorem C10_keys_images_add (ver : Str) (ops : List Img.AddOp) :
    ∀ a ∈ Img.C10.archKeys (ops.foldl Img.step (Img.empty ver)).cells, BinaryArch a :=
  fun a ha => c10_images_admissible_binary (List.foldlRecOn (motive := fun s => Img.C10.KeysOK s.cells) ops Img.step
    (by intro x hx; simp [Img.empty, Img.C10.archKeys] at hx)
    (fun s hs op _ => C10_images_step s op.variant op.arch op.id op.img hs) a ha)

/-- **loading**: every manifest obtained from ANY images document (any header version: 1.0 / 1.1 with `src`
re-filing, 1.2 …; any shape of the image table) has only binary arch keys -/
theorem C10_keys_images_load (doc : PyVal) (s : Img.ImgState) (h : Img.deserialize doc = .ok s) :
    ∀ a ∈ Img.C10.archKeys s.cells, BinaryArch a := by
  have hk : Img.C10.KeysOK s.cells :=
    Img.readWith_inv (fun _ _ s v a id img _ _ _ hk => C10_images_step s v a id img hk) (fun x hx => by simp [Img.C10.archKeys] at hx) h
  intro a ha
  exact c10_images_admissible_binary (hk a ha)

/-- **refusal**: `Rpms.add` under `src`, `nosrc` or a name outside the table raises ValueError and returns the
identical mapping (any mapping, any other arguments) -/
theorem C10_rpms_refused (s : PyVal) (a : Mf.RpmsArgs) (h : ¬ BinaryArch a.arch) :
    Mf.Rpms.add s a = (s, .error .valueError) := by
  apply Mf.C12_rpms_refuses
  by_cases h1 : a.arch ∈ Gen.RPM_ARCHES
  · right; left
    by_cases h2 : a.arch ∈ Mf.srcArches
    · exact h2
    · exact absurd (c10_rpms_admissible_binary ⟨h1, h2⟩) h
  · left; exact h1

/-- **histories**: every mapping reachable from the empty one by any list of `Rpms.add` calls (refused ones
included) has only binary arch keys -/
theorem C10_keys_rpms_add (h : List Mf.RpmsArgs) : ∀ a ∈ Mf.C10.archKeys (Mf.runRpms Mf.empty h), BinaryArch a :=
  fun a ha => c10_rpms_admissible_binary (Mf.C10.keysOK_run h Mf.empty Mf.C10.keysOK_empty a ha)

/-- **0.3 conversion**: the mapping `deserialize_0_3` builds from ANY `payload` has only binary arch keys -/
theorem C10_keys_rpms_manifest03 (pl s : PyVal) (h : Mf.manifest03 pl = .ok s) : ∀ a ∈ Mf.C10.archKeys s, BinaryArch a :=
  fun a ha => c10_rpms_admissible_binary
    (Mf.C10.manifest03_inv Mf.C10.KeysOK Mf.C10.keysOK_add h Mf.C10.keysOK_empty a ha)

/-- … in particular the mapping of a manifest loaded from a document whose header version passes the generated gate
`<= (0, 3)` -/
theorem C10_keys_rpms_load03 (doc : PyVal) (m : Mf.Manifest) (h : Mf.deserializeL .rpms doc = .ok m)
    (ver : PyVal) (l : Nat × Nat) (hh : Mf.headerDeserialize .rpms doc = .ok (ver, .nums l))
    (hg : Mf.gateHolds Gen.gate_rpms_Rpms_deserialize_0 l = true) : ∀ a ∈ Mf.C10.archKeys m.payload, BinaryArch a := by
  obtain ⟨pl, _, hm⟩ := Mf.C10.deserializeL_legacy doc m h ver l hh hg
  exact C10_keys_rpms_manifest03 pl m.payload hm

/-- the gate in front of the 0.3 reader is `<= (0, 3)`, the gate in front of `_add_1_1` is `<= (1, 1)` -/
theorem C10_gates : Gen.gate_rpms_Rpms_deserialize_0 = { op := .le, bound := (0, 3) }
    ∧ Gen.gate_images_Images_deserialize_0 = { op := .le, bound := (1, 1) } := by decide

/-- **C10_keys**: for every state reachable by `Images.add` / `Rpms.add` from the empty manifest (any op list, any
arch strings), and for every state obtained by loading any images document (any version) or an rpms document of
format ≤ 0.3, every arch key is in `Gen.RPM_ARCHES` minus {`src`, `nosrc`} -/
theorem C10_keys :
    (∀ (ver : Str) (ops : List Img.AddOp), ∀ a ∈ Img.C10.archKeys (ops.foldl Img.step (Img.empty ver)).cells, BinaryArch a)
    ∧ (∀ (h : List Mf.RpmsArgs), ∀ a ∈ Mf.C10.archKeys (Mf.runRpms Mf.empty h), BinaryArch a)
    ∧ (∀ (doc : PyVal) (s : Img.ImgState), Img.loads doc = .ok s → ∀ a ∈ Img.C10.archKeys s.cells, BinaryArch a)
    ∧ (∀ (doc : PyVal) (m : Mf.Manifest) (ver : PyVal) (l : Nat × Nat), Mf.deserializeL .rpms doc = .ok m →
         Mf.headerDeserialize .rpms doc = .ok (ver, .nums l) → Mf.gateHolds Gen.gate_rpms_Rpms_deserialize_0 l = true →
         ∀ a ∈ Mf.C10.archKeys m.payload, BinaryArch a) := by
  refine ⟨C10_keys_images_add, C10_keys_rpms_add, ?_, fun doc m ver l h hh hg => C10_keys_rpms_load03 doc m h ver l hh hg⟩
  intro doc s h
  rw [Img.loads_eq] at h
  exact C10_keys_images_load doc s h

theorem c10_archKeys_toPy (o : Img.OutCells) : Mf.C10.archKeys o.toPy = Img.C10.outArchKeys o := by
  simp only [Img.OutCells.toPy, Mf.C10.archKeys, Img.C10.outArchKeys, List.flatMap_map]
  congr 1
  funext va
  simp [Mf.C10.dictKeys, List.map_map, Function.comp_def]

/-- **images, written back**: the document `serialize` builds from a loaded manifest has only binary arch keys in
its image table (`Mf.C10.archKeys` = every key on the second level of the table) -/
theorem C10_images_written (doc : PyVal) (s : Img.ImgState) (h : Img.deserialize doc = .ok s) (out : PyVal)
    (hs : (Img.serialize s).2 = .ok out) :
    ∃ payload tbl, PyOps.item out (L "payload") = .ok payload ∧ PyOps.item payload (L "images") = .ok tbl
      ∧ ∀ a ∈ Mf.C10.archKeys tbl, BinaryArch a := by
  obtain ⟨hdr, comp, o, rfl, hk⟩ := (Img.C10.serialize_keys s).elim hs
  refine ⟨_, o.toPy, rfl, rfl, ?_⟩
  intro a ha
  rw [c10_archKeys_toPy] at ha
  exact C10_keys_images_load doc s h a (hk a ha)

/-- **rpms, written back**: the document written from a manifest converted from format ≤ 0.3 carries the converted
mapping verbatim: only binary arch keys, no `src` -/
theorem C10_rpms_written (doc : PyVal) (m : Mf.Manifest) (h : Mf.deserializeL .rpms doc = .ok m)
    (ver : PyVal) (l : Nat × Nat) (hh : Mf.headerDeserialize .rpms doc = .ok (ver, .nums l))
    (hg : Mf.gateHolds Gen.gate_rpms_Rpms_deserialize_0 l = true) (out : PyVal) (hs : (Mf.serialize .rpms m).2 = .ok out) :
    ∃ payload tbl, Mf.getItem out (Mf.lit "payload") = .ok payload ∧ Mf.getItem payload (Mf.lit "rpms") = .ok tbl
      ∧ (∀ a ∈ Mf.C10.archKeys tbl, BinaryArch a) ∧ L "src" ∉ Mf.C10.archKeys tbl := by
  obtain ⟨pl, h1, h2⟩ := Mf.C10.serialize_rpms_payload m out hs
  have hk := C10_keys_rpms_load03 doc m h ver l hh hg
  exact ⟨pl, m.payload, h1, h2, hk, fun hm => (hk _ hm).2.1 rfl⟩

open PM.Img PM.Img.C10 in
/-- **exact filing of a document of format ≤ 1.1** (generated gate) whose image table is `O` — any parsed JSON object
variant ↦ arch ↦ list, i.e. unique keys on both levels.  The k-th image dictionary of the table (iteration order) is
read as ONE object with identity k, and the filings `(variant, arch, object, attributes)` of the loaded manifest are
exactly: that object under `(v, b)` for every `b ∈ targets (arch keys of v) a`, where `(v, a)` is where the
dictionary stood — all arch keys of `v` other than `src` when `a = src`, `a` itself otherwise. -/
theorem C10_images_refile (doc : PyVal) (s : ImgState) (h : Img.deserialize doc = .ok s)
    (ver : PyVal) (hver : Img.headerDeserialize doc = .ok ver) (vt : VerT) (hvt : Img.versionTuple ver = .ok vt)
    (hold : gateEval Gen.gate_images_Images_deserialize_0 vt = .ok true)
    (payload : PyVal) (hp : PyOps.item doc (L "payload") = .ok payload) (O : OutCells) (hO : OutNodup O)
    (himg : PyOps.item payload (L "images") = .ok O.toPy) :
    ∀ v b k img, (v, b, k, img) ∈ entries s.cells ↔
      ∃ a d as, (outTriples O)[k]? = some (v, a, d) ∧ Image.deserialize ver d = .ok img ∧ (v, as) ∈ O
        ∧ b ∈ targets (as.map (·.1)) a :=
  (deserialize_table_files h hver hvt hold hp hO himg).2

open PM.Img PM.Img.C10 in
/-- **the property's words**: for a ≤ 1.1 document and a variant `v` with arch keys `as`, the image read from the
k-th dictionary, standing under `(v, src)`, is filed under `(v, b)` for EVERY arch key `b ≠ src` of `v` — the same
object in each — and nowhere else: not under another variant, not under `src` -/
theorem C10_images_refile_src (doc : PyVal) (s : ImgState) (h : Img.deserialize doc = .ok s)
    (ver : PyVal) (hver : Img.headerDeserialize doc = .ok ver) (vt : VerT) (hvt : Img.versionTuple ver = .ok vt)
    (hold : gateEval Gen.gate_images_Images_deserialize_0 vt = .ok true)
    (payload : PyVal) (hp : PyOps.item doc (L "payload") = .ok payload) (O : OutCells) (hO : OutNodup O)
    (himg : PyOps.item payload (L "images") = .ok O.toPy)
    (v : Str) (as : List (Str × List PyVal)) (hv : (v, as) ∈ O) (k : Nat) (d : PyVal)
    (hk : (outTriples O)[k]? = some (v, L "src", d)) (img : Image) (hd : Image.deserialize ver d = .ok img) :
    ∀ v' b img', (v', b, k, img') ∈ entries s.cells ↔ (v' = v ∧ img' = img ∧ b ∈ as.map (·.1) ∧ b ≠ L "src") := by
  intro v' b img'
  rw [C10_images_refile doc s h ver hver vt hvt hold payload hp O hO himg]
  constructor
  · rintro ⟨a', d', as', hk', hd', hv', hb⟩
    rw [hk] at hk'
    injection hk' with hk'
    injection hk' with e1 hk'
    injection hk' with e2 e3
    subst e1 e2 e3
    rw [hd] at hd'; injection hd' with hd'
    have := Option.some.inj ((Assoc.lookup_of_mem_nodup hO.1 hv).symm.trans (Assoc.lookup_of_mem_nodup hO.1 hv'))
    subst this
    simp only [targets, ↓reduceIte, List.mem_filter, decide_eq_true_eq] at hb
    exact ⟨rfl, hd'.symm, hb.1, hb.2⟩
  · rintro ⟨rfl, rfl, hb1, hb2⟩
    refine ⟨L "src", d, as, hk, hd, hv, ?_⟩
    simp only [targets, ↓reduceIte, List.mem_filter, decide_eq_true_eq]
    exact ⟨hb1, hb2⟩

open PM.Img PM.Img.C10 in
/-- … and an image that did not stand under `src` is filed in its own cell and nowhere else -/
theorem C10_images_refile_other (doc : PyVal) (s : ImgState) (h : Img.deserialize doc = .ok s)
    (ver : PyVal) (hver : Img.headerDeserialize doc = .ok ver) (vt : VerT) (hvt : Img.versionTuple ver = .ok vt)
    (hold : gateEval Gen.gate_images_Images_deserialize_0 vt = .ok true)
    (payload : PyVal) (hp : PyOps.item doc (L "payload") = .ok payload) (O : OutCells) (hO : OutNodup O)
    (himg : PyOps.item payload (L "images") = .ok O.toPy)
    (v a : Str) (ha : a ≠ L "src") (k : Nat) (d : PyVal)
    (hk : (outTriples O)[k]? = some (v, a, d)) (img : Image) (hd : Image.deserialize ver d = .ok img) :
    ∀ v' b img', (v', b, k, img') ∈ entries s.cells ↔ (v' = v ∧ img' = img ∧ b = a) := by
  intro v' b img'
  rw [C10_images_refile doc s h ver hver vt hvt hold payload hp O hO himg]
  constructor
  · rintro ⟨a', d', as', hk', hd', hv', hb⟩
    rw [hk] at hk'
    injection hk' with hk'
    injection hk' with e1 hk'
    injection hk' with e2 e3
    subst e1 e2 e3
    rw [hd] at hd'; injection hd' with hd'
    simp only [targets, ha, ↓reduceIte, List.mem_singleton] at hb
    exact ⟨rfl, hd'.symm, hb⟩
  · rintro ⟨rfl, rfl, rfl⟩
    obtain ⟨as, hmem, _⟩ := mem_outTriples (List.mem_of_getElem? hk)
    refine ⟨b, d, as, hk, hd, hmem, ?_⟩
    simp [targets, ha]

open PM.Img PM.Img.C10 in
/-- **a ≤ 1.1 document that loads needs only binary arches**: if the document loads, every arch key under which one of
its image dictionaries has to be filed — its own key, or for a `src` image EVERY other arch key of the variant, also
one whose own list is empty — is binary.  (Contrapositive: a document with images under `nosrc` / an unknown name,
or with source images next to such a key, is refused.) -/
theorem C10_images_old_doc_arches (doc : PyVal) (s : ImgState) (h : Img.deserialize doc = .ok s)
    (ver : PyVal) (hver : Img.headerDeserialize doc = .ok ver) (vt : VerT) (hvt : Img.versionTuple ver = .ok vt)
    (hold : gateEval Gen.gate_images_Images_deserialize_0 vt = .ok true)
    (payload : PyVal) (hp : PyOps.item doc (L "payload") = .ok payload) (O : OutCells) (hO : OutNodup O)
    (himg : PyOps.item payload (L "images") = .ok O.toPy)
    (v : Str) (as : List (Str × List PyVal)) (hv : (v, as) ∈ O) (a : Str) (l : List PyVal) (ha : (a, l) ∈ as) (d : PyVal) (hd : d ∈ l) :
    ∀ b ∈ targets (as.map (·.1)) a, BinaryArch b := by
  intro b hb
  have hfiles := C10_images_refile doc s h ver hver vt hvt hold payload hp O hO himg
  have ht : (v, a, d) ∈ outTriples O := by
    simp only [outTriples, archTriples, List.mem_flatMap, List.mem_map]
    exact ⟨(v, as), hv, (a, l), ha, d, hd, rfl⟩
  obtain ⟨k, hk⟩ := List.getElem?_of_mem ht
  -- the reader got through every dictionary
  obtain ⟨img, hdi⟩ := (deserialize_table_files h hver hvt hold hp hO himg).1 _ ht
  have hmem : (v, b, k, img) ∈ entries s.cells := (hfiles v b k img).mpr ⟨a, d, as, hk, hdi, hv, hb⟩
  exact C10_keys_images_load doc s h b (archKey_of_entry hmem)

/-! A concrete 1.1 document: hypotheses are satisfiable, the statement is not vacuous. -/

def c10_exImage (path arch : String) (n : Int) : PyVal :=
  .dict [(L "path", .str (L path)), (L "mtime", .int 1), (L "size", .int 2), (L "volume_id", .none), (L "type", .str (L "dvd")),
         (L "format", .str (L "iso")), (L "arch", .str (L arch)), (L "disc_number", .int n), (L "disc_count", .int 1),
         (L "checksums", .dict [(L "md5", .str (L "0"))]), (L "implant_md5", .none), (L "bootable", .bool false),
         (L "subvariant", .str (L "S"))]

def c10_exTable : Img.OutCells :=
  [(L "Server", [(L "src", [c10_exImage "Server/source/a.iso" "src" 1]), (L "x86_64", [c10_exImage "Server/x86_64/b.iso" "x86_64" 2]), (L "s390x", [])]),
   (L "Client", [(L "i386", [c10_exImage "Client/i386/c.iso" "i386" 3])])]

def c10_exImagesDoc : PyVal :=
  .dict [(L "header", .dict [(L "version", .str (L "1.1")), (L "type", .str (L "productmd.images"))]),
         (L "payload", .dict [
           (L "compose", .dict [(L "id", .str (L "F-22-20150522.0")), (L "type", .str (L "production")),
                                (L "date", .str (L "20150522")), (L "respin", .int 0)]),
           (L "images", c10_exTable.toPy)])]

/-- the Server source image (object 0) ends up under Server/x86_64 and Server/s390x (an arch key with no image of its
own), not under Client/i386; no `src` key -/
example : ((Img.deserialize c10_exImagesDoc).toOption.map fun s => ((entries s.cells).map fun e => (e.1, e.2.1, e.2.2.1), Img.C10.archKeys s.cells))
    = some ([(L "Server", L "x86_64", 0), (L "Server", L "x86_64", 1), (L "Server", L "s390x", 0), (L "Client", L "i386", 2)],
            [L "x86_64", L "s390x", L "i386"]) := by
  decide +kernel

example : Img.OutNodup c10_exTable ∧ (Img.outTriples c10_exTable)[0]? = some (L "Server", L "src", c10_exImage "Server/source/a.iso" "src" 1)
    ∧ ((Img.versionTuple (.str (L "1.1"))).bind (Img.gateEval Gen.gate_images_Images_deserialize_0)) = .ok true := by
  refine ⟨⟨by decide, by decide⟩, rfl, by decide +kernel⟩

/-- **the re-filed source RPM** (general form).  `doc` is loaded through the 0.3 reader; its manifest is the JSON
object `vs` (unique keys); variant `v` has the arch table `as`, a `src` table `st` holding the entry `sd ≠ null` for
the source package `k`, and under the arch `a ≠ src` the non-empty table `rl` of packages built from `k`.
Then `[v][a][K][K]`, K = canonical N-E:V-R.A of `k`, holds `{sigkey: lower(sd.sigkey), path: sd.path, category:
"source"}` — path and key FROM THE SRC TABLE ENTRY.
Hypothesis `hdist` (why `_partial`): every OTHER source-package key of the same `[v][a]` table is non-empty and has a
canonical form different from K.  Two texts of one package in one table write the same slot and the later wins
(`C10_rpms_refile_collision_witness`). -/
theorem C10_rpms_refile_general_partial (doc : PyVal) (m : Mf.Manifest) (h : Mf.deserializeL .rpms doc = .ok m)
    (ver : PyVal) (l : Nat × Nat) (hh : Mf.headerDeserialize .rpms doc = .ok (ver, .nums l))
    (hg : Mf.gateHolds Gen.gate_rpms_Rpms_deserialize_0 l = true)
    (pl : PyVal) (hpl : Mf.getItem doc (Mf.lit "payload") = .ok pl)
    (vs : Mf.Kvs) (hman : Mf.getItem pl (Mf.lit "manifest") = .ok (.dict vs)) (hvs : (vs.map (·.1)).Nodup)
    (v : Str) (as : Mf.Kvs) (hv : (v, PyVal.dict as) ∈ vs) (has : (as.map (·.1)).Nodup)
    (a : Str) (ha : a ≠ L "src") (cell : Mf.Kvs) (hcell : (a, PyVal.dict cell) ∈ as) (hcn : (cell.map (·.1)).Nodup)
    (st : Mf.Kvs) (hsrc : (L "src", PyVal.dict st) ∈ as) (k : Str) (sd : PyVal) (hst : Mf.lookup st k = some sd) (hsd : sd ≠ .none)
    (dk : Nvra) (hparse : parseNvra k = .ok dk) (rl : Mf.Kvs) (hrl : rl ≠ []) (hk : (k, PyVal.dict rl) ∈ cell)
    (hdist : ∀ it ∈ cell, it.1 ≠ k → it.1 ≠ [] ∧ ∀ d', parseNvra it.1 = .ok d' → canonNvra d' ≠ canonNvra dk) :
    ∃ (p : Str) (sk : Option Str), PyOps.item sd (L "path") = .ok (.str p) ∧ PyOps.item sd (L "sigkey") = .ok (Mf.optStr sk) ∧
      Mf.getPath m.payload [v, a, canonNvra dk, canonNvra dk]
        = some (Mf.rpmRecord (sk.map Str.lowerAscii) p (L "source")) := by
  obtain ⟨pl', hpl', hm⟩ := Mf.C10.deserializeL_legacy doc m h ver l hh hg
  rw [hpl] at hpl'; injection hpl' with hpl'; subst hpl'
  exact Mf.C10.manifest03_refile v as has a ha cell hcell hcn st hsrc k sd hst hsd dk hparse rl hrl hk hdist pl m.payload hm vs hman hvs hv

theorem c10_canonNvra_ne_nil (d : Nvra) : canonNvra d ≠ [] := by
  unfold canonNvra
  intro e
  have := congrArg List.length e
  simp at this

/-- **C10_rpms_refile** — the statement in the property's own words, `[variant][arch][srpm][srpm]`: for a 0.3
manifest whose source-package keys in `[v][a]` are canonical N-E:V-R.A strings (what the 0.3 writer produced; it
makes `hdist` of the general form a consequence of the keys being distinct) -/
theorem C10_rpms_refile (doc : PyVal) (m : Mf.Manifest) (h : Mf.deserializeL .rpms doc = .ok m)
    (ver : PyVal) (l : Nat × Nat) (hh : Mf.headerDeserialize .rpms doc = .ok (ver, .nums l))
    (hg : Mf.gateHolds Gen.gate_rpms_Rpms_deserialize_0 l = true)
    (pl : PyVal) (hpl : Mf.getItem doc (Mf.lit "payload") = .ok pl)
    (vs : Mf.Kvs) (hman : Mf.getItem pl (Mf.lit "manifest") = .ok (.dict vs)) (hvs : (vs.map (·.1)).Nodup)
    (v : Str) (as : Mf.Kvs) (hv : (v, PyVal.dict as) ∈ vs) (has : (as.map (·.1)).Nodup)
    (a : Str) (ha : a ≠ L "src") (cell : Mf.Kvs) (hcell : (a, PyVal.dict cell) ∈ as) (hcn : (cell.map (·.1)).Nodup)
    (st : Mf.Kvs) (hsrc : (L "src", PyVal.dict st) ∈ as) (k : Str) (sd : PyVal) (hst : Mf.lookup st k = some sd) (hsd : sd ≠ .none)
    (rl : Mf.Kvs) (hrl : rl ≠ []) (hk : (k, PyVal.dict rl) ∈ cell)
    (hcanon : ∀ it ∈ cell, ∃ d, parseNvra it.1 = .ok d ∧ canonNvra d = it.1) :
    ∃ (p : Str) (sk : Option Str), PyOps.item sd (L "path") = .ok (.str p) ∧ PyOps.item sd (L "sigkey") = .ok (Mf.optStr sk) ∧
      Mf.getPath m.payload [v, a, k, k] = some (Mf.rpmRecord (sk.map Str.lowerAscii) p (L "source")) := by
  obtain ⟨dk, hparse, hcan⟩ := hcanon (k, .dict rl) hk
  simp only at hparse hcan
  have := C10_rpms_refile_general_partial doc m h ver l hh hg pl hpl vs hman hvs v as hv has a ha cell hcell hcn st hsrc k sd hst hsd
    dk hparse rl hrl hk (by
      intro it hit hne
      obtain ⟨d, hp, hc⟩ := hcanon it hit
      refine ⟨fun e => c10_canonNvra_ne_nil d (hc.trans e), fun d' hp' => ?_⟩
      rw [hp] at hp'; injection hp' with hp'; subst hp'
      rw [hc, hcan]; exact hne)
  rw [hcan] at this
  exact this

def c10_exRpm (type path : String) (sigkey : PyVal) : PyVal :=
  .dict [(L "type", .str (L type)), (L "path", .str (L path)), (L "sigkey", sigkey)]

/-- an unsigned SRPM next to signed binaries, listed under two binary arches; a second variant without `src` -/
def c10_exManifest03 : PyVal :=
  .dict [(L "manifest", .dict [
    (L "Server", .dict [
      (L "src", .dict [(L "bash-0:4.2-5.src", .dict [(L "path", .str (L "Server/source/bash.src.rpm")), (L "sigkey", .none)])]),
      (L "x86_64", .dict [(L "bash-0:4.2-5.src", .dict [(L "bash-0:4.2-5.x86_64", c10_exRpm "package" "Server/x86_64/bash.rpm" (.str (L "FD431D51")))])]),
      (L "s390x", .dict [(L "bash-0:4.2-5.src", .dict [(L "bash-doc-0:4.2-5.noarch", c10_exRpm "package" "Server/s390x/bash-doc.rpm" (.str (L "FD431D51")))])])]),
    (L "Client", .dict [
      (L "i386", .dict [(L "bash-0:4.2-5.src", .dict [(L "bash-0:4.2-5.i686", c10_exRpm "package" "Client/i386/bash.rpm" (.none))])])])])]

/-- the same manifest inside a whole document of format 0.3: header, compose section, gate -/
def c10_exRpmsDoc : PyVal :=
  .dict [(L "header", .dict [(L "version", .str (L "0.3"))]),
         (L "payload", .dict ((L "compose", .dict [(L "id", .str (L "RHEL-7.0-20140507.0")), (L "type", .str (L "production")),
                                                  (L "date", .str (L "20140507")), (L "respin", .int 0)])
                              :: (match c10_exManifest03 with | .dict kvs => kvs | _ => [])))]

/-- the region excluded by `hdist`: two texts of ONE source package in one table (`…src` and `…src.rpm`), each with its
own `src` entry — both write `[v][a][K][K]`, the later one stays -/
def c10_exCollision03 : PyVal :=
  .dict [(L "manifest", .dict [
    (L "Server", .dict [
      (L "src", .dict [(L "bash-0:4.2-5.src", .dict [(L "path", .str (L "first.src.rpm")), (L "sigkey", .none)]),
                       (L "bash-0:4.2-5.src.rpm", .dict [(L "path", .str (L "second.src.rpm")), (L "sigkey", .none)])]),
      (L "x86_64", .dict [
        (L "bash-0:4.2-5.src", .dict [(L "bash-0:4.2-5.x86_64", c10_exRpm "package" "a.rpm" .none)]),
        (L "bash-0:4.2-5.src.rpm", .dict [(L "bash-doc-0:4.2-5.noarch", c10_exRpm "package" "b.rpm" .none)])])])])]

/-- closed facts about the 0.3 witnesses, evaluated in one declaration (DESIGN.md §3, closed facts) -/
structure C10RpmsFacts : Prop where
  refiled : (Mf.manifest03 c10_exManifest03).toOption.map (fun s =>
      (Mf.C10.archKeys s,
       Mf.getPath s [L "Server", L "x86_64", L "bash-0:4.2-5.src", L "bash-0:4.2-5.src"] == some (Mf.rpmRecord none (L "Server/source/bash.src.rpm") (L "source")),
       Mf.getPath s [L "Server", L "s390x", L "bash-0:4.2-5.src", L "bash-0:4.2-5.src"] == some (Mf.rpmRecord none (L "Server/source/bash.src.rpm") (L "source")),
       (Mf.getPath s [L "Client", L "i386", L "bash-0:4.2-5.src", L "bash-0:4.2-5.src"]).isNone))
    = some ([L "x86_64", L "s390x", L "i386"], true, true, true)
  loaded : ((Mf.deserializeL .rpms c10_exRpmsDoc).toOption.map fun m =>
      (Mf.C10.archKeys m.payload,
       Mf.getPath m.payload [L "Server", L "s390x", L "bash-0:4.2-5.src", L "bash-0:4.2-5.src"]
         == some (Mf.rpmRecord none (L "Server/source/bash.src.rpm") (L "source"))))
      = some ([L "x86_64", L "s390x", L "i386"], true)
    ∧ ((Mf.headerDeserialize .rpms c10_exRpmsDoc).toOption.map fun r =>
        match r.2 with | .nums l => Mf.gateHolds Gen.gate_rpms_Rpms_deserialize_0 l | .text => false) = some true
  canonical : parseNvra (L "bash-0:4.2-5.src") = .ok ⟨some (L "bash"), 0, some (L "4.2"), some (L "5"), some (L "src")⟩
    ∧ canonNvra ⟨some (L "bash"), 0, some (L "4.2"), some (L "5"), some (L "src")⟩ = L "bash-0:4.2-5.src"
  collision : (Mf.manifest03 c10_exCollision03).toOption.map (fun s =>
      Mf.getPath s [L "Server", L "x86_64", L "bash-0:4.2-5.src", L "bash-0:4.2-5.src"] == some (Mf.rpmRecord none (L "second.src.rpm") (L "source")))
    = some true

theorem c10_rpms_facts : C10RpmsFacts := by
  suffices h : _ ∧ _ ∧ _ ∧ _ from ⟨h.1, h.2.1, h.2.2.1, h.2.2.2⟩
  decide +kernel

example :
    (Mf.manifest03 c10_exManifest03).toOption.map (fun s =>
      (Mf.C10.archKeys s,
       Mf.getPath s [L "Server", L "x86_64", L "bash-0:4.2-5.src", L "bash-0:4.2-5.src"] == some (Mf.rpmRecord none (L "Server/source/bash.src.rpm") (L "source")),
       Mf.getPath s [L "Server", L "s390x", L "bash-0:4.2-5.src", L "bash-0:4.2-5.src"] == some (Mf.rpmRecord none (L "Server/source/bash.src.rpm") (L "source")),
       (Mf.getPath s [L "Client", L "i386", L "bash-0:4.2-5.src", L "bash-0:4.2-5.src"]).isNone))
    = some ([L "x86_64", L "s390x", L "i386"], true, true, true) :=
  c10_rpms_facts.refiled

example :
    ((Mf.deserializeL .rpms c10_exRpmsDoc).toOption.map fun m =>
      (Mf.C10.archKeys m.payload,
       Mf.getPath m.payload [L "Server", L "s390x", L "bash-0:4.2-5.src", L "bash-0:4.2-5.src"]
         == some (Mf.rpmRecord none (L "Server/source/bash.src.rpm") (L "source"))))
      = some ([L "x86_64", L "s390x", L "i386"], true)
    ∧ ((Mf.headerDeserialize .rpms c10_exRpmsDoc).toOption.map fun r =>
        match r.2 with | .nums l => Mf.gateHolds Gen.gate_rpms_Rpms_deserialize_0 l | .text => false) = some true :=
  c10_rpms_facts.loaded

example : ∃ d, parseNvra (L "bash-0:4.2-5.src") = .ok d ∧ canonNvra d = L "bash-0:4.2-5.src" :=
  ⟨_, c10_rpms_facts.canonical⟩

theorem C10_rpms_refile_collision_witness :
    (Mf.manifest03 c10_exCollision03).toOption.map (fun s =>
      Mf.getPath s [L "Server", L "x86_64", L "bash-0:4.2-5.src", L "bash-0:4.2-5.src"] == some (Mf.rpmRecord none (L "second.src.rpm") (L "source")))
    = some true :=
  c10_rpms_facts.collision

end PM
