import ProductMD.Proofs.Checksum
import ProductMD.Proofs.HashMD
import ProductMD.Proofs.ExceptLemmas
/-!
# C16 — checksums recorded in metadata are the true digests of the right files

Model: `Model/Checksum.lean` (mirrors `compute_checksum`, `Checksums.add/serialize/deserialize`, `Image.add_checksum`);
the chunk size, the loop shape, the legacy length→type chain with its hex-digit guard and its final `else: raise`, and `add`'s
refusal of absolute paths and call of `normpath` are regenerated from the source on every run (`Generated/Checksums.lean`).
-/
namespace PM
open Checksum

/-- the statement behind `C16_chunked` and `C16_chunked_md`: the unit law may be restricted to an invariant `P` of the hash objects -/
theorem chunked_of_laws {H : Type} (init : H) (upd : H → Bytes → H) (dig : H → Str) (P : H → Prop) (h0 : P init)
    (hP : ∀ h a, P (upd h a)) (law : ∀ h a b, upd (upd h a) b = upd h (a ++ b)) (unit : ∀ h, P h → upd h [] = h)
    (n : Nat) (hn : 0 < n) (content : Bytes) :
    chunkedDigest init upd dig n content = dig (upd init content) := by
  unfold chunkedDigest
  rw [readLoop_state upd P hP law unit n hn (content.length + 1) init content h0 (by omega)]

/-- Streaming hash laws as explicit hypotheses (`hashlib`: feeding `a` then `b` is feeding `a ++ b`; feeding nothing
changes nothing).  For ANY content and ANY chunk size > 0 the read-until-empty loop yields the one-shot digest. -/
theorem C16_chunked {H : Type} (init : H) (upd : H → Bytes → H) (dig : H → Str)
    (law : ∀ h a b, upd (upd h a) b = upd h (a ++ b)) (unit : ∀ h, upd h [] = h)
    (n : Nat) (hn : 0 < n) (content : Bytes) :
    chunkedDigest init upd dig n content = dig (upd init content) :=
  chunked_of_laws init upd dig (fun _ => True) trivial (fun _ _ => trivial) law (fun h _ => unit h) n hn content

/-- what the reads look like: they add up to the file, none exceeds the chunk size, exactly the last one is empty -/
theorem C16_chunk_trace (n : Nat) (hn : 0 < n) (size : Nat) :
    (readTrace true n size).sum = size ∧ (∀ k ∈ readTrace true n size, k ≤ n)
    ∧ (readTrace true n size).getLast? = some 0 ∧ (∀ k ∈ (readTrace true n size).dropLast, 0 < k) := by
  have := readLoop_trace (fun (h : Nat) (c : Bytes) => h + c.length) n hn (size + 1) 0 (List.replicate size 0) (by simp)
  simpa [readTrace] using this

/-- obligation on the source: the read is in the loop, with a positive chunk size -/
theorem C16_here : Gen.checksumLoops = true ∧ 0 < Gen.checksumChunkSize := by decide

theorem compute_eq_chunked {H : Type} (init : H) (upd : H → Bytes → H) (dig : H → Str) (content : Bytes) :
    compute init upd dig content = chunkedDigest init upd dig Gen.checksumChunkSize content := if_pos C16_here.1

/-- `compute_checksum` as written returns the digest of the full content, whatever the file size -/
theorem C16_compute {H : Type} (init : H) (upd : H → Bytes → H) (dig : H → Str)
    (law : ∀ h a b, upd (upd h a) b = upd h (a ++ b)) (unit : ∀ h, upd h [] = h) (content : Bytes) :
    compute init upd dig content = dig (upd init content) :=
  (compute_eq_chunked init upd dig content).trans (C16_chunked init upd dig law unit _ C16_here.2 content)

/-- a single read (the code without its `while`) is wrong as soon as the file is longer than one chunk -/
theorem C16_read_once_witness :
    (readOnce (fun (h : Bytes) c => h ++ c) 2 [] [1, 2, 3]).1 ≠ [1, 2, 3] := by decide

/-- an absolute path is refused and the table is left alone -/
theorem C16_add_absolute (dg : Str → Str → Except Err Str) (tbl : Table) (rel ct : Str) (v root : Option Str)
    (h : Str.startsWith rel ['/'] = true) :
    add dg tbl rel ct v root = (tbl, .error .valueError) := by
  simp [add, Gen.addRefusesAbsolute, h]

/-- any refusal leaves the table alone -/
theorem C16_add_refusal (dg : Str → Str → Except Err Str) (tbl : Table) (rel ct : Str) (v root : Option Str) (e : Err)
    (h : (add dg tbl rel ct v root).2 = .error e) : (add dg tbl rel ct v root).1 = tbl := by
  by_cases habs : Gen.addRefusesAbsolute = true ∧ Str.startsWith rel ['/'] = true
  · simp [add, habs]
  · cases hg : givenValue v with
    | some v0 => simp [add, habs, hg] at h
    | none =>
      cases root with
      | none => simp [add, habs, hg]
      | some r =>
        cases hd : dg (pathJoin r (if Gen.addNormalises = true then normpath rel else rel)) ct with
        | ok d => simp [add, habs, hg, hd] at h
        | error e' => simp [add, habs, hg, hd]

/-- a successful add records the entry under `normpath` of the given path, which is never absolute; the value is
the one given, or – when none/empty was given – the digest computed for `root_dir/normpath(path)` -/
theorem C16_add (dg : Str → Str → Except Err Str) (tbl : Table) (rel ct : Str) (v root : Option Str)
    (hrel : Str.startsWith rel ['/'] = false) (hok : (add dg tbl rel ct v root).2 = .ok ()) :
    ∃ d, (add dg tbl rel ct v root).1 = tbl.set (normpath rel) (ct, d)
      ∧ Str.startsWith (normpath rel) ['/'] = false
      ∧ (valTruthy v = true → v = some d)
      ∧ (valTruthy v = false → ∃ r, root = some r ∧ dg (pathJoin r (normpath rel)) ct = .ok d) := by
  have hn := normpath_relative rel hrel
  have hN : Gen.addNormalises = true := by decide
  cases ht : valTruthy v with
  | true =>
    obtain ⟨v0, rfl⟩ : ∃ v0, v = some v0 := by
      cases v with
      | none => cases ht
      | some v0 => exact ⟨v0, rfl⟩
    exact ⟨v0, by simp [add, hrel, givenValue, ht, hN], hn, fun _ => rfl, nofun⟩
  | false =>
    have hg : givenValue v = none := by simp [givenValue, ht]
    cases root with
    | none => simp [add, hrel, hg] at hok
    | some r =>
      cases hd : dg (pathJoin r (normpath rel)) ct with
      | error e => simp [add, hrel, hg, hN, hd] at hok
      | ok d => exact ⟨d, by simp [add, hrel, hg, hN, hd], hn, nofun, fun _ => ⟨r, rfl, hd⟩⟩

theorem add_no_value (dg : Str → Str → Except Err Str) (tbl : Table) (rel ct root : Str) (hrel : Str.startsWith rel ['/'] = false)
    (hok : (add dg tbl rel ct none (some root)).2 = .ok ()) :
    ∃ d, dg (pathJoin root (normpath rel)) ct = .ok d ∧ (add dg tbl rel ct none (some root)).1 = tbl.set (normpath rel) (ct, d) := by
  obtain ⟨d, hd, _, _, hcomp⟩ := C16_add dg tbl rel ct none (some root) hrel hok
  obtain ⟨r, hr, hdig⟩ := hcomp (by simp [valTruthy])
  cases hr
  exact ⟨d, hdig, hd⟩

theorem add_from_files (cmp : Bytes → Str) (files : Str → Option Bytes) (tbl : Table) (rel ct root : Str)
    (hrel : Str.startsWith rel ['/'] = false)
    (hok : (add (fun p _ => match files p with
                   | some c => .ok (cmp c)
                   | none => .error .other) tbl rel ct none (some root)).2 = .ok ()) :
    ∃ content, files (pathJoin root (normpath rel)) = some content
      ∧ (add (fun p _ => match files p with
                   | some c => .ok (cmp c)
                   | none => .error .other) tbl rel ct none (some root)).1 = tbl.set (normpath rel) (ct, cmp content) := by
  obtain ⟨d, hdig, hd⟩ := add_no_value _ tbl rel ct root hrel hok
  cases hf : files (pathJoin root (normpath rel)) with
  | none => simp [hf] at hdig
  | some content =>
    simp only [hf, Except.ok.injEq] at hdig
    exact ⟨content, rfl, by rw [hd, hdig]⟩

/-- the first sentence of the property in one statement: `add(path, type)` without a value on a file system `files`
records, under the normalised relative path, the one-shot digest of the FULL content of `root/normpath(path)` -/
theorem C16_add_computes {H : Type} (init : H) (upd : H → Bytes → H) (dig : H → Str)
    (law : ∀ h a b, upd (upd h a) b = upd h (a ++ b)) (unit : ∀ h, upd h [] = h)
    (files : Str → Option Bytes) (tbl : Table) (rel ct root : Str)
    (hrel : Str.startsWith rel ['/'] = false)
    (hok : (add (fun p _ => match files p with
                   | some c => .ok (compute init upd dig c)
                   | none => .error .other) tbl rel ct none (some root)).2 = .ok ()) :
    ∃ content, files (pathJoin root (normpath rel)) = some content
      ∧ (add (fun p _ => match files p with
                   | some c => .ok (compute init upd dig c)
                   | none => .error .other) tbl rel ct none (some root)).1
          = tbl.set (normpath rel) (ct, dig (upd init content)) := by
  obtain ⟨content, hf, hd⟩ := add_from_files (compute init upd dig) files tbl rel ct root hrel hok
  exact ⟨content, hf, by rw [hd, C16_compute init upd dig law unit content]⟩

/-- one `add` keeps the invariant, whatever its arguments and whether it succeeds: if no key of the table is absolute, none is
afterwards (the induction over a history of adds is not stated) -/
theorem C16_add_invariant (dg : Str → Str → Except Err Str) (tbl : Table) (rel ct : Str) (v root : Option Str)
    (h : validatePaths tbl = .ok ()) : validatePaths (add dg tbl rel ct v root).1 = .ok () := by
  by_cases hrel : Str.startsWith rel ['/'] = true
  · rw [C16_add_absolute dg tbl rel ct v root hrel]; exact h
  · have hrel' : Str.startsWith rel ['/'] = false := by simpa using hrel
    cases hr : (add dg tbl rel ct v root).2 with
    | error e => rw [C16_add_refusal dg tbl rel ct v root e hr]; exact h
    | ok u =>
      cases u
      obtain ⟨d, hd, hn, _, _⟩ := C16_add dg tbl rel ct v root hrel' hr
      rw [hd]
      unfold validatePaths at h ⊢
      rw [Table.set_keys_any tbl (normpath rel) (ct, d) (fun k => Str.startsWith k ['/'])]
      by_cases ha : tbl.any (fun e => Str.startsWith e.1 ['/']) = true
      · simp [ha] at h
      · simp [ha, hn]

/-! `Model/HashMD.lean`: a hash object = (chaining value, pending bytes shorter than a block, total length); `update`
buffers and compresses every complete block; `digest` pads and finalises.  `Proofs/HashMD.lean` proves the streaming
and the unit law for EVERY block size > 0 and EVERY compression/finalisation function – so the theorems below hold
for md5, sha1, the sha2 family (given as executable instances and compared with `hashlib` on every run) and for any
other algorithm of this shape (sha3 absorption, sm3, ripemd160, …: compression function left abstract). -/

/-- **the streaming law, proved**: for any block-buffered hash, feeding `a` then `b` is feeding `a ++ b`, feeding
nothing changes nothing (`WF`: the pending buffer is shorter than a block, as in the initial object and in every object `update`
returns; a `State` as such does not enforce it), and feeding any list of chunks is feeding their concatenation -/
theorem C16_streaming_md {S : Type} (A : HashMD.Alg S) (hbs : 0 < A.blockSize) :
    (∀ h a b, HashMD.update A (HashMD.update A h a) b = HashMD.update A h (a ++ b))
    ∧ (∀ h, h.WF A → HashMD.update A h [] = h)
    ∧ (HashMD.init A).WF A ∧ (∀ h a, (HashMD.update A h a).WF A)
    ∧ (∀ chunks : List Bytes, HashMD.digest A (chunks.foldl (HashMD.update A) (HashMD.init A))
        = HashMD.hashBytes A chunks.flatten) :=
  ⟨HashMD.update_update A hbs, HashMD.update_nil A, HashMD.init_wf A hbs, HashMD.update_wf A hbs,
   HashMD.digest_foldl_update A hbs⟩

/-- for ANY block-buffered hash, ANY content and ANY chunk size > 0 the library's read-until-empty loop returns the
(lower-cased) one-shot digest – NO hypothesis about the hash -/
theorem C16_chunked_md {S : Type} (A : HashMD.Alg S) (hbs : 0 < A.blockSize) (n : Nat) (hn : 0 < n) (content : Bytes) :
    chunkedMD A n content = Str.lowerAscii (HashMD.hashBytes A content) :=
  chunked_of_laws (HashMD.init A) (HashMD.update A) (hexdigestLower A) (fun h => h.WF A) (HashMD.init_wf A hbs)
    (HashMD.update_wf A hbs) (HashMD.update_update A hbs) (HashMD.update_nil A) n hn content

/-- …and so does a caller who cuts the content into chunks of ARBITRARY sizes (empty chunks included) -/
theorem C16_any_chunking_md {S : Type} (A : HashMD.Alg S) (hbs : 0 < A.blockSize) (sizes : List Nat) (content : Bytes) :
    fedInChunks A sizes content = Str.lowerAscii (HashMD.hashBytes A content) := by
  unfold fedInChunks hexdigestLower
  rw [HashMD.digest_foldl_update A hbs, cutChunks_flatten]

/-- `compute_checksum` as written, over any block-buffered hash: the digest of the full content, whatever the size -/
theorem C16_compute_md {S : Type} (A : HashMD.Alg S) (hbs : 0 < A.blockSize) (content : Bytes) :
    computeMD A content = Str.lowerAscii (HashMD.hashBytes A content) :=
  (compute_eq_chunked _ _ _ content).trans (C16_chunked_md A hbs _ C16_here.2 content)

/-- the one-shot digest is what the algorithm's definition says: every complete block of the content compressed
in order, the remaining `length mod blockSize` bytes and the total length given to the finaliser -/
theorem C16_oneshot_md {S : Type} (A : HashMD.Alg S) (hbs : 0 < A.blockSize) (content : Bytes) :
    HashMD.hashBytes A content = A.finish (HashMD.absorbAll A.blockSize A.compress A.iv content).1
        (HashMD.absorbAll A.blockSize A.compress A.iv content).2 content.length
    ∧ (HashMD.absorbAll A.blockSize A.compress A.iv content).2.length = content.length % A.blockSize :=
  ⟨HashMD.hashBytes_eq A content, HashMD.absorbAll_pending A.blockSize hbs A.compress A.iv content⟩

/-- the modelled algorithms print lower-case hex: the code's `.lower()` changes nothing -/
theorem C16_lower_noop (b : Bytes) : Str.lowerAscii (HashMD.hexOfBytes b) = HashMD.hexOfBytes b := by
  induction b with
  | nil => rfl
  | cons x rest ih =>
    have h1 := lowerAscii_hexDigit (x.toNat / 16)
    have h2 := lowerAscii_hexDigit (x.toNat % 16)
    simp only [Str.lowerAscii, List.map_cons, List.map_nil, List.cons.injEq, and_true] at h1 h2 ih ⊢
    simp only [HashMD.hexOfBytes, List.map_cons, h1, h2, ih]

/-- what the six executable instances have in common beyond the shape; `lower_digest`: the code's `.lower()` is the identity on
a digest printed in lower-case hex -/
structure PlainHex {S : Type} (A : HashMD.Alg S) : Prop where
  blockSize_pos : 0 < A.blockSize
  lower_digest : ∀ st, Str.lowerAscii (HashMD.digest A st) = HashMD.digest A st

theorem mdAlg_plain {S : Type} (bs lb : Nat) (be : Bool) (iv : S) (f : S → Bytes → S) (bytes : S → Bytes) (hbs : 0 < bs) :
    PlainHex (HashMD.mdAlg bs lb be iv f fun s => HashMD.hexOfBytes (bytes s)) :=
  ⟨hbs, fun _ => C16_lower_noop _⟩

theorem md5_plain : PlainHex HashMD.md5 := mdAlg_plain _ _ _ _ _ _ (by decide)
theorem sha1_plain : PlainHex HashMD.sha1 := mdAlg_plain _ _ _ _ _ _ (by decide)
theorem sha224_plain : PlainHex HashMD.sha224 := mdAlg_plain _ _ _ _ _ _ (by decide)
theorem sha256_plain : PlainHex HashMD.sha256 := mdAlg_plain _ _ _ _ _ _ (by decide)
theorem sha384_plain : PlainHex HashMD.sha384 := mdAlg_plain _ _ _ _ _ _ (by decide)
theorem sha512_plain : PlainHex HashMD.sha512 := mdAlg_plain _ _ _ _ _ _ (by decide)

theorem chunkedMD_plain {S : Type} {A : HashMD.Alg S} (hA : PlainHex A) (n : Nat) (hn : 0 < n) (content : Bytes) :
    chunkedMD A n content = HashMD.hashBytes A content :=
  (C16_chunked_md A hA.blockSize_pos n hn content).trans (hA.lower_digest _)

/-- md5 (RFC 1321, executable, compared with hashlib on every run): chunk loop of any chunk size = one-shot md5 -/
theorem C16_chunked_md5 (n : Nat) (hn : 0 < n) (content : Bytes) :
    chunkedMD HashMD.md5 n content = HashMD.hashBytes HashMD.md5 content := chunkedMD_plain md5_plain n hn content

theorem C16_chunked_sha1 (n : Nat) (hn : 0 < n) (content : Bytes) :
    chunkedMD HashMD.sha1 n content = HashMD.hashBytes HashMD.sha1 content := chunkedMD_plain sha1_plain n hn content

theorem C16_chunked_sha256 (n : Nat) (hn : 0 < n) (content : Bytes) :
    chunkedMD HashMD.sha256 n content = HashMD.hashBytes HashMD.sha256 content := chunkedMD_plain sha256_plain n hn content

theorem C16_chunked_sha224 (n : Nat) (hn : 0 < n) (content : Bytes) :
    chunkedMD HashMD.sha224 n content = HashMD.hashBytes HashMD.sha224 content := chunkedMD_plain sha224_plain n hn content

theorem C16_chunked_sha384 (n : Nat) (hn : 0 < n) (content : Bytes) :
    chunkedMD HashMD.sha384 n content = HashMD.hashBytes HashMD.sha384 content := chunkedMD_plain sha384_plain n hn content

theorem C16_chunked_sha512 (n : Nat) (hn : 0 < n) (content : Bytes) :
    chunkedMD HashMD.sha512 n content = HashMD.hashBytes HashMD.sha512 content := chunkedMD_plain sha512_plain n hn content

theorem withAlg_congr {α : Type} (name : Str) (k k' : {S : Type} → HashMD.Alg S → α)
    (h : ∀ {S : Type} (A : HashMD.Alg S), PlainHex A → k A = k' A) : withAlg name k = withAlg name k' := by
  unfold withAlg
  simp only [h _ md5_plain, h _ sha1_plain, h _ sha224_plain, h _ sha256_plain, h _ sha384_plain, h _ sha512_plain]

/-- by NAME, as `compute_checksum(path, name)` is called: for every modelled name (any letter case) the code's
loop with the code's chunk size returns that algorithm's one-shot digest of the whole content -/
theorem computeByName_eq (name : Str) (content : Bytes) :
    computeByName name content = withAlg name (fun A => HashMD.hashBytes A content) :=
  withAlg_congr name (fun A => computeMD A content) _ fun A hA =>
    (C16_compute_md A hA.blockSize_pos content).trans (hA.lower_digest _)

theorem C16_compute_by_name (name : Str) (content : Bytes) (d : Str) (h : computeByName name content = some d) :
    withAlg name (fun A => HashMD.hashBytes A content) = some d :=
  computeByName_eq name content ▸ h

/-- `C16_add_computes` with the hash MODELLED (`A`: the block-buffered hash that `hashlib.new(type)` denotes) – no law hypotheses -/
theorem C16_add_computes_md {S : Type} (A : HashMD.Alg S) (hbs : 0 < A.blockSize)
    (files : Str → Option Bytes) (tbl : Table) (rel ct root : Str)
    (hrel : Str.startsWith rel ['/'] = false)
    (hok : (add (fun p _ => match files p with
                   | some c => .ok (computeMD A c)
                   | none => .error .other) tbl rel ct none (some root)).2 = .ok ()) :
    ∃ content, files (pathJoin root (normpath rel)) = some content
      ∧ (add (fun p _ => match files p with
                   | some c => .ok (computeMD A c)
                   | none => .error .other) tbl rel ct none (some root)).1
          = tbl.set (normpath rel) (ct, Str.lowerAscii (HashMD.hashBytes A content)) := by
  obtain ⟨content, hf, hd⟩ := add_from_files (computeMD A) files tbl rel ct root hrel hok
  exact ⟨content, hf, by rw [hd, C16_compute_md A hbs content]⟩

/-- …and by NAME: `add(path, "sha256")` (any modelled name, any letter case) records THAT algorithm's one-shot digest -/
theorem C16_add_computes_by_name (files : Str → Option Bytes) (tbl : Table) (rel ct root : Str)
    (hrel : Str.startsWith rel ['/'] = false)
    (hok : (add (digestByName files) tbl rel ct none (some root)).2 = .ok ()) :
    ∃ content d, files (pathJoin root (normpath rel)) = some content
      ∧ withAlg ct (fun A => HashMD.hashBytes A content) = some d
      ∧ (add (digestByName files) tbl rel ct none (some root)).1 = tbl.set (normpath rel) (ct, d) := by
  obtain ⟨d, hdig, hd⟩ := add_no_value _ tbl rel ct root hrel hok
  unfold digestByName at hdig
  cases hf : files (pathJoin root (normpath rel)) with
  | none => simp [hf] at hdig
  | some content =>
    simp only [hf] at hdig
    cases hc : computeByName ct content with
    | none => simp [hc] at hdig
    | some d' =>
      simp only [hc, Except.ok.injEq] at hdig
      subst hdig
      exact ⟨content, d', rfl, C16_compute_by_name ct content d' hc, hd⟩

/-- the Merkle–Damgård finaliser is well formed for EVERY pending buffer and length: pending ++ 0x80 ++ zeros ++ length
is a whole number of blocks – the smallest that fits –, starts with the pending bytes, and is compressed completely
(nothing is left over), whatever the compression function -/
theorem C16_md_padding (bs lb : Nat) (hbs : 0 < bs) (be : Bool) (pending : Bytes) (total : Nat) :
    (HashMD.mdPad bs lb be pending total).length % bs = 0
    ∧ pending.length + 1 + lb ≤ (HashMD.mdPad bs lb be pending total).length
    ∧ (HashMD.mdPad bs lb be pending total).length < pending.length + 1 + lb + bs
    ∧ pending ++ [0x80] <+: HashMD.mdPad bs lb be pending total
    ∧ (∀ {S : Type} (f : S → Bytes → S) (cv : S), (HashMD.absorbAll bs f cv (HashMD.mdPad bs lb be pending total)).2 = []) :=
  ⟨(HashMD.mdPad_blocks bs lb hbs be pending total).1, (HashMD.mdPad_blocks bs lb hbs be pending total).2.1,
   (HashMD.mdPad_blocks bs lb hbs be pending total).2.2, HashMD.mdPad_prefix bs lb be pending total,
   fun f cv => HashMD.absorbAll_mdPad_consumed bs lb hbs be f cv pending total⟩

/-- closed facts about the executable hash instances, evaluated in one declaration (DESIGN.md §3, closed facts) -/
structure C16HashFacts : Prop where
  vectors :
    HashMD.hashBytes HashMD.md5 [] = "d41d8cd98f00b204e9800998ecf8427e".toList
    ∧ HashMD.hashBytes HashMD.md5 [0x61, 0x62, 0x63] = "900150983cd24fb0d6963f7d28e17f72".toList
    ∧ HashMD.hashBytes HashMD.sha1 [] = "da39a3ee5e6b4b0d3255bfef95601890afd80709".toList
    ∧ HashMD.hashBytes HashMD.sha1 [0x61, 0x62, 0x63] = "a9993e364706816aba3e25717850c26c9cd0d89d".toList
    ∧ HashMD.hashBytes HashMD.sha256 [] = "e3b0c44298fc1c149afbf4c8996fb92427ae41e4649b934ca495991b7852b855".toList
    ∧ HashMD.hashBytes HashMD.sha256 [0x61, 0x62, 0x63]
        = "ba7816bf8f01cfea414140de5dae2223b00361a396177a9cb410ff61f20015ad".toList
    ∧ HashMD.hashBytes HashMD.sha224 [0x61, 0x62, 0x63] = "23097d223405d8228642a477bda255b32aadbce4bda0b3f7e36c9da7".toList
    ∧ HashMD.hashBytes HashMD.sha384 [0x61, 0x62, 0x63]
        = "cb00753f45a35e8bb5a03d699ac65007272c32ab0eded1631a8b605a43ff5bed8086072ba1e7cc2358baeca134c825a7".toList
    ∧ HashMD.hashBytes HashMD.sha512 [0x61, 0x62, 0x63]
        = "ddaf35a193617abacc417349ae20413112e6fa4e89a97ea20a9eeee64b55d39a2192992a274fc1a836ba3c23a3feebbd454d4423643ce80e2a9ac94fa54ca49f".toList
  not_modelled : computeByName "sha3_256".toList [] = none
  add_md5 :
    (add (digestByName fun p => if p = "R/a/Z.img".toList then some [0x61, 0x62, 0x63] else none) [] "./a//x/../Z.img".toList
      "md5".toList none (some "R".toList)).1 = [("a/Z.img".toList, ("md5".toList, "900150983cd24fb0d6963f7d28e17f72".toList))]
  padding :
    (HashMD.mdPad 64 8 true (List.replicate 55 0) 55).length = 64
    ∧ (HashMD.mdPad 64 8 true (List.replicate 56 0) 56).length = 128
    ∧ (HashMD.mdPad 128 16 true (List.replicate 111 0) 111).length = 128
    ∧ (HashMD.mdPad 128 16 true (List.replicate 112 0) 112).length = 256

theorem computeByName_sha256 (content : Bytes) (d : Str) (h : HashMD.hashBytes HashMD.sha256 content = d) :
    computeByName "SHA256".toList content = some d := by
  have hname : Str.lowerAscii "SHA256".toList = ['s', 'h', 'a', '2', '5', '6'] := by decide
  rw [computeByName_eq, withAlg, hname]
  exact congrArg some h

theorem c16_hash_facts : C16HashFacts := by
  suffices h : _ ∧ _ ∧ _ ∧ _ from ⟨h.1, h.2.1, h.2.2.1, h.2.2.2⟩
  decide +kernel

/-- test vectors checked by the kernel (RFC 1321 A.5, FIPS 180-4 examples): the empty string and "abc" -/
theorem C16_test_vectors :
    HashMD.hashBytes HashMD.md5 [] = "d41d8cd98f00b204e9800998ecf8427e".toList
    ∧ HashMD.hashBytes HashMD.md5 [0x61, 0x62, 0x63] = "900150983cd24fb0d6963f7d28e17f72".toList
    ∧ HashMD.hashBytes HashMD.sha1 [] = "da39a3ee5e6b4b0d3255bfef95601890afd80709".toList
    ∧ HashMD.hashBytes HashMD.sha1 [0x61, 0x62, 0x63] = "a9993e364706816aba3e25717850c26c9cd0d89d".toList
    ∧ HashMD.hashBytes HashMD.sha256 [] = "e3b0c44298fc1c149afbf4c8996fb92427ae41e4649b934ca495991b7852b855".toList
    ∧ HashMD.hashBytes HashMD.sha256 [0x61, 0x62, 0x63]
        = "ba7816bf8f01cfea414140de5dae2223b00361a396177a9cb410ff61f20015ad".toList
    ∧ HashMD.hashBytes HashMD.sha224 [0x61, 0x62, 0x63] = "23097d223405d8228642a477bda255b32aadbce4bda0b3f7e36c9da7".toList
    ∧ HashMD.hashBytes HashMD.sha384 [0x61, 0x62, 0x63]
        = "cb00753f45a35e8bb5a03d699ac65007272c32ab0eded1631a8b605a43ff5bed8086072ba1e7cc2358baeca134c825a7".toList
    ∧ HashMD.hashBytes HashMD.sha512 [0x61, 0x62, 0x63]
        = "ddaf35a193617abacc417349ae20413112e6fa4e89a97ea20a9eeee64b55d39a2192992a274fc1a836ba3c23a3feebbd454d4423643ce80e2a9ac94fa54ca49f".toList := c16_hash_facts.vectors

/-- value of the last entry for `p` (what a dict built by successive assignments holds) -/
def lastVal : List (Str × Str) → Str → Option Str
  | [], _ => none
  | (k, v) :: rest, p => match lastVal rest p with
    | some w => some w
    | none => if k = p then some v else none

theorem entryOf_eq_typed (hE : Gen.legacyElseRaises = true) (prev : Option (Str × Str)) (v : Str) :
    entryOf prev v = typed v := by
  unfold entryOf typed typedBare
  by_cases hc : v.contains ':' = true
  · simp only [hc, if_true]
  · by_cases hb : bareRefused v = true
    · simp only [hc, hb, if_true, Bool.false_eq_true, if_false]
    · simp only [hc, hb, Bool.false_eq_true, if_false]
      cases chainBare v <;> simp [hE]

theorem deserLoop_pointwise (hE : Gen.legacyElseRaises = true) :
    ∀ (sec : List (Str × Str)) (prev : Option (Str × Str)) (tbl cs : Table),
      deserLoop false sec prev tbl = .ok cs →
      ∀ p, cs.get? p = match lastVal sec p with
        | some v => (typed v).toOption
        | none => tbl.get? p := by
  intro sec
  induction sec with
  | nil => intro prev tbl cs h p; simp [deserLoop] at h; subst h; simp [lastVal]
  | cons e rest ih =>
    intro prev tbl cs h p
    obtain ⟨k, v⟩ := e
    simp only [deserLoop, entryOf_eq_typed hE] at h
    cases ht : typed v with
    | error e => simp [ht] at h
    | ok tv =>
      simp only [ht] at h
      have := ih _ _ _ h p
      rw [this]
      simp only [lastVal]
      cases hl : lastVal rest p with
      | some w => rfl
      | none =>
        simp only [Table.get?_set, fixPath, Bool.false_eq_true, false_and, if_false]
        by_cases hk : k = p <;> simp [hk, ht, Except.toOption]

theorem deserLoop_of_deserialize {lg : Bool} {sec : List (Str × Str)} {cs : Table} (h : deserialize lg sec = .ok cs) :
    deserLoop lg sec none [] = .ok cs := by
  unfold deserialize at h
  cases hl : deserLoop lg sec none [] with
  | error e => simp [hl] at h
  | ok t =>
    cases hv : validatePaths t with
    | error e => simp [hl, hv] at h
    | ok u => simpa [hl, hv] using h

/-- **Pointwise reading** (F3 is repaired in /repo; `decide`s that the legacy chain ends in `else: raise`).
If a current-format `[checksums]` section loads, then every path maps to `typed` of ITS OWN raw value –
`typed` looks at that one value only: `type:value` split at the colon, or a bare digest typed by its length.
No path carries a checksum written for another. -/
theorem C16_pointwise (sec : List (Str × Str)) (cs : Table) (h : deserialize false sec = .ok cs) :
    ∀ p, cs.get? p = (lastVal sec p).bind (fun v => (typed v).toOption) := by
  intro p
  rw [deserLoop_pointwise (by decide) sec none [] cs (deserLoop_of_deserialize h) p]
  cases lastVal sec p <;> simp [Table.get?]

theorem deserLoop_all_typed (lg : Bool) : ∀ (sec : List (Str × Str)) (prev : Option (Str × Str)) (tbl t : Table),
    deserLoop lg sec prev tbl = .ok t → ∀ e ∈ sec, ∃ tv, typed e.2 = .ok tv := by
  have hE : Gen.legacyElseRaises = true := by decide
  intro sec
  induction sec with
  | nil => intro _ _ _ _ e he; simp at he
  | cons x rest ih =>
    intro prev tbl t h e he
    obtain ⟨k, v⟩ := x
    simp only [deserLoop, entryOf_eq_typed hE] at h
    cases ht : typed v with
    | error e' => simp [ht] at h
    | ok tv =>
      simp only [ht] at h
      simp only [List.mem_cons] at he
      rcases he with he | he
      · subst he; exact ⟨tv, ht⟩
      · exact ih _ _ _ h e he

/-- …and every entry of a section that loads is individually well-formed: in a current file -/
theorem C16_all_typed (sec : List (Str × Str)) (cs : Table) (h : deserialize false sec = .ok cs) :
    ∀ e ∈ sec, ∃ tv, typed e.2 = .ok tv :=
  deserLoop_all_typed false sec none [] cs (deserLoop_of_deserialize h)

/-- …and in a header-less one -/
theorem C16_all_typed_legacy (sec : List (Str × Str)) (cs : Table) (h : deserialize true sec = .ok cs) :
    ∀ e ∈ sec, ∃ tv, typed e.2 = .ok tv :=
  deserLoop_all_typed true sec none [] cs (deserLoop_of_deserialize h)

/-- header-less (pre-productmd) files: `_fix_path` only rewrites ABSOLUTE keys, so a section whose keys are all
relative is read exactly like a current one – the pointwise statement carries over -/
theorem C16_pointwise_legacy (sec : List (Str × Str)) (cs : Table)
    (hrel : ∀ e ∈ sec, Str.startsWith e.1 ['/'] = false) (h : deserialize true sec = .ok cs) :
    ∀ p, cs.get? p = (lastVal sec p).bind (fun v => (typed v).toOption) := by
  have key : ∀ (sec : List (Str × Str)) (prev : Option (Str × Str)) (tbl : Table),
      (∀ e ∈ sec, Str.startsWith e.1 ['/'] = false) → deserLoop true sec prev tbl = deserLoop false sec prev tbl := by
    intro sec
    induction sec with
    | nil => intro _ _ _; rfl
    | cons x rest ih =>
      intro prev tbl hr
      obtain ⟨k, v⟩ := x
      have hk : Str.startsWith k ['/'] = false := hr (k, v) (by simp)
      simp only [deserLoop, fixPath, hk, Bool.false_eq_true, and_false, if_false]
      cases entryOf prev v with
      | error e => rfl
      | ok tv => exact ih _ _ (fun e he => hr e (by simp [he]))
  have : deserialize false sec = .ok cs := by
    unfold deserialize at h ⊢
    rw [← key sec none [] hrel]
    exact h
  exact C16_pointwise sec cs this

/-- the 22 hexadecimal digits (`string.hexdigits`) -/
def hexDigits : Str := "0123456789abcdefABCDEF".toList

/-- made of hexadecimal digits only (the empty string included) -/
def isHex (v : Str) : Bool := v.all fun c => hexDigits.contains c

theorem isHex_iff (v : Str) : isHex v = true ↔ ∀ c ∈ v, c ∈ hexDigits := by
  simp [isHex, List.all_eq_true]

/-- the legacy typing is the documented one: hex digits only (the guard is there and its digit table is
`string.hexdigits`), 32/40/64 characters are md5/sha1/sha256, nothing else is accepted -/
theorem C16_legacy_table :
    Gen.legacyDigestTypes = [(32, "md5".toList), (40, "sha1".toList), (64, "sha256".toList)]
    ∧ Gen.legacyElseRaises = true
    ∧ Gen.legacyHexGuard = true ∧ Gen.legacyHexDigits = hexDigits := by decide +kernel

theorem bareRefused_eq (v : Str) : bareRefused v = !isHex v := by
  simp only [bareRefused, C16_legacy_table.2.2.1, C16_legacy_table.2.2.2, Bool.true_and, isHex]

theorem C16_typed_bare (v : Str) (hc : v.contains ':' = false) :
    typed v = if isHex v = false then .error .valueError
              else if v.length = 32 then .ok ("md5".toList, v)
              else if v.length = 40 then .ok ("sha1".toList, v)
              else if v.length = 64 then .ok ("sha256".toList, v)
              else .error .valueError := by
  simp only [typed, hc, Bool.false_eq_true, if_false, typedBare, bareRefused_eq]
  cases hx : isHex v with
  | false => simp
  | true =>
    simp only [Bool.not_true, Bool.false_eq_true, if_false, chainBare, C16_legacy_table.1, List.find?]
    by_cases h1 : v.length = 32
    · simp [h1]
    · by_cases h2 : v.length = 40
      · simp [h2]
      · by_cases h3 : v.length = 64
        · simp [h3]
        · have e : ∀ n : Nat, ¬ v.length = n → (n == v.length) = false := fun n h => beq_false_of_ne (Ne.symm h)
          simp [h1, h2, h3, e _ h1, e _ h2, e _ h3]

/-- **every bare value containing a character that is not a hex digit is refused, whatever its length** (F36 is repaired in /repo;
`decide`s that the guard is in the source with `string.hexdigits` as its table) – and a section holding such an entry,
in a current or a header-less file, does not load -/
theorem C16_bare_nonhex_refused (v : Str) (hc : v.contains ':' = false) (c : Char) (hcv : c ∈ v) (hch : c ∉ hexDigits) :
    typed v = .error .valueError
    ∧ (∀ (legacy : Bool) (sec : List (Str × Str)) (p : Str) (cs : Table), (p, v) ∈ sec → deserialize legacy sec ≠ .ok cs) := by
  have hx : isHex v = false := by
    cases h : isHex v with
    | false => rfl
    | true => exact absurd ((isHex_iff v).mp h c hcv) hch
  have ht : typed v = .error .valueError := by rw [C16_typed_bare v hc]; simp [hx]
  refine ⟨ht, ?_⟩
  intro legacy sec p cs hmem hok
  obtain ⟨tv, htv⟩ := deserLoop_all_typed legacy sec none [] cs (deserLoop_of_deserialize hok) (p, v) hmem
  rw [ht] at htv
  cases htv

/-- **the property's sentence at full strength**: a bare value (no colon) is accepted IFF it consists of 32, 40 or 64
hexadecimal digits, and then it is typed md5, sha1, sha256 respectively with the value kept verbatim -/
theorem C16_bare_typed_iff (v : Str) (hc : v.contains ':' = false) (tv : Str × Str) :
    typed v = .ok tv ↔ (∀ c ∈ v, c ∈ hexDigits)
      ∧ ((v.length = 32 ∧ tv = ("md5".toList, v)) ∨ (v.length = 40 ∧ tv = ("sha1".toList, v))
         ∨ (v.length = 64 ∧ tv = ("sha256".toList, v))) := by
  rw [C16_typed_bare v hc, ← isHex_iff]
  cases hx : isHex v with
  | false => simp
  | true =>
    by_cases h1 : v.length = 32
    · simp [h1, eq_comm]
    · by_cases h2 : v.length = 40
      · simp [h2, eq_comm]
      · by_cases h3 : v.length = 64
        · simp [h3, eq_comm]
        · simp [h1, h2, h3]

/-- a value made of hex digits only is bare: the hypothesis "no colon" of the two theorems above is implied -/
theorem C16_hex_is_bare (v : Str) (h : isHex v = true) : v.contains ':' = false := by
  cases hc : v.contains ':' with
  | false => rfl
  | true =>
    have hm : ':' ∈ v := by simpa using hc
    have := (isHex_iff v).mp h ':' hm
    exact absurd this (by decide +kernel)

attribute [local instance] decEqExcept

/-- the input of F3: a bare value of unrecognised length (33) after a typed entry.  It is refused; the loop without the final
`else: raise` loaded it with the previous entry's type and value. -/
theorem C16_unrecognised_length_refused :
    deserialize false [("a".toList, "sha256:00".toList), ("b".toList, List.replicate 33 'f')] = .error .valueError := by
  decide +kernel

theorem deserLoop_serialized : ∀ (tbl acc : Table) (prev : Option (Str × Str)),
    (∀ e ∈ tbl, ':' ∉ e.2.1 ∧ ':' ∉ e.2.2) → (tbl.map (·.1)).Nodup → (∀ e ∈ tbl, e.1 ∉ acc.map (·.1)) →
    deserLoop false (tbl.map fun e => (e.1, e.2.1 ++ ':' :: e.2.2)) prev acc = .ok (acc ++ tbl) := by
  intro tbl
  induction tbl with
  | nil => intro acc prev _ _ _; simp [deserLoop]
  | cons e rest ih =>
    intro acc prev hc hnd hdis
    obtain ⟨k, t, v⟩ := e
    have hcol := hc (k, t, v) (by simp)
    have hcont : (t ++ ':' :: v).contains ':' = true := by simp
    simp only [List.map_cons, deserLoop, entryOf, hcont, if_true, splitTyped_join t v hcol.1 hcol.2, fixPath,
      Bool.false_eq_true, false_and, if_false]
    have hk : k ∉ acc.map (·.1) := hdis (k, t, v) (by simp)
    rw [Table.set_of_not_mem acc k (t, v) hk]
    simp only [List.map_cons, List.nodup_cons] at hnd
    rw [ih (acc ++ [(k, (t, v))]) (some (t, v)) (fun e he => hc e (by simp [he])) hnd.2 ?_]
    · simp
    · intro e he
      simp only [List.map_append, List.map_cons, List.map_nil, List.mem_append, List.mem_cons, List.not_mem_nil, or_false, not_or]
      refine ⟨hdis e (by simp [he]), ?_⟩
      intro hek
      exact hnd.1 (by rw [← hek]; exact List.mem_map_of_mem (f := (·.1)) he)

/-- **Round trip.**  A table with distinct relative paths whose types and values contain no `:` is written and read
back as exactly itself: every path maps to its own (type, value). -/
theorem C16_roundtrip (tbl : Table) (hrel : validatePaths tbl = .ok ())
    (hnd : (tbl.map (·.1)).Nodup) (hc : ∀ e ∈ tbl, ':' ∉ e.2.1 ∧ ':' ∉ e.2.2) :
    (serialize tbl).bind (fun sec => deserialize false sec) = .ok tbl := by
  simp only [serialize, hrel, Except.bind]
  unfold deserialize
  rw [deserLoop_serialized tbl [] none hc hnd (by simp)]
  simp [hrel]

theorem splitTyped_two_colons (t v : Str) (h : ':' ∈ t ∨ ':' ∈ v) : splitTyped (t ++ ':' :: v) = .error .valueError := by
  have hlen : 3 ≤ (Str.splitOn ':' (t ++ ':' :: v)).length := by
    rw [C14.splitOn_length, C14.count_append, C14.count_cons_self]
    have : Str.count ':' t ≠ 0 ∨ Str.count ':' v ≠ 0 :=
      h.imp (fun h h0 => C14.count_eq_zero.mp h0 h) (fun h h0 => C14.count_eq_zero.mp h0 h)
    omega
  unfold splitTyped
  split
  · rename_i a b heq; rw [heq] at hlen; simp at hlen
  · rfl

/-- a table in which some type or value contains `:` cannot be read back – and it is REFUSED (ValueError), never read
back as something else -/
theorem C16_roundtrip_refuses (tbl : Table) (hrel : validatePaths tbl = .ok ())
    (hc : ∃ e ∈ tbl, ':' ∈ e.2.1 ∨ ':' ∈ e.2.2) :
    (serialize tbl).bind (fun sec => deserialize false sec) = .error .valueError := by
  simp only [serialize, hrel, Except.bind]
  have key : ∀ (tbl : Table) (prev : Option (Str × Str)) (acc : Table), (∃ e ∈ tbl, ':' ∈ e.2.1 ∨ ':' ∈ e.2.2) →
      deserLoop false (tbl.map fun e => (e.1, e.2.1 ++ ':' :: e.2.2)) prev acc = .error .valueError := by
    intro tbl
    induction tbl with
    | nil => intro _ _ h; obtain ⟨e, he, _⟩ := h; simp at he
    | cons x rest ih =>
      intro prev acc h
      obtain ⟨k, t, v⟩ := x
      have hcont : (t ++ ':' :: v).contains ':' = true := by simp
      simp only [List.map_cons, deserLoop, entryOf, hcont, if_true]
      by_cases hx : ':' ∈ t ∨ ':' ∈ v
      · simp [splitTyped_two_colons t v hx]
      · have hx' : ':' ∉ t ∧ ':' ∉ v := by simpa [not_or] using hx
        simp only [splitTyped_join t v hx'.1 hx'.2]
        apply ih
        obtain ⟨e, he, hbad⟩ := h
        simp only [List.mem_cons] at he
        rcases he with he | he
        · subst he; exact absurd hbad hx
        · exact ⟨e, he, hbad⟩
  unfold deserialize
  rw [key tbl none [] hc]

theorem C16_image_step (tbl : ImgSums) (t : Str) (v : Option Str) (t0 : Str) (v0 : Option Str)
    (h : tbl.lookup t0 = some v0) : (addChecksum tbl t v).1.lookup t0 = some v0 := by
  unfold addChecksum
  cases hl : tbl.lookup t with
  | some old => simp only; split <;> exact h
  | none => simp only [List.lookup_append, h, Option.some_or]

/-- over ANY sequence of `add_checksum` calls (equal, different, empty or `None` values, refused or not) a recorded
(type, value) pair – an empty one included – stays what it was -/
theorem C16_image_monotone (ops : List (Str × Option Str)) (tbl : ImgSums) (t0 : Str) (v0 : Option Str)
    (h : tbl.lookup t0 = some v0) : (addChecksums tbl ops).lookup t0 = some v0 := by
  induction ops generalizing tbl with
  | nil => exact h
  | cons op rest ih =>
    simp only [addChecksums, List.foldl_cons]
    exact ih _ (C16_image_step tbl op.1 op.2 t0 v0 h)

/-- a different non-empty value for a recorded type is refused loudly, the same or an empty one returns the recorded -/
theorem C16_image_conflict (tbl : ImgSums) (t : Str) (v old : Option Str) (h : tbl.lookup t = some old) :
    addChecksum tbl t v = if valTruthy v = true ∧ v ≠ old then (tbl, .error .valueError) else (tbl, .ok old) := by
  simp only [addChecksum, h]

example : normpath "./x//y/../Z.img".toList = "x/Z.img".toList := by decide +kernel
example : normpath "x/../..".toList = "..".toList := by decide +kernel
example : Str.startsWith (normpath "a/./b".toList) ['/'] = false := by decide +kernel
example : deserialize false [("a".toList, "sha256:00".toList), ("b".toList, List.replicate 32 'f')]
    = .ok [("a".toList, ("sha256".toList, "00".toList)), ("b".toList, ("md5".toList, List.replicate 32 'f'))] := by decide +kernel
/-- F36: a bare value of a digest's length that is not hex is refused – 32 `z`, 32 full-width sevens, 64 `g`, hex with a line feed
inside (an INI continuation line), hex of an unrecognised length; upper- and mixed-case hex digits are hex digits -/
example : typed (List.replicate 32 'z') = .error .valueError ∧ typed (List.replicate 32 '７') = .error .valueError
    ∧ typed (List.replicate 64 'g') = .error .valueError
    ∧ typed (List.replicate 16 'a' ++ '\n' :: List.replicate 15 'b') = .error .valueError
    ∧ typed (List.replicate 33 'f') = .error .valueError
    ∧ typed (List.replicate 20 'A' ++ List.replicate 20 'b') = .ok ("sha1".toList, List.replicate 20 'A' ++ List.replicate 20 'b') := by decide +kernel
example : (addChecksums [] [("md5".toList, some "a".toList), ("md5".toList, some "b".toList), ("md5".toList, none)]).lookup "md5".toList
    = some (some "a".toList) := by decide +kernel
example : readTrace true 4 9 = [4, 4, 1, 0] := by decide +kernel
/-- the chunk loop over a real algorithm, 150 bytes (two md5 blocks and a rest) read 7 at a time: an instance of the theorem, nothing is run -/
example : chunkedMD HashMD.md5 7 (List.replicate 150 0x61) = HashMD.hashBytes HashMD.md5 (List.replicate 150 0x61) :=
  C16_chunked_md5 7 (by decide) _
/-- the name is lower-cased before the lookup; the digest is the sixth of the test vectors -/
example : computeByName "SHA256".toList [0x61, 0x62, 0x63]
    = some "ba7816bf8f01cfea414140de5dae2223b00361a396177a9cb410ff61f20015ad".toList :=
  computeByName_sha256 _ _ C16_test_vectors.2.2.2.2.2.1
example : computeByName "sha3_256".toList [] = none := c16_hash_facts.not_modelled
example : (add (digestByName fun p => if p = "R/a/Z.img".toList then some [0x61, 0x62, 0x63] else none) [] "./a//x/../Z.img".toList
    "md5".toList none (some "R".toList)).1 = [("a/Z.img".toList, ("md5".toList, "900150983cd24fb0d6963f7d28e17f72".toList))] :=
  c16_hash_facts.add_md5
/-- the one hypothesis of `C16_chunked_md` on the algorithm, a positive block size, at a record with sha3-256's rate 136 (the record
models nothing of sha3: a dummy state and dummy functions) -/
example : 0 < (⟨136, (), fun _ _ => (), fun _ _ _ => []⟩ : HashMD.Alg Unit).blockSize := by decide
/-- padding: 55 bytes still fit one block with the length, 56 need a second block -/
example : (HashMD.mdPad 64 8 true (List.replicate 55 0) 55).length = 64
    ∧ (HashMD.mdPad 64 8 true (List.replicate 56 0) 56).length = 128
    ∧ (HashMD.mdPad 128 16 true (List.replicate 111 0) 111).length = 128
    ∧ (HashMD.mdPad 128 16 true (List.replicate 112 0) 112).length = 256 := c16_hash_facts.padding
/-- keys are exact spellings: `SHA256` and `sha256` are two independent types (what the code does; `C16_image_monotone`
is about the exact key), and a second value under the SAME spelling is refused -/
example : addChecksums [] [("sha256".toList, some "a".toList), ("SHA256".toList, some "b".toList)]
    = [("sha256".toList, some "a".toList), ("SHA256".toList, some "b".toList)] := by decide +kernel
example : (addChecksum [("SHA256".toList, some "a".toList)] "SHA256".toList (some "b".toList)).2 = .error .valueError := by decide +kernel

end PM
