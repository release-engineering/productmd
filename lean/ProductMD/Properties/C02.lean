import ProductMD.Proofs.ImagesCanon
/-!
# C02 — image manifests survive a write/read cycle unchanged

Model (`Model/Images.lean`): `serialize` (iteration over variants / arches / set members, `setdefault`, per-cell
stable sort by path after each append, `Image.serialize` validating first and writing `unified` /
`additional_variants` only when unified), `deserialize` (header, compose, `Image.deserialize` with its `int()` /
`bool()` coercions and defaults, every image through the model of `Images.add` that runs the statement list of the
source), validators / version gates / header type / current version from `Gen.*`.

A manifest has any number of variants, arches, images per cell and any number of filings of the same object; the
statement is about the multiset of (variant, arch, 15-attribute record) filings.  The theorems up to `C02_fixpoint` are
about the document (`PyVal`) that `json.dump` receives, `C02_bytes` about its text with the parser a parameter;
`C02_bytes_parsed` at the end goes through the byte rendering of that document (`JsonText.dumps`, compared with the real
`dumps()` on every generated case) and the modelled parser (`JsonParse.parseWith`, compared with the real `loads` by
`harness/json_diff.py`).
-/
namespace PM
open PM.Img PM.PyOps PM.Spec

/-- `Images.validate()` has no rule to run (generated inventory) -/
theorem C02_images_no_validators : validateClass "images.Images" [] = .ok () := images_no_validators

/-- **`ProperInts` follows from validation** (F22).  `_assert_type` accepts a bool only where `bool` is listed
(`Gen.assertTypeBoolStrict`, translated from the method's body), so the four integer attributes of an image that passes
its validators hold ints proper, never bools -/
theorem C02_valid_ints_proper (i : Image) (hv : i.validate = .ok ()) : ProperInts i := valid_properInts i hv

/-- a valid image is read back from its dictionary with all fifteen attributes unchanged -/
theorem C02_image_roundtrip (i : Image) (hv : i.validate = .ok ()) :
    Image.deserialize (.str currentVersion) i.dict = .ok i := image_roundtrip i hv

/-- the compose section comes back in normal form (`composeNorm`: without a label, `final` is the default `False`) -/
theorem C02_compose_roundtrip (c : Compose) (rest d : PyVal) (h : c.serialize = .ok d) :
    Compose.deserialize (.str currentVersion) (.dict [(L "images", rest), (L "compose", d)]) = .ok (composeNorm c) :=
  compose_roundtrip c rest d h

/-- the normal form of a valid compose section is the section itself whenever a label is set or `final` has its default -/
theorem C02_compose_norm_id (c : Compose) (h : c.validate = .ok ()) :
    composeNorm c = (if c.label.truthy then c else { c with final := .bool false }) := (composeNorm_of_valid c h).1

/--
**C02_readback (partial: hypothesis `Uniq`).**  For every manifest whose compose section and images
validate, whose cells are keyed by admissible arches and which satisfies identity uniqueness: writing succeeds,
reading the written document succeeds, and the manifest read holds exactly the same multiset of (variant, arch,
record) filings — nothing gained, nothing lost, all fifteen attributes of every record equal, an object filed in k
cells comes back as k equal records — with the compose section in normal form and the current format version.

Full statement without `Uniq` is false of the code (F11, `C02_F11_witness`).  `ProperInts` (F22) is no hypothesis: it
follows from `validate = ok` (`C02_valid_ints_proper`).
-/
theorem C02_readback_partial (m : ImgState)
    (hc : m.compose.validate = .ok ())
    (hval : ∀ i ∈ m.cells.all, i.validate = .ok ())
    (ha : ∀ t ∈ triples m.cells, Gen.RPM_ARCHES.contains t.2.1 = true ∧ refusedArches.contains t.2.1 = false)
    (hu : Uniq m.cells) :
    ∃ doc m', (serialize m).2 = .ok doc ∧ deserialize doc = .ok m'
      ∧ (triples m'.cells).Perm (triples m.cells) ∧ m'.compose = composeNorm m.compose
      ∧ m'.version = .str currentVersion := by
  obtain ⟨cd, hcd⟩ := compose_serialize_ok m.compose hc
  obtain ⟨hON, hOP⟩ := outFold_table (triples m.cells)
  obtain ⟨m', hd, hc', hv', hp'⟩ := deserialize_written m Image.dict id (fun i h => image_roundtrip i (hval i h)) hu ha _ hON hOP
    _ _ (compose_roundtrip m.compose _ cd hcd) rfl
  -- `hp'` has the filings as read, `(t.1, t.2.1, id t.2.2)`: these are the `t` themselves
  exact ⟨_, m', serialize_doc m cd hcd hval, hd, hp'.trans (.of_eq (List.map_id'' (fun _ => rfl) _)), hc', hv'⟩

/-- per cell: the records read back under `(v, a)` are a permutation of the records filed under `(v, a)` -/
theorem C02_cells (m m' : ImgState) (h : (triples m'.cells).Perm (triples m.cells)) (v a : Str) :
    (((triples m'.cells).filter fun t => t.1 == v && t.2.1 == a).map (·.2.2)).Perm
      (((triples m.cells).filter fun t => t.1 == v && t.2.1 == a).map (·.2.2)) :=
  (h.filter _).map _

/-- no image gained or lost overall; an object filed in k cells comes back as k equal records -/
theorem C02_all (m m' : ImgState) (h : (triples m'.cells).Perm (triples m.cells)) :
    m'.cells.all.Perm m.cells.all := by
  rw [all_eq_triples, all_eq_triples]; exact h.map _

/-- the manifest read back satisfies the hypotheses of `C02_readback_partial` again: the cycle can be repeated, and
every further document holds the same multiset of filings -/
theorem C02_cycle_closed (m m' : ImgState)
    (hc : m.compose.validate = .ok ())
    (hi : ∀ i ∈ m.cells.all, i.validate = .ok ())
    (ha : ∀ t ∈ triples m.cells, Gen.RPM_ARCHES.contains t.2.1 = true ∧ refusedArches.contains t.2.1 = false)
    (hu : Uniq m.cells)
    (hp : (triples m'.cells).Perm (triples m.cells)) (hcomp : m'.compose = composeNorm m.compose) :
    m'.compose.validate = .ok ()
    ∧ (∀ i ∈ m'.cells.all, i.validate = .ok ())
    ∧ (∀ t ∈ triples m'.cells, Gen.RPM_ARCHES.contains t.2.1 = true ∧ refusedArches.contains t.2.1 = false)
    ∧ Uniq m'.cells ∧ composeNorm m'.compose = m'.compose := by
  have hall := C02_all m m' hp
  refine ⟨hcomp ▸ (composeNorm_of_valid _ hc).2, fun i h => hi i (hall.mem_iff.mp h), fun t h => ha t (hp.mem_iff.mp h), ?_, ?_⟩
  · intro i h1 j h2 hid
    exact hu i (hall.mem_iff.mp h1) j (hall.mem_iff.mp h2) hid
  · rw [hcomp]; exact composeNorm_idem _

/-! A `(variant, arch)` set can be emptied through the public containers (`images[v][a].discard(img)`, `.clear()`,
`del images[v][a]`), leaving an empty set or a variant without arches in `self.images`.  The model's cells may be
empty lists; `triples` (the filings) does not see them, and neither does the writer: the `setdefault` that creates
the output list sits inside the per-image loop. -/

/-- **the document is a function of the filings**: two manifests with the same filings and the same compose section
— e.g. one with emptied buckets and the one without them — are written to the same document -/
theorem C02_document_of_filings (m₁ m₂ : ImgState) (ht : triples m₁.cells = triples m₂.cells) (hc : m₁.compose = m₂.compose)
    (cd : PyVal) (hcd : m₁.compose.serialize = .ok cd) (hi : ∀ i ∈ m₁.cells.all, i.validate = .ok ()) :
    (serialize m₁).2 = (serialize m₂).2 := by
  have hi₂ : ∀ i ∈ m₂.cells.all, i.validate = .ok () := by
    intro i h
    apply hi
    rw [all_eq_triples] at h ⊢
    rw [ht]
    exact h
  rw [serialize_doc m₁ cd hcd hi, serialize_doc m₂ cd (hc ▸ hcd) hi₂, ht]

/-- **empty cells are not written**: the written table has a key for a variant iff the variant has a filing, an arch
key under it iff that (variant, arch) has a filing, and no cell of the table is an empty list.  (A manifest read back
therefore has no empty bucket; on filings — what `C02_readback_partial` is about — nothing is gained or lost.) -/
theorem C02_empty_cells_not_written (cs : Cells) :
    (∀ v, v ∈ (outFold (triples cs) []).map (·.1) ↔ ∃ t ∈ triples cs, t.1 = v)
    ∧ (∀ v a, a ∈ (archAt (outFold (triples cs) []) v).map (·.1) ↔ ∃ t ∈ triples cs, t.1 = v ∧ t.2.1 = a)
    ∧ (∀ va ∈ outFold (triples cs) [], va.2 ≠ [] ∧ ∀ al ∈ va.2, al.2 ≠ []) := by
  have hinv := outFold_inv (triples cs) [] OutInv.nil
  refine ⟨fun v => by rw [keys_outFold]; simp, fun v a => by rw [archKeys_outFold]; simp [archAt], ?_⟩
  exact fun va hva => ⟨hinv.arches va hva, hinv.cells va hva⟩

/--
**C02_fixpoint.**  Under the hypotheses of `C02_readback_partial` and distinct paths inside every cell: the manifest
read back from the written document is written to a document with the **same bytes** (`JsonText.dumps` = the text of
`json.dump(indent=4, sort_keys=True)`); the two documents may differ in the order of dict entries only.
-/
theorem C02_fixpoint (m : ImgState)
    (hc : m.compose.validate = .ok ())
    (hi : ∀ i ∈ m.cells.all, i.validate = .ok ())
    (ha : ∀ t ∈ triples m.cells, Gen.RPM_ARCHES.contains t.2.1 = true ∧ refusedArches.contains t.2.1 = false)
    (hu : Uniq m.cells) (hd : DistinctPaths m.cells)
    (doc : PyVal) (m' : ImgState) (h1 : (serialize m).2 = .ok doc) (h2 : deserialize doc = .ok m') :
    ∃ doc', (serialize m').2 = .ok doc' ∧ PyVal.canon doc' = PyVal.canon doc ∧ JsonText.dumps doc' = JsonText.dumps doc := by
  obtain ⟨doc0, m0, hs0, hd0, hperm, hcomp, _⟩ := C02_readback_partial m hc hi ha hu
  cases hs0.symm.trans h1
  cases hd0.symm.trans h2
  obtain ⟨cd, hcd, rfl⟩ := serialize_inv m doc h1
  -- same filings, same compose section as written: the two documents differ in the order of dict entries only
  have hj := docOf_jeq cd (outFold_jeq (PermR.of_perm FSame.refl hperm.symm) (distinctPaths_triples hd))
  exact ⟨_, serialize_doc m' cd (by rw [hcomp, compose_serialize_norm _ hc, hcd]) fun i h => hi i ((C02_all m m' hperm).mem_iff.mp h),
    hj.canon_eq.symm, hj.dumps_eq.symm⟩

/-- `loads(text)` then `dumps()`, with `parse` standing for `json.load` -/
def reloadDumps (parse : Str → Except Err PyVal) (t : Str) : Except Err Str :=
  parse t >>= fun doc => loads doc >>= fun m' => (dumps m').2

theorem reloadDumps_ok {parse : Str → Except Err PyVal} {t : Str} {doc : PyVal} {m' : ImgState}
    (hp : parse t = .ok doc) (hd : deserialize doc = .ok m') : reloadDumps parse t = (dumps m').2 := by
  unfold reloadDumps
  rw [hp]
  simp only [loads_eq, hd, bind, Except.bind]

/--
**C02_bytes.**  The text returned by `dumps()`, read by `loads` and dumped again, is the same text, byte for byte.
That `parse` returns the document that was printed is the explicit hypothesis `hjson`.
CPython's parser does not meet it on these documents — it returns every dict in the order of the text, which is sorted,
while the writer's `payload` is `{images, compose}` (`C02_hjson_witness`); `C02_bytes_parsed` below is the statement
through the modelled parser.
-/
theorem C02_bytes (parse : Str → Except Err PyVal) (m : ImgState)
    (hc : m.compose.validate = .ok ())
    (hi : ∀ i ∈ m.cells.all, i.validate = .ok ())
    (ha : ∀ t ∈ triples m.cells, Gen.RPM_ARCHES.contains t.2.1 = true ∧ refusedArches.contains t.2.1 = false)
    (hu : Uniq m.cells) (hd : DistinctPaths m.cells)
    (hjson : ∀ doc, (serialize m).2 = .ok doc → parse (JsonText.dumps doc) = .ok doc)
    (t : Str) (ht : (dumps m).2 = .ok t) : reloadDumps parse t = .ok t := by
  obtain ⟨doc, m', hs, hde, hperm, hcomp, _⟩ := C02_readback_partial m hc hi ha hu
  have hm' : (dumps m').2 = (dumps m).2 := dumps_eq_of_filings (by rw [hcomp, compose_serialize_norm _ hc])
    (PermR.of_perm FSame.refl hperm.symm) (distinctPaths_triples hd) hi
  obtain rfl := dumps_text m doc t hs ht
  rw [reloadDumps_ok (hjson doc hs) hde]
  exact hm'.trans ht

/-- a decidable sufficient form of `DistinctPaths`: any two filings under the same variant and arch differ in path -/
theorem distinctPaths_of_pairwise (cs : Cells)
    (h : (triples cs).Pairwise fun x y => x.1 = y.1 → x.2.1 = y.2.1 → pathStr x.2.2 ≠ pathStr y.2.2) : DistinctPaths cs := by
  intro v a
  unfold List.Nodup
  rw [List.pairwise_map, List.pairwise_filter]
  refine h.imp ?_
  intro x y hxy hx hy
  simp only [Bool.and_eq_true, beq_iff_eq] at hx hy
  exact hxy (hx.1.trans hy.1.symm) (hx.2.trans hy.2.symm)

def errIs {α : Type} (r : Except Err α) (e : Err) : Bool :=
  match r with
  | .error e' => e' == e
  | .ok _ => false

def wCompose : Compose :=
  { id := .str (L "F-22-20150522.0"), type := .str (L "production"), date := .str (L "20150522"), respin := .int 0 }

def wA : Image :=
  { path := .str (L "S/x86_64/iso/b.iso"), mtime := .int 1, size := .int 4294967303, type := .str (L "dvd"), format := .str (L "iso"),
    arch := .str (L "x86_64"), disc_number := .int 1, disc_count := .int 1, checksums := .dict [(L "md5", .str (L "a"))],
    subvariant := .str (L "S") }
/-- same identity as `wA`, different checksums -/
def wB : Image := { wA with path := .str (L "S/x86_64/iso/a.iso"), checksums := .dict [(L "md5", .str (L "b"))] }
/-- another identity: a unified image with additional variants -/
def wC : Image := { wA with path := .str (L "S/x86_64/iso/A.iso"), unified := .bool true, additional_variants := .list [.str (L "Client")] }

/-- a manifest with two variants; objects 0 and 1 are each filed in two cells -/
def wGood : ImgState :=
  { compose := wCompose,
    cells := [(L "Server", [(L "x86_64", [(0, wA), (1, wC)]), (L "i386", [(0, wA)])]), (L "Client", [(L "x86_64", [(1, wC)])])] }

/-- F11: `wA` and `wB` side by side (accepted by `add` on a fresh `Images()`, header 0.0) -/
def wF11 : ImgState := { compose := wCompose, cells := [(L "Server", [(L "x86_64", [(0, wA), (1, wB)])])] }

attribute [local instance] decEqPyVal

/-- Closed facts about the example manifests, evaluated in one declaration (DESIGN.md §3, closed facts). -/
structure C02ExampleFacts : Prop where
  f11 :
    ([⟨L "Server", L "x86_64", 0, wA⟩, ⟨L "Server", L "x86_64", 1, wB⟩].foldl step { compose := wCompose }).cells.all = wF11.cells.all
    ∧ errIs (match (serialize wF11).2 with | .ok doc => deserialize doc | .error _ => .ok default) .valueError = true
  bool_int :
    Image.validate { wA with size := .bool true } = .error .typeError
    ∧ Image.validate { wA with mtime := .bool false } = .error .typeError
    ∧ Image.validate { wA with disc_number := .bool true } = .error .typeError
    ∧ Image.validate { wA with disc_count := .bool true } = .error .typeError
    ∧ errIs (dumps { compose := wCompose, cells := [(L "Server", [(L "x86_64", [(0, { wA with size := .bool true })])])] }).2 .typeError = true
  compose_valid : wGood.compose.validate = .ok ()
  cycle : errIs (match (serialize wGood).2 with | .ok doc => deserialize doc | .error _ => .error .other) .valueError = false
  empty_cells : triples ([(L "Server", [(L "x86_64", [(0, wA)]), (L "i386", [])]), (L "Client", [])] : Cells)
    = triples [(L "Server", [(L "x86_64", [(0, wA)])])]
  paths : (triples wGood.cells).Pairwise fun x y => x.1 = y.1 → x.2.1 = y.2.1 → pathStr x.2.2 ≠ pathStr y.2.2
  cycle_canon : let w : ImgState := { compose := wCompose, cells := [(L "Server", [(L "x86_64", [(0, wC)])])] }
    (dumps w).2 = (match (serialize w).2 with
    | .ok doc => (match deserialize (PyVal.canon doc) with | .ok m' => (dumps m').2 | .error e => .error e)
    | .error e => .error e)
  hjson :
    (match (serialize { compose := wCompose, cells := [(L "Server", [(L "x86_64", [(0, wC)])])] }).2 with
     | .ok doc => (match JsonParse.parse (JsonText.dumps doc) with
                   | .ok w => PyVal.beq w (PyVal.canon doc) && !(PyVal.beq w doc)
                   | .error _ => false)
     | .error _ => false) = true
  hrep_hord : (match (serialize { compose := wCompose, cells := [(L "Server", [(L "x86_64", [(0, wC)])])] }).2 with
    | .ok doc => Mf.jsonRep doc && JsonParse.numsOk JsonParse.defaultLimit doc
        && (reloadDumps (fun _ => .ok (PyVal.canon doc)) (JsonText.dumps doc) == reloadDumps (fun _ => .ok doc) (JsonText.dumps doc))
    | .error _ => false) = true
  object_hyps : ∀ i ∈ wGood.cells.all, i.validate = .ok () ∧ ContainersRep i ∧ NumsFit JsonParse.defaultLimit i
  respin : JsonParse.numsOk JsonParse.defaultLimit wGood.compose.respin = true
  bytes_parsed : (match (dumps { compose := wCompose, cells := [(L "Server", [(L "x86_64", [(0, wC)])])] }).2 with
    | .ok t => reloadDumps (JsonParse.parseWith JsonParse.defaultLimit) t == .ok t
    | .error _ => false) = true

theorem c02_example_facts : C02ExampleFacts := by
  suffices h : _ ∧ _ ∧ _ ∧ _ ∧ _ ∧ _ ∧ _ ∧ _ ∧ _ ∧ _ ∧ _ ∧ _ from
    ⟨h.1, h.2.1, h.2.2.1, h.2.2.2.1, h.2.2.2.2.1, h.2.2.2.2.2.1, h.2.2.2.2.2.2.1, h.2.2.2.2.2.2.2.1, h.2.2.2.2.2.2.2.2.1,
     h.2.2.2.2.2.2.2.2.2.1, h.2.2.2.2.2.2.2.2.2.2.1, h.2.2.2.2.2.2.2.2.2.2.2⟩
  decide +kernel

/-- **F11**: the colliding manifest is reachable through `add` on a fresh object, the library writes it, and the
reader refuses what was written with ValueError -/
theorem C02_F11_witness :
    ([⟨L "Server", L "x86_64", 0, wA⟩, ⟨L "Server", L "x86_64", 1, wB⟩].foldl step { compose := wCompose }).cells.all = wF11.cells.all
    ∧ errIs (match (serialize wF11).2 with | .ok doc => deserialize doc | .error _ => .ok default) .valueError = true :=
  c02_example_facts.f11

/-- **F22**: a bool in any of the four integer attributes does not pass the validators (were it to pass, `size = True` would be written
as `true` and read back as `1`). -/
theorem C02_bool_int_refused (i : Image) (b : Bool)
    (h : i.mtime = .bool b ∨ i.size = .bool b ∨ i.disc_number = .bool b ∨ i.disc_count = .bool b) : i.validate ≠ .ok () := by
  intro hv
  obtain ⟨⟨n1, h1⟩, ⟨n2, h2⟩, ⟨n3, h3⟩, ⟨n4, h4⟩⟩ := valid_properInts i hv
  rcases h with h | h | h | h
  · rw [h1] at h; cases h
  · rw [h2] at h; cases h
  · rw [h3] at h; cases h
  · rw [h4] at h; cases h

/-- the refusal of `C02_bool_int_refused` on `wA` is a TypeError, and a manifest holding such an image is not written (`dumps` raises
TypeError) -/
theorem C02_bool_int_refused_witness :
    Image.validate { wA with size := .bool true } = .error .typeError
    ∧ Image.validate { wA with mtime := .bool false } = .error .typeError
    ∧ Image.validate { wA with disc_number := .bool true } = .error .typeError
    ∧ Image.validate { wA with disc_count := .bool true } = .error .typeError
    ∧ errIs (dumps { compose := wCompose, cells := [(L "Server", [(L "x86_64", [(0, { wA with size := .bool true })])])] }).2 .typeError = true :=
  c02_example_facts.bool_int

/-- the hypotheses of `C02_readback_partial` hold of `wGood` (non-vacuity) -/
example : wGood.compose.validate = .ok () := c02_example_facts.compose_valid
example : ∀ i ∈ wGood.cells.all, i.validate = .ok () := fun i h => (c02_example_facts.object_hyps i h).1
/-- the reader does not refuse what the model writes for `wGood` with ValueError (contrast `C02_F11_witness`) -/
example : errIs (match (serialize wGood).2 with | .ok doc => deserialize doc | .error _ => .error .other) .valueError = false :=
  c02_example_facts.cycle

/-- a manifest with an emptied cell and a variant without arches has the filings of the pruned manifest, hence
(`C02_document_of_filings`) the same document -/
example : triples ([(L "Server", [(L "x86_64", [(0, wA)]), (L "i386", [])]), (L "Client", [])] : Cells)
    = triples [(L "Server", [(L "x86_64", [(0, wA)])])] := c02_example_facts.empty_cells
example : DistinctPaths wGood.cells := distinctPaths_of_pairwise _ c02_example_facts.paths
/-- the model's own cycle on a one-image manifest: the second text equals the first -/
example : let w : ImgState := { compose := wCompose, cells := [(L "Server", [(L "x86_64", [(0, wC)])])] }
    (dumps w).2 = (match (serialize w).2 with
    | .ok doc => (match deserialize (PyVal.canon doc) with | .ok m' => (dumps m').2 | .error e => .error e)
    | .error e => .error e) := c02_example_facts.cycle_canon

end PM

/-! `Proofs/JsonRoundTrip.lean` proves `JsonParse.parseWith lim (JsonText.dumps doc) = .ok (PyVal.canon doc)`: every dict in
SORTED key order, not in the writer's insertion order (`payload = {images, compose}`, image fields in attribute order), which is
why `hjson` of `C02_bytes` fails for CPython; and the reader files images
in document order, so the re-read STATE after a real parse is a permutation of the one `C02_bytes` speaks about.
With the modelled parser `C02_bytes_parsed_hyp` takes instead the hypothesis `hord`: loading the key-sorted document and dumping gives
the same text as loading the document as written and dumping (a statement about the library model only; it holds by evaluation on the
examples) — plus the explicit representability of the written document, `hrep`.  `C02_bytes_parsed` at the end has neither: it does not
compare the two reloads, it loads the key-sorted document (`deserialize_canon_doc`) and shows that what it holds is written as the
same text (`dumps_eq_of_filings`); `hrep` is `serialized_doc_rep`. -/
namespace PM
open PM.Img PM.PyOps PM.Spec

/-- on a one-image manifest the modelled CPython parser returns the key-sorted document, which is NOT the document
the writer built -/
theorem C02_hjson_witness :
    (match (serialize { compose := wCompose, cells := [(L "Server", [(L "x86_64", [(0, wC)])])] }).2 with
     | .ok doc => (match JsonParse.parse (JsonText.dumps doc) with
                   | .ok w => PyVal.beq w (PyVal.canon doc) && !(PyVal.beq w doc)
                   | .error _ => false)
     | .error _ => false) = true := c02_example_facts.hjson

/-- **C02_bytes, parser modelled, under two hypotheses about the library model** (`hrep` and `hord`).  Same conclusion as `C02_bytes` with `parse := JsonParse.parseWith lim`. -/
theorem C02_bytes_parsed_hyp (lim : Nat) (m : ImgState)
    (hc : m.compose.validate = .ok ())
    (hi : ∀ i ∈ m.cells.all, i.validate = .ok ())
    (ha : ∀ t ∈ triples m.cells, Gen.RPM_ARCHES.contains t.2.1 = true ∧ refusedArches.contains t.2.1 = false)
    (hu : Uniq m.cells) (hd : DistinctPaths m.cells)
    (hrep : ∀ doc, (serialize m).2 = .ok doc → Mf.jsonRep doc = true ∧ JsonParse.numsOk lim doc = true)
    (hord : ∀ doc, (serialize m).2 = .ok doc →
      reloadDumps (fun _ => .ok (PyVal.canon doc)) (JsonText.dumps doc) = reloadDumps (fun _ => .ok doc) (JsonText.dumps doc))
    (t : Str) (ht : (dumps m).2 = .ok t) : reloadDumps (JsonParse.parseWith lim) t = .ok t := by
  obtain ⟨doc, m', hs, _, _, _, _⟩ := C02_readback_partial m hc hi ha hu
  have h1 := C02_bytes (fun _ => .ok doc) m hc hi ha hu hd (fun d hd' => by rw [hs] at hd'; cases hd'; rfl) t ht
  have htext := dumps_text m doc t hs ht
  subst htext
  rw [← hord doc hs] at h1
  have hp := JsonParse.parseWith_dumps lim doc (hrep doc hs).1 (hrep doc hs).2
  unfold reloadDumps at h1 ⊢
  rw [hp]
  exact h1

/-- non-vacuity: `hrep` and `hord` hold of a one-image manifest by evaluation (default digit limit) -/
example : (match (serialize { compose := wCompose, cells := [(L "Server", [(L "x86_64", [(0, wC)])])] }).2 with
    | .ok doc => Mf.jsonRep doc && JsonParse.numsOk JsonParse.defaultLimit doc
        && (reloadDumps (fun _ => .ok (PyVal.canon doc)) (JsonText.dumps doc) == reloadDumps (fun _ => .ok doc) (JsonText.dumps doc))
    | .error _ => false) = true := c02_example_facts.hrep_hord

/-! `Img.reload_canon` compares `deserialize doc` with `deserialize (canon doc)`, the written document with every dict in sorted
key order, which is what a JSON parser returns for the written text.  The images are then filed in another order, and `add`
looks at what is filed already; here this has no effect: the header version is the current one on both sides (scan enforced,
no `src` re-filing), and `Uniq` makes the duplicate-identity scan succeed in every order (identity and checksums `==` are
invariant under canonicalisation: `canonC_identity`).  With `Img.dumps_eq_of_filings` (the text written does not depend on
these orders) the byte-level round trip through the modelled CPython parser follows from hypotheses on the OBJECT only
(`C02_bytes_parsed`). -/

namespace Img

/-- **the images reader is independent of dict key order** (on written documents) -/
theorem reload_canon (m : ImgState)
    (hc : m.compose.validate = .ok ())
    (hval : ∀ i ∈ m.cells.all, i.validate = .ok () ∧ ContainersRep i)
    (ha : ∀ t ∈ triples m.cells, Gen.RPM_ARCHES.contains t.2.1 = true ∧ refusedArches.contains t.2.1 = false)
    (hu : Uniq m.cells) (doc : PyVal) (hs : (serialize m).2 = .ok doc) :
    ∃ m' m'', deserialize doc = .ok m' ∧ deserialize (PyVal.canon doc) = .ok m'' ∧ Img.Same m' m''
      ∧ (triples m'.cells).Perm (triples m.cells) := by
  have hi' : ∀ i ∈ m.cells.all, i.validate = .ok () := fun i h => (hval i h).1
  obtain ⟨doc0, m', hs0, hd0, hperm, hcomp, _⟩ := C02_readback_partial m hc hi' ha hu
  cases hs0.symm.trans hs
  obtain ⟨cd, hcd, rfl⟩ := serialize_inv m _ hs
  obtain ⟨m'', hd2, hcomp2, _, hperm2⟩ := deserialize_canon_doc m hval ha hu cd hcd
  -- filings: m' ~ m, related elementwise to the canonicalised filings, which are a permutation of those of m''
  obtain ⟨l', hl', hall'⟩ := filings_canonC (fun u hu' => (hval _ (mem_all_of_triple hu')).2) hperm2
  exact ⟨m', m'', hd0, hd2, ⟨hcomp.trans hcomp2.symm, l', hperm.trans hl', hall'⟩, hperm⟩

end Img

/-- `Img.reload_canon` under the property's name -/
theorem C02_reload_canon (m : ImgState)
    (hc : m.compose.validate = .ok ())
    (hi : ∀ i ∈ m.cells.all, i.validate = .ok () ∧ ContainersRep i)
    (ha : ∀ t ∈ triples m.cells, Gen.RPM_ARCHES.contains t.2.1 = true ∧ refusedArches.contains t.2.1 = false)
    (hu : Uniq m.cells) (doc : PyVal) (hs : (serialize m).2 = .ok doc) :
    ∃ m' m'', deserialize doc = .ok m' ∧ deserialize (PyVal.canon doc) = .ok m'' ∧ Img.Same m' m''
      ∧ (triples m'.cells).Perm (triples m.cells) := Img.reload_canon m hc hi ha hu doc hs

/-- **C02_bytes through the modelled CPython parser, hypotheses on the object only.**  For a manifest whose compose section
and images validate, whose `checksums` / `additional_variants` hold JSON values, whose cells
are keyed by admissible arches, with unique identities and distinct paths per cell, and whose integers fit the interpreter's
digit limit `lim` (nothing to check for `lim = 0`, or below 641 digits: `numsFit_zero`, `JsonParse.intFits_of_length`): the text
`dumps()` returns, parsed by `JsonParse.parseWith lim` (the model of `json.loads`), loaded and dumped again, is the same text. -/
theorem C02_bytes_parsed (lim : Nat) (m : ImgState)
    (hc : m.compose.validate = .ok ())
    (hval : ∀ i ∈ m.cells.all, i.validate = .ok () ∧ ContainersRep i ∧ NumsFit lim i)
    (hrespin : JsonParse.numsOk lim m.compose.respin = true)
    (ha : ∀ t ∈ triples m.cells, Gen.RPM_ARCHES.contains t.2.1 = true ∧ refusedArches.contains t.2.1 = false)
    (hu : Uniq m.cells) (hd : DistinctPaths m.cells)
    (t : Str) (ht : (dumps m).2 = .ok t) : reloadDumps (JsonParse.parseWith lim) t = .ok t := by
  have hi : ∀ i ∈ m.cells.all, i.validate = .ok () := fun i h => (hval i h).1
  obtain ⟨cd, hcd⟩ := compose_serialize_ok m.compose hc
  -- the key-sorted form of the written document loads as `m''`, which holds the content of `m` and so is written as the same text
  obtain ⟨m'', hd2, hcomp2, _, hperm2⟩ := deserialize_canon_doc m (fun i h => ⟨(hval i h).1, (hval i h).2.1⟩) ha hu cd hcd
  have hm'' : (dumps m'').2 = (dumps m).2 := dumps_eq_of_filings (by rw [hcomp2, compose_serialize_norm _ hc])
    (filings_canonC (fun u hu' => (hval _ (mem_all_of_triple hu')).2.1) hperm2) (distinctPaths_triples hd) hi
  -- the text is the printed document, and the parser returns its key-sorted form
  have hrep := serialized_doc_rep lim m hval hrespin cd hcd
  obtain rfl := dumps_text m _ t (serialize_doc m cd hcd hi) ht
  rw [reloadDumps_ok (JsonParse.parseWith_dumps lim _ hrep.1 hrep.2) hd2, hm'']
  exact ht

/-- non-vacuity: the object-level hypotheses hold of the example manifest `wGood` (default digit limit) -/
example : ∀ i ∈ wGood.cells.all, i.validate = .ok () ∧ ContainersRep i ∧ NumsFit JsonParse.defaultLimit i :=
  c02_example_facts.object_hyps
example : JsonParse.numsOk JsonParse.defaultLimit wGood.compose.respin = true := c02_example_facts.respin
/-- … and the conclusion on it, by evaluation: parsed by the modelled parser, loaded and dumped, the text is unchanged -/
example : (match (dumps { compose := wCompose, cells := [(L "Server", [(L "x86_64", [(0, wC)])])] }).2 with
    | .ok t => reloadDumps (JsonParse.parseWith JsonParse.defaultLimit) t == .ok t
    | .error _ => false) = true := c02_example_facts.bytes_parsed

end PM
