import ProductMD.Proofs.ForestDel
import ProductMD.Proofs.ExceptLemmas
/-!
# C11 — the variant forest stays consistent and every variant is findable

Model: `Model/Forest.lean` (arena; `add : State → … → State × Except Err Unit` in the code's order of mutations;
`getitem`; `getVariants`) and `Model/ForestDel.lean` (`del container[name]`; the `C11_del_*` theorems below).  `validate` runs
the rule list of `composeinfo.Variant` regenerated from the source; the facts used about it (`Validated`) are extracted in
`Proofs/ForestValidate.lean` by locating the rules by content.

Nothing below bounds the number of variants, the depth of the forest or the length of the history.  `fuel` is the
Python recursion limit; every statement holds for every value of it.

`add` interprets the statement script of `VariantBase.add` regenerated from the source (`Gen.forest_add_script`,
tools/gen_forest.py); `script_here` states the order the proofs are about: save the old parent pointer, write the new one
(`None` in the top-level container), then validate / ancestor check / `setdefault` / duplicate refusal inside `try`, and a
handler that restores the saved pointer.  (With that order F13 and F26 – parent pointer rewritten by a refused add / not reset by a
top-level add; both `fixed` in known_findings.json – do not occur: `C11_refused`, `C11_refused_ancestor_example`,
`C11_top_add_placed_example`.)

What the property says and is FALSE of the code (each but F29 with a kernel-checked witness below, replayed on the real
library by the harness; all listed as known findings):
* F33 – `add` does not check that its argument is already filed under ANOTHER object: two `Variant` objects with one UID
  both accept the same child, so the full `Inv` is not an invariant of ALL histories (it is for all histories over
  objects with pairwise different UIDs: `C11_reachable_distinct_partial`);
* F14 – a dashed top-level UID may collide with a child's UID; lookup by UID then finds the top-level one, and through
  F33 a variant can be returned twice by `get_variants`;
* F27 – `__getitem__` compares the *relative* path with full child UIDs: `A-A-C` resolves to the sibling `A-C`;
* F28 – with `'self'` the receiver is returned whatever the arch filter; on the top-level container it raises;
* F29 – an explicit top-level `variant_id` is not checked against id/UID (here only as the hypotheses `AddOk.keyOk`, `hkey`);
* F48 – `__delitem__` splits the name at the first dash and has no UID scan, so `del c[name]` and `c[name]` can designate
  different variants.
-/
namespace PM.Forest

/-- The variant types the validators accept are EXACTLY the documented set (both inclusions; `decide` on the table regenerated
from the source), and the pseudo-type `'self'` of `get_variants` is not one of them. -/
theorem C11_types_table :
    (∀ t, t ∈ Gen.VARIANT_TYPES ↔ t ∈ ["variant".toList, "optional".toList, "addon".toList, "layered-product".toList])
    ∧ selfT ∉ Gen.VARIANT_TYPES := by
  refine ⟨?_, selfT_not_type⟩
  have h : Gen.VARIANT_TYPES = ["variant".toList, "optional".toList, "addon".toList, "layered-product".toList] := by
    decide +kernel
  intro t; rw [h]

/-- A refused `add` – whatever the cause: validation, ancestor check, recursion limit, duplicate key – returns the WHOLE
state it started from: every children dict and every parent pointer.  (Proved from the order of mutations in the script
read from the source: the parent pointer written first is restored by the handler, `setParent_restore`.) -/
theorem C11_refused (U : Nat → Attrs) (fuel : Nat) (s : State) (c : Cont) (v : Nat) (key : Option Str) (e : Err)
    (h : (add U fuel s c v key).2 = .error e) : (add U fuel s c v key).1 = s := by
  rcases add_cases U fuel s c v key with ⟨e', h'⟩ | ⟨h', -⟩ | ⟨h', -⟩
  · rw [h']
  · rw [h'] at h; simp at h
  · rw [h'] at h; simp at h

/-- …and an accepted one appends exactly the new entry to the container's dict (or nothing, when the same object
already sits under that key); no other dict changes. -/
theorem C11_accepted_frame (U : Nat → Attrs) (fuel : Nat) (s : State) (c : Cont) (v : Nat) (key : Option Str)
    (h : (add U fuel s c v key).2 = .ok ()) :
    (∀ d, d ≠ c → (add U fuel s c v key).1.kidsOf d = s.kidsOf d) ∧
    ((add U fuel s c v key).1.kidsOf c = s.kidsOf c ∨
     (add U fuel s c v key).1.kidsOf c = s.kidsOf c ++ [(addKey U c v key, v)]) := by
  rcases add_cases U fuel s c v key with ⟨e', h'⟩ | ⟨h', -⟩ | ⟨h', -⟩
  · rw [h'] at h; simp at h
  · rw [h']; simp
  · rw [h']
    refine ⟨?_, Or.inr ?_⟩
    · intro d hd; rw [setKids_kidsOf]; simp [hd]
    · rw [setKids_kidsOf]; simp

/-- `InvW` (every entry `k ↦ v` of a variant `p`'s dict has `k = v.id`, `v.uid = p.uid-v.id`, `v.arches ⊆ p.arches`;
every placed variant passed the field validators, so ids are dash-free; keys of a dict are distinct) is preserved by
EVERY call of `add` – accepted or refused, fresh or re-used argument, any key. -/
theorem C11_inv (U : Nat → Attrs) (fuel : Nat) (s : State) (c : Cont) (v : Nat) (key : Option Str)
    (h : InvW U s) : InvW U (add U fuel s c v key).1 := h.add fuel c v key

/-- Full statement wanted: `Inv` (= `InvW` + parent pointers mirror the dicts + an object sits in one place + top-level
UIDs align with ids + top-level keys are id or UID) is preserved by every `add`.  FALSE of the code
(F33: `C11_two_parents_witness`; F29).  Proved for every call – accepted or refused, whatever the parent pointer of
the argument, whatever happened before – whose argument is not already filed under another container or key (`AddOk`). -/
theorem C11_inv_partial (U : Nat → Attrs) (fuel : Nat) (s : State) (c : Cont) (v : Nat) (key : Option Str)
    (h : Inv U s) (hf : AddOk U s c v key) : Inv U (add U fuel s c v key).1 := h.add fuel c v key hf

/-- …and for EVERY call with the default key, no hypothesis on the call at all, when the objects have pairwise different
UIDs (`UidsApart`): an object the validators accept under `c` cannot be filed anywhere else. -/
theorem C11_inv_distinct_partial (U : Nat → Attrs) (hU : UidsApart U) (fuel : Nat) (s : State) (c : Cont) (v : Nat)
    (h : Inv U s) (htop : ∀ kv ∈ s.top, kv.1 = (U kv.2).id) :
    Inv U (add U fuel s c v none).1 ∧ ∀ kv ∈ (add U fuel s c v none).1.top, kv.1 = (U kv.2).id :=
  ⟨h.add_core fuel c v none (fun hv => elsewhere_of_valid h hU htop c v hv) (fun _ k hk => by cases hk),
   topIds_add U fuel s c v none (fun _ => rfl) htop⟩

/-- Every state reachable from the empty forest by ANY history of `add` calls satisfies `InvW`. -/
theorem C11_reachable (U : Nat → Attrs) (fuel : Nat) (ops : List Op) : InvW U (run U fuel ops) :=
  InvW.run U fuel ops

/-- every call of the history satisfies `AddOk` in the state it is made in -/
def OkRun (U : Nat → Attrs) (fuel : Nat) : State → List Op → Prop
  | _, [] => True
  | s, o :: os => AddOk U s o.c o.v o.key ∧ OkRun U fuel (step U fuel s o) os

/-- Every state reachable by a history of valid and invalid `add` calls that never hand over an object already filed
elsewhere satisfies the full `Inv`. -/
theorem C11_reachable_partial (U : Nat → Attrs) (fuel : Nat) (ops : List Op)
    (hf : OkRun U fuel State.empty ops) : Inv U (run U fuel ops) :=
  foldl_inv (step U fuel) (Inv U) (OkRun U fuel) (fun s o os h hf => by rw [OkRun] at hf; exact ⟨h.step fuel o hf.1, hf.2⟩)
    ops _ (Inv.empty U) hf

/-- ALL histories of `add` calls with the default key – valid, invalid, re-adds, already placed arguments, any
interleaving – over objects with pairwise different UIDs end in a state satisfying the full `Inv`. -/
theorem C11_reachable_distinct_partial (U : Nat → Attrs) (hU : UidsApart U) (fuel : Nat) (ops : List Op)
    (hk : ∀ o ∈ ops, o.key = none) : Inv U (run U fuel ops) :=
  (List.foldlRecOn (motive := fun s => Inv U s ∧ ∀ kv ∈ s.top, kv.1 = (U kv.2).id) ops (step U fuel)
    ⟨Inv.empty U, fun kv hkv => by simp [State.empty] at hkv⟩
    (fun s h o ho => by rw [step_eq, hk o ho]; exact C11_inv_distinct_partial U hU fuel s o.c o.v h.1 h.2)).1

/-- From its parent by its id – after any history (`InvW` holds then: `C11_reachable`). -/
theorem C11_findable_by_id (U : Nat → Attrs) (s : State) (h : InvW U s) (p : Nat) (k : Str) (v : Nat)
    (hm : (k, v) ∈ s.kids p) : getitem U s (some p) (U v).id = .ok v := by
  have hk := (h.edge p k v hm).key
  subst hk
  exact getitemF_key (h.keys (some p)) hm

/-- From the top-level container by its key. -/
theorem C11_findable_by_key (U : Nat → Attrs) (s : State) (h : InvW U s) (k : Str) (v : Nat)
    (hm : (k, v) ∈ s.top) : getitem U s none k = .ok v :=
  getitemF_key (h.keys none) hm

/-- Full statement wanted: under the invariant every variant of the forest is returned by `ci[uid]`.  FALSE of the
code: F14 (`hdist`), F27 (`hns`), F29 (`hkey`); children of a dashed top-level variant are outside the property's
quantifier (`hchild`).  Proved for a variant `v` at any depth below (or equal to) a top-level variant `t`. -/
theorem C11_findable_partial (U : Nat → Attrs) (s : State) (h : InvW U s)
    (hkey : ∀ k t, (k, t) ∈ s.top → k = (U t).id ∨ k = (U t).uid)
    (kt : Str) (t v : Nat) (ht : (kt, t) ∈ s.top)
    (halign : Str.removeChar '-' (U t).uid = (U t).id)
    (hbelow : v = t ∨ Desc s (some t) v)
    (hchild : '-' ∈ (U t).uid → s.kids t = [])
    (hdist : ∀ k' t', (k', t') ∈ s.top → (U t').uid = (U v).uid → t' = v)
    (hns : NoShadow U s v) :
    getitem U s none (U v).uid = .ok v := by
  refine getitem_top h hkey ht halign ?_ hchild hdist hns
  rcases hbelow with h1 | h1
  · exact Or.inl h1
  · exact Or.inr h1.path

/-- the same for states that satisfy the full `Inv` (e.g. by `C11_reachable_partial`): key and alignment hypotheses
are then facts -/
theorem C11_findable_inv_partial (U : Nat → Attrs) (s : State) (h : Inv U s)
    (kt : Str) (t v : Nat) (ht : (kt, t) ∈ s.top) (hbelow : v = t ∨ Desc s (some t) v)
    (hchild : '-' ∈ (U t).uid → s.kids t = [])
    (hdist : ∀ k' t', (k', t') ∈ s.top → (U t').uid = (U v).uid → t' = v)
    (hns : NoShadow U s v) :
    getitem U s none (U v).uid = .ok v :=
  C11_findable_partial U s h.weak h.topKey kt t v ht (h.topAligned kt t ht) hbelow hchild hdist hns

/-- ordered by UID – any state, any filter, any container -/
theorem C11_get_variants_sorted (U : Nat → Attrs) (s : State) (fuel : Nat) (c : Cont) (arch : Option Str)
    (types : List Str) (recursive : Bool) (res : List Nat)
    (h : getVariants U s fuel c arch types recursive = .ok res) :
    res.Pairwise (fun a b => (U a).uid ≤ (U b).uid) := by
  cases fuel with
  | zero => simp [getVariants] at h
  | succ f =>
    obtain ⟨body, -, hres⟩ := getVariants_ok h
    rcases hres with ⟨-, i, -, rfl⟩ | ⟨-, rfl⟩ <;> exact sortByUid_sorted U _

/-- Full statement wanted: strictly ordered, hence each variant at most once.  Needs the UIDs of the variants met by
the traversal to be distinct, which the code does not guarantee (F14, F29, F33). -/
theorem C11_get_variants_strict_partial (U : Nat → Attrs) (s : State) (fuel : Nat) (c : Cont) (arch : Option Str)
    (types : List Str) (recursive : Bool) (res : List Nat)
    (h : getVariants U s fuel c arch types recursive = .ok res)
    (hd : (res.map fun x => (U x).uid).Nodup) :
    res.Pairwise (fun a b => (U a).uid < (U b).uid) ∧ res.Nodup := by
  have hp : res.Pairwise (fun a b => (U a).uid ≠ (U b).uid) := List.pairwise_map.mp hd
  have hs := C11_get_variants_sorted U s fuel c arch types recursive res h
  exact ⟨(hs.and hp).imp fun hab => Std.lt_of_le_of_ne hab.1 hab.2, hp.imp fun hne e => hne (congrArg (fun x => (U x).uid) e)⟩

/-- On a variant – any depth, any filter, with or without `'self'`, after ANY history: strictly increasing UIDs, each
variant at most once.  No hypothesis about UIDs: below a variant their distinctness FOLLOWS from `InvW` (alignment,
dash-free ids, distinct keys; `siblings_apart`). -/
theorem C11_get_variants_strict_below (U : Nat → Attrs) (s : State) (h : InvW U s) (fuel : Nat) (p : Nat)
    (arch : Option Str) (types : List Str) (recursive : Bool) (res : List Nat)
    (hr : getVariants U s fuel (some p) arch types recursive = .ok res) :
    res.Pairwise (fun a b => (U a).uid < (U b).uid) ∧ res.Nodup :=
  C11_get_variants_strict_partial U s fuel (some p) arch types recursive res hr (gv_unique h fuel p arch types recursive res hr)

/-- On the top-level container the same needs the subtrees of different top-level entries to have different UIDs
(`TopApart`) – exactly what F14 violates and `add` does not enforce. -/
theorem C11_get_variants_strict_top_partial (U : Nat → Attrs) (s : State) (h : InvW U s) (hsep : TopApart U s)
    (fuel : Nat) (arch : Option Str) (types : List Str) (recursive : Bool) (res : List Nat)
    (hr : getVariants U s fuel none arch types recursive = .ok res) :
    res.Pairwise (fun a b => (U a).uid < (U b).uid) ∧ res.Nodup :=
  C11_get_variants_strict_partial U s fuel none arch types recursive res hr (gv_unique_top h hsep fuel arch types recursive res hr)

/-- …and `TopApart` is a consequence of the full `Inv` when no top-level UID is dashed: for forests built from fresh
objects without the 'Server-optional' style of top-level UID, "at most once, strictly ordered" holds outright. -/
theorem C11_get_variants_strict_dashless_partial (U : Nat → Attrs) (s : State) (h : Inv U s)
    (hnd : ∀ kv ∈ s.top, '-' ∉ (U kv.2).uid)
    (fuel : Nat) (arch : Option Str) (types : List Str) (recursive : Bool) (res : List Nat)
    (hr : getVariants U s fuel none arch types recursive = .ok res) :
    res.Pairwise (fun a b => (U a).uid < (U b).uid) ∧ res.Nodup :=
  C11_get_variants_strict_top_partial U s h.weak (topApart_of_dashless h hnd) fuel arch types recursive res hr

/-- Everything returned is a variant below the container that passes BOTH filters (arch: the requested arch is in
`arches`, or it is `'src'`, or there is no arch filter; type: one of the requested types, or no type filter) – except
the receiver itself, returned only when `'self'` is among the types (and then whatever its arches: F28,
`C11_self_witness`). -/
theorem C11_get_variants_sound (U : Nat → Attrs) (s : State) (h : InvW U s) (fuel : Nat) (c : Cont)
    (arch : Option Str) (types : List Str) (recursive : Bool) (res : List Nat)
    (hr : getVariants U s fuel c arch types recursive = .ok res) (x : Nat) (hx : x ∈ res) :
    (c = some x ∧ selfT ∈ types) ∨
    (Desc s c x ∧ (types = [] ∨ (U x).type ∈ types) ∧
      (arch = none ∨ arch = some [] ∨ arch = some srcA ∨ ∃ a, arch = some a ∧ a ∈ (U x).arches)) :=
  ((mem_getVariants fuel c types recursive res hr x).mp hx).imp_right fun hs =>
    ⟨(hs.sound h).1, passes_iff.mp (hs.sound h).2.1⟩

/-- No type filter: every variant of the level – of the whole forest below the container when `recursive` – that has the
requested arch is returned.  (Uses `arches ⊆ parent's` from `InvW`: a subtree is never cut off wrongly.) -/
theorem C11_get_variants_complete (U : Nat → Attrs) (s : State) (h : InvW U s) (fuel : Nat) (c : Cont)
    (arch : Option Str) (recursive : Bool) (res : List Nat)
    (hr : getVariants U s fuel c arch [] recursive = .ok res) (x : Nat)
    (hx : arch = none ∨ arch = some [] ∨ arch = some srcA ∨ ∃ a, arch = some a ∧ a ∈ (U x).arches) :
    ((∃ k, (k, x) ∈ s.kidsOf c) → x ∈ res) ∧ (recursive = true → Desc s c x → x ∈ res) :=
  have hp := passes_iff.mpr ⟨Or.inl rfl, hx⟩
  ⟨fun ⟨_, hm⟩ => (mem_getVariants fuel c [] recursive res hr x).mpr (.inr (.kid hm hp)),
   fun hrec hd => (mem_getVariants fuel c [] recursive res hr x).mpr (.inr (hrec ▸ Sel.of_desc h hp hd))⟩

/-- no filter at all means every variant of the level / of the forest -/
theorem C11_get_variants_all (U : Nat → Attrs) (s : State) (h : InvW U s) (fuel : Nat) (c : Cont)
    (recursive : Bool) (res : List Nat) (hr : getVariants U s fuel c none [] recursive = .ok res) (x : Nat) :
    x ∈ res ↔ (if recursive then Desc s c x else ∃ k, (k, x) ∈ s.kidsOf c) := by
  have hp : passes U none [] x = true := rfl
  rw [mem_getVariants fuel c [] recursive res hr x, or_iff_right (fun h => nomatch h.2)]
  cases recursive with
  | true => exact ⟨fun hs => (hs.sound h).1, Sel.of_desc h hp⟩
  | false => exact ⟨fun hs => (hs.sound h).2.2 rfl, fun ⟨_, hm⟩ => .kid hm hp⟩

/-! Witnesses: kernel-evaluated on the model; each is replayed on the real library by `harness/props/c11.py`
(corpus/C11.jsonl). -/

def mkU (l : List Attrs) : Nat → Attrs := fun i => l.getD i default
def mkA (id uid : String) (arches : List String := ["x86_64"]) (type : String := "variant") : Attrs :=
  ⟨id.toList, uid.toList, "n".toList, type.toList, arches.map String.toList⟩
/-- `Except Err α` has no `DecidableEq` instance; the closed facts below, evaluated by `decide`, compare outcomes as `Option`s
(`outErr`, `resOf`). -/
def outErr : Except Err Unit → Option Err
  | .ok _ => none
  | .error e => some e
def resOf {α} : Except Err α → Option α
  | .ok a => some a
  | .error _ => none

/-- F13: `G` top-level, `P = G-P` below it; `P.add(G)` is refused with ValueError and `G.parent` is still `None` afterwards.
The refusal comes from `validate`, the first statement of the `try` (under `P` the UID of `G` would have to be `G-P-G`); the
ancestor check is not reached. -/
def U13 := mkU [mkA "G" "G", mkA "P" "G-P"]
def s13 := run U13 50 [⟨none, 0, none⟩, ⟨some 0, 1, none⟩]

/-- F26: `S`, `C = S-C` below it; `top.add(C)` is REFUSED (as a top-level variant its UID does not align)
and `C` stays where it was, pointing at `S`. -/
def U19 := mkU [mkA "S" "S", mkA "C" "S-C"]
def s19 := run U19 50 [⟨none, 0, none⟩, ⟨some 0, 1, none⟩]

/-- F33: two objects `S`, `S'` with one UID (the second refused as a duplicate id); `C` is added to `S`, then ACCEPTED by
`S'` as well: it sits in two dicts and its parent pointer names `S'`, which is not in the forest.  The mirror between
parent pointers and dicts (part of `Inv`) is broken by an ACCEPTED call on a state that satisfies `Inv`. -/
def U33 := mkU [mkA "S" "S", mkA "S" "S", mkA "C" "S-C"]
def s33 := run U33 50 [⟨none, 0, none⟩, ⟨none, 1, none⟩, ⟨some 0, 2, none⟩]

/-- F14 + F33: with the pair top-level `Server-Tools` / `Server → Tools` in the forest, a child of the one is accepted by the
other and `get_variants(recursive=True)` returns a variant twice. -/
def U14b := mkU [mkA "Server" "Server", mkA "Tools" "Server-Tools", mkA "ServerTools" "Server-Tools", mkA "V" "Server-Tools-V"]
def s14b := run U14b 50 [⟨none, 0, none⟩, ⟨some 0, 1, none⟩, ⟨none, 2, none⟩, ⟨some 1, 3, none⟩, ⟨some 2, 3, none⟩]

/-- F14: top-level `ServerTools` with UID `Server-Tools` next to `Server → Tools`: all three adds accepted, two variants
share a UID and `ci["Server-Tools"]` is the top-level one. -/
def U14 := mkU [mkA "Server" "Server", mkA "Tools" "Server-Tools", mkA "ServerTools" "Server-Tools"]
def s14 := run U14 50 [⟨none, 0, none⟩, ⟨some 0, 1, none⟩, ⟨none, 2, none⟩]

/-- F27: `A → {A → {C}, C}`: every UID is distinct, the full `Inv` holds, yet `ci["A-A-C"]` is the variant `A-C`. -/
def U20 := mkU [mkA "A" "A", mkA "A" "A-A", mkA "C" "A-C", mkA "C" "A-A-C"]
def s20 := run U20 50 [⟨none, 0, none⟩, ⟨some 0, 1, none⟩, ⟨some 0, 2, none⟩, ⟨some 1, 3, none⟩]

/-- F48, smallest form: a single top-level variant `ServerTools` with UID `Server-Tools`: `ci["Server-Tools"]` finds it,
`del ci["Server-Tools"]` raises KeyError. -/
def U48 := mkU [mkA "ServerTools" "Server-Tools"]
def s48 := run U48 50 [⟨none, 0, none⟩]

/-! Non-vacuity: a history of four calls (one refused: foreign arch) on fresh objects.  The states `sEx1`, `sEx2`, `sEx` are
written as `setParent` / `setKids` leave them (hence branches like `if j = 0 then none else none`), so that they are the results
of the steps by definitional unfolding (`ex_step1` …). -/
def Uex := mkU [mkA "A" "A" ["x86_64", "i386"], mkA "B" "A-B", mkA "C" "A-B-C", mkA "X" "A-X" ["ppc64le"]]
def opsEx : List Op := [⟨none, 0, none⟩, ⟨some 0, 1, none⟩, ⟨some 0, 3, none⟩, ⟨some 1, 2, none⟩]
def sEx1 : State := ⟨fun j => if j = 0 then none else none, fun _ => [], [("A".toList, 0)]⟩
def sEx2 : State :=
  ⟨fun j => if j = 1 then some 0 else if j = 0 then none else none,
   fun j => if j = 0 then [("B".toList, 1)] else [], [("A".toList, 0)]⟩
def sEx : State :=
  ⟨fun j => if j = 2 then some 1 else if j = 1 then some 0 else if j = 0 then none else none,
   fun j => if j = 1 then [("C".toList, 2)] else if j = 0 then [("B".toList, 1)] else [],
   [("A".toList, 0)]⟩

/-- `UidsApart` is inhabited by an infinite universe with parents and children: object `2n` is the top-level variant
`a…a` (n+1 letters), object `2n+1` its child `a…a-b`. -/
def Upar (i : Nat) : Attrs :=
  if i % 2 = 0 then ⟨List.replicate (i / 2 + 1) 'a', List.replicate (i / 2 + 1) 'a', ['n'], "variant".toList, [['x']]⟩
  else ⟨['b'], List.replicate (i / 2 + 1) 'a' ++ ['-', 'b'], ['n'], "addon".toList, [['x']]⟩

/-! Closed facts about these forests, evaluated in one declaration (DESIGN.md §3, closed facts): four structures, each
decidable as the conjunction of its fields, because the `Decidable` instance of one conjunction of all of them is too large to
be synthesised in one piece. -/

/-- `add` on the forests of F13, F26 and F33 -/
structure AddFacts : Prop where
  refused_keeps_parent :
    s13.top = [("G".toList, 0)] ∧ s13.kids 0 = [("P".toList, 1)] ∧ s13.parent 0 = none ∧
    outErr (add U13 50 s13 (some 1) 0 none).2 = some .valueError ∧
    (add U13 50 s13 (some 1) 0 none).1.top = [("G".toList, 0)] ∧
    (add U13 50 s13 (some 1) 0 none).1.parent 0 = none
  top_add_placed :
    outErr (add U19 50 s19 none 1 none).2 = some .valueError ∧
    (add U19 50 s19 none 1 none).1.top = [("S".toList, 0)] ∧ (add U19 50 s19 none 1 none).1.parent 1 = some 0 ∧
    resOf (getVariants U19 s19 50 none none [] true) = some [0, 1]
  two_parents :
    s33.top = [("S".toList, 0)] ∧ s33.kids 0 = [("C".toList, 2)] ∧ s33.kids 1 = [] ∧ s33.parent 2 = some 0 ∧
    outErr (add U33 50 s33 (some 1) 2 none).2 = none ∧
    (add U33 50 s33 (some 1) 2 none).1.kids 0 = [("C".toList, 2)] ∧
    (add U33 50 s33 (some 1) 2 none).1.kids 1 = [("C".toList, 2)] ∧
    (add U33 50 s33 (some 1) 2 none).1.parent 2 = some 1

instance : Decidable AddFacts :=
  decidable_of_iff (_ ∧ _ ∧ _) ⟨fun h => ⟨h.1, h.2.1, h.2.2⟩, fun h => ⟨h.1, h.2, h.3⟩⟩

/-- `__getitem__` and `get_variants` on the forests of F14, F27 and F28 -/
structure LookupFacts : Prop where
  twice :
    s14b.kids 1 = [("V".toList, 3)] ∧ s14b.kids 2 = [("V".toList, 3)] ∧
    resOf (getVariants U14b s14b 50 none none [] true) = some [0, 1, 2, 3, 3]
  dup_uid :
    s14.top = [("Server".toList, 0), ("ServerTools".toList, 2)] ∧ s14.kids 0 = [("Tools".toList, 1)] ∧
    (U14 1).uid = (U14 2).uid ∧ resOf (getitem U14 s14 none (U14 1).uid) = some 2
  shadow :
    s20.kids 0 = [("A".toList, 1), ("C".toList, 2)] ∧ s20.kids 1 = [("C".toList, 3)] ∧
    resOf (getitem U20 s20 none "A-A-C".toList) = some 2 ∧ (U20 2).uid = "A-C".toList
  self :
    resOf (getVariants U13 s13 50 (some 0) (some "ppc64le".toList) [selfT] false) = some [0] ∧
    "ppc64le".toList ∉ (U13 0).arches ∧
    (match getVariants U13 s13 50 none none [selfT] false with | .error .attributeError => true | _ => false) = true

instance : Decidable LookupFacts :=
  decidable_of_iff (_ ∧ _ ∧ _ ∧ _) ⟨fun h => ⟨h.1, h.2.1, h.2.2.1, h.2.2.2⟩, fun h => ⟨h.1, h.2, h.3, h.4⟩⟩

/-- the example history: outcome of each of its four calls in the explicit state it is made in; lookups and listings on `sEx`;
the history on `Upar` -/
structure ExFacts : Prop where
  step1 : outErr (add Uex 50 State.empty none 0 none).2 = none
  step2 : outErr (add Uex 50 sEx1 (some 0) 1 none).2 = none
  step3 : outErr (add Uex 50 sEx2 (some 0) 3 none).2 = some .valueError
  step4 : outErr (add Uex 50 sEx2 (some 1) 2 none).2 = none
  getitem : resOf (getitem Uex sEx none "A-B-C".toList) = some 2
  get_variants :
    ((([0, 1, 2] : List Nat).map fun x => (Uex x).uid).Nodup)
    ∧ resOf (getVariants Uex sEx 50 none none [] true) = some [0, 1, 2]
    ∧ resOf (getVariants Uex sEx 50 none (some "i386".toList) [] true) = some [0]
    ∧ resOf (getVariants Uex sEx 50 none (some srcA) ["variant".toList] true) = some [0, 1, 2]
  upar :
    (run Upar 50 [⟨none, 0, none⟩, ⟨some 0, 1, none⟩, ⟨none, 1, none⟩, ⟨some 2, 1, none⟩]).kids 0 = [(['b'], 1)]
    ∧ (run Upar 50 [⟨none, 0, none⟩, ⟨some 0, 1, none⟩, ⟨none, 1, none⟩, ⟨some 2, 1, none⟩]).top = [(['a'], 0)]

instance : Decidable ExFacts :=
  decidable_of_iff (_ ∧ _ ∧ _ ∧ _ ∧ _ ∧ _ ∧ _)
    ⟨fun h => ⟨h.1, h.2.1, h.2.2.1, h.2.2.2.1, h.2.2.2.2.1, h.2.2.2.2.2.1, h.2.2.2.2.2.2⟩,
     fun h => ⟨h.1, h.2, h.3, h.4, h.5, h.6, h.7⟩⟩

/-- `del` against `__getitem__` (F48), the stale parent pointer, and `del` on the example forest -/
structure DelFacts : Prop where
  other :
    resOf (getitem U14 s14 none "Server-Tools".toList) = some 2 ∧
    resOf (delResolve s14 none "Server-Tools".toList) = some (some 0, "Tools".toList, 1) ∧
    outErr (delitem s14 none "Server-Tools".toList).2 = none ∧
    (delitem s14 none "Server-Tools".toList).1.top = [("Server".toList, 0), ("ServerTools".toList, 2)] ∧
    (delitem s14 none "Server-Tools".toList).1.kids 0 = [] ∧
    resOf (getitem U14 (delitem s14 none "Server-Tools".toList).1 none "Server-Tools".toList) = some 2
  uid_keyerror :
    s48.top = [("ServerTools".toList, 0)] ∧ resOf (getitem U48 s48 none "Server-Tools".toList) = some 0 ∧
    outErr (delitem s48 none "Server-Tools".toList).2 = some .keyError
  shadow :
    resOf (getitem U20 s20 none "A-A-C".toList) = some 2 ∧
    resOf (delResolve s20 none "A-A-C".toList) = some (some 1, "C".toList, 3)
  stale_parent :
    outErr (delitem s19 (some 0) "C".toList).2 = none ∧
    (delitem s19 (some 0) "C".toList).1.kids 0 = [] ∧ (delitem s19 (some 0) "C".toList).1.parent 1 = some 0 ∧
    outErr (add U19 50 (delitem s19 (some 0) "C".toList).1 (some 0) 1 none).2 = none ∧
    (add U19 50 (delitem s19 (some 0) "C".toList).1 (some 0) 1 none).1.kids 0 = [("C".toList, 1)] ∧
    outErr (add U19 50 (delitem s19 (some 0) "C".toList).1 none 1 none).2 = some .valueError ∧
    (add U19 50 (delitem s19 (some 0) "C".toList).1 none 1 none).1.parent 1 = some 0
  example_forest :
    resOf (getVariants Uex (delitem sEx none "A-B".toList).1 50 none none [] true) = some [0] ∧
    outErr (delitem (delitem sEx none "A-B".toList).1 none "A-B".toList).2 = some .keyError

instance : Decidable DelFacts :=
  decidable_of_iff (_ ∧ _ ∧ _ ∧ _ ∧ _)
    ⟨fun h => ⟨h.1, h.2.1, h.2.2.1, h.2.2.2.1, h.2.2.2.2⟩, fun h => ⟨h.1, h.2, h.3, h.4, h.5⟩⟩

theorem forest_eval : AddFacts ∧ LookupFacts ∧ ExFacts ∧ DelFacts := by decide +kernel

theorem add_facts : AddFacts := forest_eval.1
theorem lookup_facts : LookupFacts := forest_eval.2.1
theorem ex_facts : ExFacts := forest_eval.2.2.1
theorem del_facts : DelFacts := forest_eval.2.2.2

theorem C11_refused_ancestor_example :
    s13.top = [("G".toList, 0)] ∧ s13.kids 0 = [("P".toList, 1)] ∧ s13.parent 0 = none ∧
    outErr (add U13 50 s13 (some 1) 0 none).2 = some .valueError ∧
    (add U13 50 s13 (some 1) 0 none).1.top = [("G".toList, 0)] ∧
    (add U13 50 s13 (some 1) 0 none).1.parent 0 = none := add_facts.refused_keeps_parent

theorem C11_top_add_placed_example :
    outErr (add U19 50 s19 none 1 none).2 = some .valueError ∧
    (add U19 50 s19 none 1 none).1.top = [("S".toList, 0)] ∧ (add U19 50 s19 none 1 none).1.parent 1 = some 0 ∧
    resOf (getVariants U19 s19 50 none none [] true) = some [0, 1] := add_facts.top_add_placed

theorem C11_two_parents_witness :
    s33.top = [("S".toList, 0)] ∧ s33.kids 0 = [("C".toList, 2)] ∧ s33.kids 1 = [] ∧ s33.parent 2 = some 0 ∧
    outErr (add U33 50 s33 (some 1) 2 none).2 = none ∧
    (add U33 50 s33 (some 1) 2 none).1.kids 0 = [("C".toList, 2)] ∧
    (add U33 50 s33 (some 1) 2 none).1.kids 1 = [("C".toList, 2)] ∧
    (add U33 50 s33 (some 1) 2 none).1.parent 2 = some 1 := add_facts.two_parents

theorem C11_twice_witness :
    s14b.kids 1 = [("V".toList, 3)] ∧ s14b.kids 2 = [("V".toList, 3)] ∧
    resOf (getVariants U14b s14b 50 none none [] true) = some [0, 1, 2, 3, 3] := lookup_facts.twice

theorem C11_dup_uid_witness :
    s14.top = [("Server".toList, 0), ("ServerTools".toList, 2)] ∧ s14.kids 0 = [("Tools".toList, 1)] ∧
    (U14 1).uid = (U14 2).uid ∧ resOf (getitem U14 s14 none (U14 1).uid) = some 2 := lookup_facts.dup_uid

theorem C11_shadow_witness :
    s20.kids 0 = [("A".toList, 1), ("C".toList, 2)] ∧ s20.kids 1 = [("C".toList, 3)] ∧
    resOf (getitem U20 s20 none "A-A-C".toList) = some 2 ∧ (U20 2).uid = "A-C".toList := lookup_facts.shadow

/-- F28: `'self'` returns the receiver although it lacks the requested arch; on the top-level container it raises. -/
theorem C11_self_witness :
    resOf (getVariants U13 s13 50 (some 0) (some "ppc64le".toList) [selfT] false) = some [0] ∧
    "ppc64le".toList ∉ (U13 0).arches ∧
    (match getVariants U13 s13 50 none none [selfT] false with | .error .attributeError => true | _ => false) = true :=
  lookup_facts.self

theorem outErr_none {r : Except Err Unit} (h : outErr r = none) : r = .ok () := by
  cases r with
  | ok u => rfl
  | error e => cases h

theorem outErr_some {r : Except Err Unit} {e : Err} (h : outErr r = some e) : r = .error e := by
  cases r with
  | ok u => cases h
  | error e' => cases h; rfl

theorem step_fresh {U : Nat → Attrs} {fuel : Nat} {s : State} {o : Op} (hok : outErr (add U fuel s o.c o.v o.key).2 = none)
    (hd : dget (addKey U o.c o.v o.key) (s.kidsOf o.c) = none) :
    step U fuel s o = (pre s o.c o.v).setKids o.c (s.kidsOf o.c ++ [(addKey U o.c o.v o.key, o.v)]) :=
  step_eq U fuel s o ▸ add_fresh (outErr_none hok) hd

theorem step_refused {U : Nat → Attrs} {fuel : Nat} {s : State} {o : Op} {e : Err}
    (h : outErr (add U fuel s o.c o.v o.key).2 = some e) : step U fuel s o = s :=
  step_eq U fuel s o ▸ C11_refused U fuel s o.c o.v o.key e (outErr_some h)

theorem ex_step1 : step Uex 50 State.empty ⟨none, 0, none⟩ = sEx1 := step_fresh ex_facts.step1 rfl
theorem ex_step2 : step Uex 50 sEx1 ⟨some 0, 1, none⟩ = sEx2 := step_fresh ex_facts.step2 rfl
theorem ex_step3 : step Uex 50 sEx2 ⟨some 0, 3, none⟩ = sEx2 := step_refused ex_facts.step3
theorem ex_step4 : step Uex 50 sEx2 ⟨some 1, 2, none⟩ = sEx := step_fresh ex_facts.step4 rfl

theorem ex_run : run Uex 50 opsEx = sEx := by
  unfold run opsEx
  rw [List.foldl_cons, ex_step1, List.foldl_cons, ex_step2, List.foldl_cons, ex_step3, List.foldl_cons, ex_step4,
    List.foldl_nil]

theorem AddOk.of_not_placed {U : Nat → Attrs} {s : State} {c : Cont} {v : Nat} (h : ∀ d k, (k, v) ∉ s.kidsOf d) :
    AddOk U s c v none :=
  ⟨fun d k hm => absurd hm (h d k), fun _ k hk => by cases hk⟩

theorem ex_ok : OkRun Uex 50 State.empty opsEx := by
  have h2 : ∀ v, 1 < v → ∀ d k, (k, v) ∉ sEx2.kidsOf d := by
    intro v hv d k h
    cases d with
    | none => simp [State.kidsOf, sEx2] at h; omega
    | some i => simp only [State.kidsOf, sEx2] at h; split at h <;> simp at h; omega
  unfold opsEx OkRun
  refine ⟨.of_not_placed ?_, ?_⟩
  · intro d k h; simp [kidsOf_empty] at h
  rw [ex_step1]; unfold OkRun
  refine ⟨.of_not_placed ?_, ?_⟩
  · intro d k h; cases d <;> simp [State.kidsOf, sEx1] at h
  rw [ex_step2]; unfold OkRun
  refine ⟨.of_not_placed (h2 3 (by decide)), ?_⟩
  rw [ex_step3]; unfold OkRun
  exact ⟨.of_not_placed (h2 2 (by decide)), trivial⟩

theorem ex_inv : Inv Uex sEx := by
  have := C11_reachable_partial Uex 50 opsEx ex_ok
  rwa [ex_run] at this

theorem ex_desc (a x : Nat) (h : Desc sEx (some a) x) : (a = 0 ∧ (x = 1 ∨ x = 2)) ∨ (a = 1 ∧ x = 2) := by
  generalize hc : some a = c at h
  induction h generalizing a with
  | kid hm =>
    subst hc
    simp only [State.kidsOf, sEx] at hm
    split at hm
    · simp at hm; omega
    · split at hm
      · simp at hm; omega
      · simp at hm
  | deep hm _ ih =>
    subst hc
    simp only [State.kidsOf, sEx] at hm
    split at hm
    · simp at hm; obtain ⟨-, rfl⟩ := hm
      rcases ih 2 rfl with h1 | h1 <;> omega
    · split at hm
      · simp at hm; obtain ⟨-, rfl⟩ := hm
        rcases ih 1 rfl with h1 | h1 <;> omega
      · simp at hm

/-- the hypotheses of `C11_findable_inv_partial` hold for the depth-3 variant `A-B-C` of the example … -/
example : getitem Uex sEx none (Uex 2).uid = .ok 2 := by
  refine C11_findable_inv_partial Uex sEx ex_inv "A".toList 0 2 (by simp [sEx]) (Or.inr ?_) ?_ ?_ ?_
  · exact Desc.deep (k := "B".toList) (w := 1) (by simp [State.kidsOf, sEx]) (Desc.kid (k := "C".toList) (by simp [State.kidsOf, sEx]))
  · intro h; revert h; decide +kernel
  · intro k' t' hm; simp [sEx] at hm; obtain ⟨-, rfl⟩ := hm; decide +kernel
  · intro a hd kv hkv
    rcases ex_desc a 2 hd with ⟨rfl, -⟩ | ⟨rfl, -⟩
    · simp [sEx] at hkv; subst hkv; decide +kernel
    · simp [sEx] at hkv; subst hkv; decide +kernel
/-- … and the conclusion agrees with evaluation -/
example : resOf (getitem Uex sEx none "A-B-C".toList) = some 2 := ex_facts.getitem

/-- `C11_get_variants_strict_partial`: its hypothesis holds on the example, and three filtered calls agree with evaluation -/
example : ((([0, 1, 2] : List Nat).map fun x => (Uex x).uid).Nodup)
    ∧ resOf (getVariants Uex sEx 50 none none [] true) = some [0, 1, 2]
    ∧ resOf (getVariants Uex sEx 50 none (some "i386".toList) [] true) = some [0]
    ∧ resOf (getVariants Uex sEx 50 none (some srcA) ["variant".toList] true) = some [0, 1, 2] := ex_facts.get_variants

theorem ex_top_dashless : ∀ kv ∈ sEx.top, '-' ∉ (Uex kv.2).uid := by
  intro kv hkv; simp [sEx] at hkv; subst hkv; decide +kernel

/-- the hypotheses of `C11_get_variants_strict_dashless_partial` (hence `TopApart`) hold on the example -/
example : ∀ kv ∈ sEx.top, '-' ∉ (Uex kv.2).uid := ex_top_dashless
example (res : List Nat) (hr : getVariants Uex sEx 50 none (some srcA) [] true = .ok res) : res.Nodup :=
  (C11_get_variants_strict_dashless_partial Uex sEx ex_inv ex_top_dashless 50 _ _ _ res hr).2

/-- `C11_refused` is not vacuous: the refused third call of the example -/
example : (add Uex 50 sEx2 (some 0) 3 none).1 = sEx2 :=
  C11_refused Uex 50 sEx2 (some 0) 3 none _ (outErr_some ex_facts.step3)

theorem upar_apart : UidsApart Upar := by
  have nodash : ∀ n, '-' ∉ List.replicate n 'a' := by
    intro n h; have := (List.mem_replicate.mp h).2; revert this; decide
  constructor
  · intro i j h
    unfold Upar at h
    by_cases hi : i % 2 = 0 <;> by_cases hj : j % 2 = 0 <;> simp only [hi, hj, if_true, if_false] at h
    · have := congrArg List.length h; simp at this; omega
    · exfalso; apply nodash (i / 2 + 1); rw [h]; simp
    · exfalso; apply nodash (j / 2 + 1); rw [← h]; simp
    · have := congrArg List.length h; simp at this; omega
  · intro i h
    have ha : 'a' ∈ Str.removeChar '-' (Upar i).uid := by
      unfold Upar Str.removeChar
      by_cases hi : i % 2 = 0 <;> simp [hi]
    rw [h] at ha; simp at ha

example : UidsApart Upar := upar_apart
/-- and the all-histories theorem applies to it: e.g. top-level `a`, its child `a-b`, then the child handed to the top level
and to another parent – both refused, the forest keeps the full invariant -/
example : Inv Upar (run Upar 50 [⟨none, 0, none⟩, ⟨some 0, 1, none⟩, ⟨none, 1, none⟩, ⟨some 2, 1, none⟩]) :=
  C11_reachable_distinct_partial Upar upar_apart 50 _ (by intro o ho; simp at ho; rcases ho with rfl | rfl | rfl | rfl <;> rfl)
example : (run Upar 50 [⟨none, 0, none⟩, ⟨some 0, 1, none⟩, ⟨none, 1, none⟩, ⟨some 2, 1, none⟩]).kids 0 = [(['b'], 1)]
    ∧ (run Upar 50 [⟨none, 0, none⟩, ⟨some 0, 1, none⟩, ⟨none, 1, none⟩, ⟨some 2, 1, none⟩]).top = [(['a'], 0)] :=
  ex_facts.upar

/-- Both invariants survive every `del` – successful or raising, plain or dashed name, any container: the unconditional `InvW`
and the full `Inv`, the latter with NO hypothesis on the call (every clause of `Inv` is about entries that are present; the
stale parent pointer of the removed object is outside what `Inv` constrains). -/
theorem C11_del_inv (U : Nat → Attrs) (s : State) (c : Cont) (name : Str) :
    (InvW U s → InvW U (delitem s c name).1) ∧ (Inv U s → Inv U (delitem s c name).1) := by
  rcases delitem_cases s c name with ⟨-, h⟩ | ⟨d, k, v, -, h⟩
  · rw [h]; exact ⟨id, id⟩
  · rw [h]; exact ⟨fun hI => hI.erased d k, fun hI => hI.erased d k⟩

/-- A `del` that raises raises `KeyError` – never a recursion or unpacking error – and has changed NOTHING (children dicts
and parent pointers); a plain name that is no key raises, and so does a dashed name whose first segment is no key. -/
theorem C11_del_missing_keyerror (s : State) (c : Cont) (name : Str) :
    (∀ e, (delitem s c name).2 = .error e → e = .keyError ∧ (delitem s c name).1 = s) ∧
    (dget name (s.kidsOf c) = none → '-' ∉ name → delitem s c name = (s, .error .keyError)) ∧
    (∀ head tail, name = head ++ '-' :: tail → '-' ∉ head → dget name (s.kidsOf c) = none → dget head (s.kidsOf c) = none →
      delitem s c name = (s, .error .keyError)) := by
  refine ⟨?_, ?_, ?_⟩
  · intro e he
    rcases delitem_cases s c name with ⟨-, h⟩ | ⟨d, k, v, -, h⟩
    · rw [h] at he ⊢; cases he; exact ⟨rfl, rfl⟩
    · rw [h] at he; cases he
  · intro hn hd
    unfold delitem
    rw [delitemF, hn]
    simp [hd]
  · intro head tail hname hhead hn hh
    unfold delitem
    rw [delitemF, hn, hname, split1_append_cons '-' head tail hhead, ← hname]
    have : name.contains '-' = true := by rw [hname]; exact contains_dash head tail
    rw [this]; simp [hh]

/-- Frame: a successful `del c[name]` designates an entry `k ↦ v` of a dict `d` at or below `c` (`d = c`, `k = name` when
`name` is a key of `c`) and afterwards that dict is the old one without the entry – same order –, every other dict (the
removed object's own children dict included, when `some v ≠ d`) and EVERY parent pointer (the removed object's included) are
what they were. -/
theorem C11_del_frame (s : State) (c : Cont) (name : Str) (h : (delitem s c name).2 = .ok ()) :
    ∃ d k v, delResolve s c name = .ok (d, k, v) ∧ dget k (s.kidsOf d) = some v ∧
      ((d = c ∧ k = name) ∨ ∃ w, d = some w ∧ Desc s c w) ∧
      (delitem s c name).1.kidsOf d = derase k (s.kidsOf d) ∧
      (∀ x, x ≠ d → (delitem s c name).1.kidsOf x = s.kidsOf x) ∧
      (delitem s c name).1.parent = s.parent ∧
      (∀ k' w, (k', w) ∈ s.kidsOf d → k' ≠ k → (k', w) ∈ (delitem s c name).1.kidsOf d) := by
  rcases delitem_cases s c name with ⟨-, h'⟩ | ⟨d, k, v, hr, h'⟩
  · rw [h'] at h; cases h
  · have hok := delResolveF_ok hr
    refine ⟨d, k, v, hr, hok.1, hok.2, ?_, ?_, ?_, ?_⟩
    · rw [h', erased_kidsOf]; simp
    · intro x hx; rw [h', erased_kidsOf]; simp [hx]
    · rw [h']; exact erased_parent s d k
    · intro k' w hm hne; rw [h', erased_kidsOf]; simp only [if_true]; exact mem_derase_of_ne hm hne

/-- After a successful `del` that designated `k ↦ v` in `d`, on a forest satisfying the full `Inv`: `v` sits in no dict any
more, and neither `v` nor anything below it (its children dict is untouched: `C11_del_frame`) is reachable from the top-level
container, returned by ANY `get_variants` on it, or returned by ANY lookup `ci[…]`; the key is gone from `d`.
(`Inv` is needed: under F33 an object may sit in two dicts and `del` removes one entry.) -/
theorem C11_del_removes_subtree (U : Nat → Attrs) (s : State) (hI : Inv U s) (c : Cont) (name : Str) (d : Cont) (k : Str) (v : Nat)
    (hr : delResolve s c name = .ok (d, k, v)) :
    ¬ Placed (delitem s c name).1 v ∧ dget k ((delitem s c name).1.kidsOf d) = none ∧
    ∀ x, (x = v ∨ Desc (delitem s c name).1 (some v) x) →
      ¬ Desc (delitem s c name).1 none x ∧
      (∀ fuel arch types recursive res, getVariants U (delitem s c name).1 fuel none arch types recursive = .ok res → x ∉ res) ∧
      (∀ nm, getitem U (delitem s c name).1 none nm ≠ .ok x) := by
  have h' : delitem s c name = (erased s d k, .ok ()) := delitem_of_resolve hr
  have hmem : (k, v) ∈ s.kidsOf d := dget_mem (delResolveF_ok hr).1
  have hI' : Inv U (erased s d k) := hI.erased d k
  rw [h']
  have hnp : ¬ Placed (erased s d k) v := by
    rintro ⟨x, k', hm⟩
    have hx : x = d := by
      have h1 := hI.parent x k' v (erased_sub hm)
      have h2 := hI.parent d k v hmem
      rw [h1] at h2; exact h2
    subst hx
    rw [erased_kidsOf] at hm
    simp only [if_true] at hm
    exact val_not_mem_derase (hI.weak.keys x) (hI.once x) hmem (List.mem_map.mpr ⟨(k', v), hm, rfl⟩)
  have hnd : ∀ x, (x = v ∨ Desc (erased s d k) (some v) x) → ¬ Desc (erased s d k) none x := by
    intro x hx htop
    have hv : Desc (erased s d k) none v := by
      rcases hx with rfl | hx
      · exact htop
      · exact hx.up hI' htop
    obtain ⟨d', k', hm, -⟩ := hv.last
    exact hnp ⟨d', k', hm⟩
  refine ⟨hnp, ?_, ?_⟩
  · rw [erased_kidsOf]; simp only [if_true]; exact dget_derase_self (hI.weak.keys d)
  · intro x hx
    refine ⟨hnd x hx, ?_, ?_⟩
    · intro fuel arch types recursive res hres hmem'
      rcases C11_get_variants_sound U _ hI'.weak fuel none arch types recursive res hres x hmem' with ⟨h1, -⟩ | ⟨h1, -⟩
      · cases h1
      · exact hnd x hx h1
    · intro nm hg
      exact hnd x hx (getitemF_desc hg)

/-- Every state reachable from the empty forest by ANY history of `add` calls (accepted or refused) and `del` statements
(successful or raising) satisfies `InvW`. -/
theorem C11_reachable_with_del (U : Nat → Attrs) (fuel : Nat) (ops : List HOp) : InvW U (hrun U fuel ops) :=
  List.foldlRecOn (motive := InvW U) ops (hstep U fuel) (InvW.empty U) fun s h o _ =>
    match o with
    | .add a => h.step fuel a
    | .del c name => (C11_del_inv U s c name).1 h

/-- every `add` of the history satisfies `AddOk` in the state it is made in; nothing is asked of the `del`s -/
def OkHRun (U : Nat → Attrs) (fuel : Nat) : State → List HOp → Prop
  | _, [] => True
  | s, .add a :: os => AddOk U s a.c a.v a.key ∧ OkHRun U fuel (hstep U fuel s (.add a)) os
  | s, .del c name :: os => OkHRun U fuel (hstep U fuel s (.del c name)) os

/-- …and the full `Inv` when no `add` hands over an object that is filed elsewhere AT THAT MOMENT (the hypothesis of
`C11_reachable_partial`; F33/F29).  An object removed by `del` is filed nowhere, so it may be re-added anywhere. -/
theorem C11_reachable_with_del_partial (U : Nat → Attrs) (fuel : Nat) (ops : List HOp)
    (hf : OkHRun U fuel State.empty ops) : Inv U (hrun U fuel ops) :=
  foldl_inv (hstep U fuel) (Inv U) (OkHRun U fuel)
    (fun s o os h hf => by
      cases o with
      | add a => rw [OkHRun] at hf; exact ⟨h.step fuel a hf.1, hf.2⟩
      | del c name => rw [OkHRun] at hf; exact ⟨(C11_del_inv U s c name).2 h, hf⟩)
    ops _ (Inv.empty U) hf

/-- F48 (finding): `del` and `__getitem__` resolve a dashed name DIFFERENTLY.  With top-level `ServerTools` (UID `Server-Tools`)
next to `Server → Tools` (the F14 forest), `ci["Server-Tools"]` is the top-level variant, but `del ci["Server-Tools"]` removes
the CHILD `Tools` of `Server`; the top-level variant is still there and still what `ci["Server-Tools"]` returns. -/
theorem C11_del_other_witness :
    resOf (getitem U14 s14 none "Server-Tools".toList) = some 2 ∧
    resOf (delResolve s14 none "Server-Tools".toList) = some (some 0, "Tools".toList, 1) ∧
    outErr (delitem s14 none "Server-Tools".toList).2 = none ∧
    (delitem s14 none "Server-Tools".toList).1.top = [("Server".toList, 0), ("ServerTools".toList, 2)] ∧
    (delitem s14 none "Server-Tools".toList).1.kids 0 = [] ∧
    resOf (getitem U14 (delitem s14 none "Server-Tools".toList).1 none "Server-Tools".toList) = some 2 := del_facts.other

theorem C11_del_uid_keyerror_witness :
    s48.top = [("ServerTools".toList, 0)] ∧ resOf (getitem U48 s48 none "Server-Tools".toList) = some 0 ∧
    outErr (delitem s48 none "Server-Tools".toList).2 = some .keyError := del_facts.uid_keyerror

/-- F48 in the other direction (with F27): on `A → {A → {C}, C}` the name `A-A-C` is looked up as the sibling `A-C` (object 2) but
deleted as the real `A-A-C` (object 3). -/
theorem C11_del_shadow_witness :
    resOf (getitem U20 s20 none "A-A-C".toList) = some 2 ∧
    resOf (delResolve s20 none "A-A-C".toList) = some (some 1, "C".toList, 3) := del_facts.shadow

/-- The parent pointer of a removed variant is NOT reset (`S → C`, `del S["C"]`: `C.parent` is still `S`, `S` has no children);
`add` overwrites the pointer before it validates, so the stale value is never validated against: re-adding `C` to `S` is
accepted and gives back the forest before the `del`; a refused re-add elsewhere (top level: UID does not align) restores the
STALE pointer. -/
theorem C11_del_stale_parent_example :
    outErr (delitem s19 (some 0) "C".toList).2 = none ∧
    (delitem s19 (some 0) "C".toList).1.kids 0 = [] ∧ (delitem s19 (some 0) "C".toList).1.parent 1 = some 0 ∧
    outErr (add U19 50 (delitem s19 (some 0) "C".toList).1 (some 0) 1 none).2 = none ∧
    (add U19 50 (delitem s19 (some 0) "C".toList).1 (some 0) 1 none).1.kids 0 = [("C".toList, 1)] ∧
    outErr (add U19 50 (delitem s19 (some 0) "C".toList).1 none 1 none).2 = some .valueError ∧
    (add U19 50 (delitem s19 (some 0) "C".toList).1 none 1 none).1.parent 1 = some 0 := del_facts.stale_parent

/-- `C11_del_removes_subtree` on the example forest `A → B → C`: `del ci["A-B"]` designates `B` in `A`'s dict (hypotheses:
`ex_inv` and this evaluation), and afterwards `get_variants` on the top returns `A` only, `ci["A-B-C"]` raises. -/
example : delResolve sEx none "A-B".toList = .ok (some 0, "B".toList, 1) := rfl
example : ∀ nm, getitem Uex (delitem sEx none "A-B".toList).1 none nm ≠ .ok 2 :=
  fun nm => ((C11_del_removes_subtree Uex sEx ex_inv none "A-B".toList (some 0) "B".toList 1 rfl).2.2 2
    (Or.inr (Desc.kid (k := "C".toList) (by decide +kernel)))).2.2 nm
example : resOf (getVariants Uex (delitem sEx none "A-B".toList).1 50 none none [] true) = some [0] ∧
    outErr (delitem (delitem sEx none "A-B".toList).1 none "A-B".toList).2 = some .keyError := del_facts.example_forest
/-- a history with deletes: add, del, del of a missing name -/
example : OkHRun Uex 50 State.empty [.add ⟨none, 0, none⟩, .del none "A".toList, .del none "A".toList] := by
  refine ⟨⟨?_, (fun _ k hk => by cases hk)⟩, trivial⟩
  rintro c k h; simp [kidsOf_empty] at h

end PM.Forest
