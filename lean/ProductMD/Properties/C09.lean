import ProductMD.Proofs.ImagesHistory
import ProductMD.Proofs.C10ImagesRefile
/-!
# C09 — image identity is unique within a manifest

Model: `Img.add` runs the statement list of `Images.add` **as read from the current source**
(`Gen.images_add_script`, tools/gen_images.py) on a state that survives an exception; the identity tuple is the
generated `Gen.UNIQUE_IMAGE_ATTRIBUTES`; the version gate is the generated `Gen.gate_images_Images_add_0`.
`Spec.Uniq` is written with the seven attributes spelled out (`Spec/Images.lean`).

An image object is a pair (object id, attributes); histories are lists of `AddOp` of any length; a manifest has any
number of variants, arches and images.
-/
namespace PM
open PM.Img PM.PyOps PM.Spec

/-- the identity tuple of the code is the documented one (dropping or adding an attribute breaks this) -/
theorem C09_tuple : Gen.UNIQUE_IMAGE_ATTRIBUTES = Spec.identity7Names := by decide

/-- the code's `identify_image` on an object computes the spec tuple, for every image -/
theorem C09_identify_is_spec (i : Image) : identifyObj i = Spec.identity7 i := identifyObj_eq_spec i

/-- obligations on the statement order of `Images.add` read from the source: nothing that can raise
follows the insertion, and the insertion follows the scan -/
theorem C09_script : safeOrder Gen.images_add_script = true ∧ scanGuard Gen.images_add_script false = true := by decide

/-- the gate in front of the scan is `>= (1, 1)` -/
theorem C09_gate : Gen.gate_images_Images_add_0 = { op := .ge, bound := (1, 1) } := by decide

/-- by `C09_gate` the scan is on exactly for header versions `(1, 1) ≤ v` -/
theorem C09_enforces_iff (ver : PyVal) (v : Nat × Nat) (h : versionTuple ver = .ok (.nums v)) :
    Enforces ver ↔ verLe (1, 1) v = true := by
  unfold Enforces
  rw [h]
  simp only [Except.bind, gateEval, C09_gate, Gate.eval?]
  constructor
  · intro h; injection h
  · intro h; rw [h]

/-- **step**: an `add` on a unique manifest of format ≥ 1.1 yields a unique manifest, accepted or refused -/
theorem C09_step (s : ImgState) (v a : Str) (id : Nat) (img : Image)
    (hv : Enforces s.version) (h : Uniq s.cells) : Uniq (add s v a id img).1.cells :=
  uniq_of_scanGuard v a id img addScript s false C09_script.2 hv h (fun hf => by cases hf)

theorem uniq_stable {ver : PyVal} (hv : Enforces ver) : AddStable ver Uniq :=
  fun s v a id img _ _ hs hu => C09_step s v a id img (hs ▸ hv) hu

theorem uniq_nil : Uniq [] := fun _ hi => nomatch hi

/-- **refusal**: an `add` that raises leaves the manifest exactly as it was (any version, any state) -/
theorem C09_refusal (s : ImgState) (v a : Str) (id : Nat) (img : Image) (e : Err) :
    (add s v a id img).2 = .error e → (add s v a id img).1 = s :=
  refusal_of_safeOrder v a id img addScript s C09_script.1 e

/-- under an enforcing (hence valid) header version the only exception `add` raises is ValueError -/
theorem C09_refusal_class (s : ImgState) (v a : Str) (id : Nat) (img : Image) (e : Err) (hv : Enforces s.version) :
    (add s v a id img).2 = .error e → e = .valueError := by
  intro h
  rcases add_state s v a id img with ⟨_, e', he', hcls⟩ | ⟨h', _⟩
  · rw [he'] at h
    exact Except.error.inj h ▸ hcls hv
  · rw [h'] at h
    cases h

/-- **no spurious refusal**: an admissible arch and no conflicting image ⇒ the add succeeds and files the object
in exactly that cell -/
theorem C09_accepts (s : ImgState) (v a : Str) (id : Nat) (img : Image) (hv : Enforces s.version)
    (ha : Gen.RPM_ARCHES.contains a = true) (hr : refusedArches.contains a = false) (hc : conflict s.cells img = false) :
    add s v a id img = ({ s with cells := cellsAdd s.cells v a id img }, .ok ()) :=
  add_accepts s v a id img hv ⟨ha, hr⟩ hc

/-- **reachable**, from any unique manifest: every sequence of `add` calls (refused ones included) under an enforcing header
version keeps it unique -/
theorem C09_reachable_from (s : ImgState) (hv : Enforces s.version) (hu : Uniq s.cells) (ops : List AddOp) :
    Uniq (ops.foldl step s).cells :=
  -- the base case as a term makes the elaborator unfold `Enforces` while the start state is still unknown
  (List.foldlRecOn (motive := fun s => Enforces s.version ∧ Uniq s.cells) ops step (by exact ⟨hv, hu⟩) fun s h op _ => by
    rw [show step s op = (add s op.variant op.arch op.id op.img).1 from rfl, (add_frame s op.variant op.arch op.id op.img).1]
    exact ⟨h.1, C09_step s op.variant op.arch op.id op.img h.1 h.2⟩).2

/-- `C09_reachable_from` on an empty `Images()` whose header version enforces the scan: every manifest built by `add` calls is unique -/
theorem C09_reachable (ver : PyVal) (hv : Enforces ver) (ops : List AddOp) :
    Uniq (ops.foldl step { version := ver }).cells :=
  C09_reachable_from { version := ver } hv uniq_nil ops

/-- either reader (`deserialize`, `deserializeL`: they differ in `compR` only), started on an empty manifest -/
theorem Img.readWith_uniq {compR : PyVal → PyVal → Except Err Compose} {d : PyVal} {s : ImgState} {ver : PyVal}
    (hver : headerDeserialize d = .ok ver) (hv : Enforces ver) (h : readWith compR [] 0 d = .ok s) : Uniq s.cells :=
  readWith_inv (fun _ hver' => uniq_stable (Except.ok.inj (hver.symm.trans hver') ▸ hv)) uniq_nil h

/-- **load**: a manifest obtained from a document whose header version enforces the scan is unique -/
theorem C09_load (d : PyVal) (s : ImgState) (ver : PyVal) (hver : headerDeserialize d = .ok ver) (hv : Enforces ver)
    (h : deserialize d = .ok s) : Uniq s.cells :=
  readWith_uniq hver hv ((deserialize_eq_readWith d).symm.trans h)

/-- **a document containing a colliding pair is rejected**, for every format version that enforces the scan (1.1, 1.2,
later).  The image table of the document is `O` (a parsed JSON object: unique keys at both levels).  If two entries of
the table are read as images with the same identity and different checksums, `deserialize` raises.  In a document old
enough for the `src` re-filing (`old`, i.e. ≤ 1.1 by the generated gate) the two entries must not sit under a `src`
key: such entries are re-filed under the variant's other arches or dropped (C10), they are not part of the manifest
the document describes; for documents newer than 1.1 (`old = false`) the side condition is void. -/
theorem C09_load_rejects (ver : PyVal) (vt : VerT) (hvt : versionTuple ver = .ok vt) (old : Bool)
    (hold : gateEval Gen.gate_images_Images_deserialize_0 vt = .ok old) (hv : Enforces ver)
    (hdr comp : PyVal) (O : OutCells) (hO : OutNodup O)
    (hhead : headerDeserialize (.dict [(L "header", hdr), (L "payload", .dict [(L "images", O.toPy), (L "compose", comp)])]) = .ok ver)
    (t1 t2 : Str × Str × PyVal) (ht1 : t1 ∈ outTriples O) (ht2 : t2 ∈ outTriples O)
    (hs1 : old = true → t1.2.1 ≠ L "src") (hs2 : old = true → t2.2.1 ≠ L "src") (i j : Image)
    (h1 : Image.deserialize ver t1.2.2 = .ok i) (h2 : Image.deserialize ver t2.2.2 = .ok j)
    (hid : SameIdentity i j) (hck : ¬ PyEq i.checksums j.checksums) :
    ∃ e, deserialize (.dict [(L "header", hdr), (L "payload", .dict [(L "images", O.toPy), (L "compose", comp)])]) = .error e := by
  cases hd : deserialize (.dict [(L "header", hdr), (L "payload", .dict [(L "images", O.toPy), (L "compose", comp)])]) with
  | error e => exact ⟨e, rfl⟩
  | ok s =>
    exfalso
    have hu := C09_load _ s ver hhead hv hd
    have hf := fun {t i} => C10.filed_of_table hd hhead hvt hold rfl hO (O := O) rfl (t := t) (i := i)
    exact hck (hu i (hf ht1 hs1 h1) j (hf ht2 hs2 h2) hid)

/-! `dumps()` sets the header to the current version, `loads` replaces it, a caller may assign it: the version is part
of the state.  Below 1.1 nothing is checked, so `Uniq` is not an invariant of such histories; what holds, for ANY
state however it was produced, is that a step taken at an enforcing version creates no new colliding pair. -/

/-- an `add` accepted at an enforcing version: the new image collides with nothing in the manifest — including images
that entered while the gate was closed (the scan looks at the real content of `self.images`) -/
theorem C09_add_guard (s s' : ImgState) (v a : Str) (id : Nat) (img : Image) (hv : Enforces s.version)
    (h : add s v a id img = (s', .ok ())) :
    ∀ cur ∈ s'.cells.all, SameIdentity cur img → PyEq cur.checksums img.checksums := by
  obtain ⟨hcells, _, hc⟩ := add_ok h
  have hc := hc hv
  have := (conflict_false_iff _ _).mp (conflict_after_insert (v := v) (a := a) (id := id) hc)
  rw [hcells]
  exact this

/-- **per step, any state**: every colliding pair present after an `add` at an enforcing version (accepted or
refused) was already present before it -/
theorem C09_no_new_pair (s : ImgState) (v a : Str) (id : Nat) (img : Image) (hv : Enforces s.version) :
    NoNewPairs s.cells (add s v a id img).1.cells := add_noNewPairs s v a id img hv

/-- `dumps()` does not touch the images and leaves the header at the current version, which enforces the scan — also
when it raises (the header is set before anything can fail) -/
theorem C09_dumps_enforces (s : ImgState) : (dumps s).1.cells = s.cells ∧ Enforces (dumps s).1.version := by
  rw [dumps_state]
  exact ⟨rfl, cur_enforces⟩

/-- **gate-crossing histories**: for any sequence of `add` / `dumps` / `header.version = …` / `loads`-into-the-same-
object / `discard` / `del` in which every `add` and `loads` happens at an enforcing version (of the object at that moment, resp. of
the document), every colliding pair of the final manifest was already in the initial one.  The step `hstep` is total: a `loads` that
raised is a step like any other, and the history goes on with the object as it was left. -/
theorem C09_history_pairs (s : ImgState) (ops : List HOp) (h : EnforcedRun s ops) :
    NoNewPairs s.cells (ops.foldl (fun s op => (hstep s op).1) s).cells :=
  foldl_inv (fun s op => (hstep s op).1) (fun s' => NoNewPairs s.cells s'.cells) EnforcedRun
    (fun s' op _ hp hq => ⟨hp.trans (hstep_noNewPairs s' op hq.1), hq.2⟩) ops s (.refl _) h

/-- `C09_history_pairs` from a unique manifest (e.g. the empty one): the result is unique -/
theorem C09_history (s : ImgState) (ops : List HOp) (h : EnforcedRun s ops) (hu : Uniq s.cells) :
    Uniq (ops.foldl (fun s op => (hstep s op).1) s).cells := uniq_of_noNewPairs (C09_history_pairs s ops h) hu

/-- `loads` of an enforcing document into an object in use keeps a unique manifest unique -/
theorem C09_load_into (doc : PyVal) (s0 s : ImgState) (n0 : Nat)
    (hv : ∀ ver, headerDeserialize doc = .ok ver → Enforces ver) (hu : Uniq s0.cells)
    (h : deserializeInto s0 n0 doc = .ok s) : Uniq s.cells :=
  uniq_of_noNewPairs (deserializeInto_noNewPairs doc s0 s n0 hv h) hu

/-! `Images.deserialize` assigns `header.version` first, then the compose fields, then files image after image through
`add`; nothing is cleared before and nothing is rolled back after an exception.  A caller that catches the exception
holds an object with the document's header version, the images that were there before and the images of the
document read before the offending entry. -/

/-- no new colliding pair in the object `loads` leaves behind, for every outcome of the call -/
theorem C09_failed_load_pairs (doc : PyVal) (s0 : ImgState) (n0 : Nat)
    (hv : ∀ ver, headerDeserialize doc = .ok ver → Enforces ver) :
    NoNewPairs s0.cells (loadsInto s0 n0 doc).1.cells := loadsInto_noNewPairs doc s0 n0 hv

/-- **failed load**: `loads` of a document whose header — the gate in force while its images are filed — enforces
the scan, into a unique manifest, raises `e`: the object left behind is a unique manifest (partial content included).  The conclusion
holds for every outcome of the call (`C09_failed_load_pairs`); `_hfail` only names the case the property is about. -/
theorem C09_failed_load_invariant (doc : PyVal) (s0 : ImgState) (n0 : Nat) (e : Err)
    (hv : ∀ ver, headerDeserialize doc = .ok ver → Enforces ver) (hu : Uniq s0.cells)
    (_hfail : (loadsInto s0 n0 doc).2 = .error e) : Uniq (loadsInto s0 n0 doc).1.cells :=
  uniq_of_noNewPairs (loadsInto_noNewPairs doc s0 n0 hv) hu

/-- the header a failed load leaves is what `Header.deserialize` assigned: the document's `header.version` as it
stands in the document (validated or not), or the old one when the document has none; it is not reset to the current
version -/
theorem C09_failed_load_version (doc : PyVal) (s0 : ImgState) (n0 : Nat) (e : Err)
    (hfail : (loadsInto s0 n0 doc).2 = .error e) :
    (loadsInto s0 n0 doc).1.version = (headerDeserializeInto s0.version doc).1 := by
  rw [loadsInto_version, hfail]

/-- a load that returns leaves the current version (which enforces the scan: `cur_enforces`) -/
theorem C09_load_version_ok (doc : PyVal) (s0 : ImgState) (n0 : Nat) (h : (loadsInto s0 n0 doc).2 = .ok ()) :
    (loadsInto s0 n0 doc).1.version = .str currentVersion := by
  rw [loadsInto_version, h]

/-- **the gate after a failed load, header readable**: the object carries the document's version; when that
enforces the scan, every later `add` is checked against everything present -/
theorem C09_failed_load_gate (doc : PyVal) (s0 : ImgState) (n0 : Nat) (e : Err) (ver : PyVal)
    (hver : headerDeserialize doc = .ok ver) (hfail : (loadsInto s0 n0 doc).2 = .error e) :
    (loadsInto s0 n0 doc).1.version = ver := by
  rw [C09_failed_load_version doc s0 n0 e hfail, headerDeserializeInto_iff.mpr hver]

theorem enforces_after_loads (doc : PyVal) (s0 : ImgState) (n0 : Nat) (ver : PyVal)
    (hver : headerDeserialize doc = .ok ver) (hv : Enforces ver) : Enforces (hstep s0 (.loads doc n0)).1.version := by
  show Enforces (loadsInto s0 n0 doc).1.version
  cases h : (loadsInto s0 n0 doc).2 with
  | ok u =>
    cases u
    rw [C09_load_version_ok doc s0 n0 h]
    exact cur_enforces
  | error e =>
    rw [C09_failed_load_gate doc s0 n0 e ver hver h]
    exact hv

/-- **header not readable** (missing, version malformed, wrong `type` at ≥ 1.1): the call raises with the images untouched -/
theorem C09_failed_header_cells (doc : PyVal) (s0 : ImgState) (n0 : Nat) (e : Err) (hh : headerDeserialize doc = .error e) :
    (loadsInto s0 n0 doc).1.cells = s0.cells ∧ ∃ e', (loadsInto s0 n0 doc).2 = .error e' := by
  unfold loadsInto
  split
  · rename_i e' _; exact ⟨rfl, e', rfl⟩
  · rename_i ver heq
    rw [headerDeserializeInto_iff.mp heq] at hh
    cases hh

/-- **histories over the total step**: the same statement as `C09_history_pairs` (`hstep` is total there) -/
theorem C09_history_total_pairs (s : ImgState) (ops : List HOp) (h : EnforcedRun s ops) :
    NoNewPairs s.cells (ops.foldl (fun s op => (hstep s op).1) s).cells := C09_history_pairs s ops h

/-- the same statement as `C09_history` -/
theorem C09_history_total (s : ImgState) (ops : List HOp) (h : EnforcedRun s ops) (hu : Uniq s.cells) :
    Uniq (ops.foldl (fun s op => (hstep s op).1) s).cells := C09_history s ops h hu

/-- the step `hstep` takes for `loads` is `loadsInto`, whatever the outcome (the history does not end there) -/
theorem C09_hstep_loads (s : ImgState) (doc : PyVal) (n0 : Nat) : hstep s (.loads doc n0) = loadsInto s n0 doc := rfl

/-- **identity**: for an image that validates (hence can be written), the identity computed from the object
equals the identity computed from its serialised dictionary (which lacks `unified` / `additional_variants`
unless the image is unified) -/
theorem C09_identity (i : Image) (h : i.validate = .ok ()) : identifyObj i = identifyDict i.dict :=
  identity_obj_dict i h

/-- `C09_identity` for the dictionary `Image.serialize` returns (it is `i.dict`, written after validation) -/
theorem C09_identity_serialized (i : Image) (d : PyVal) (h : i.serialize = .ok d) : identifyObj i = identifyDict d :=
  (Post.validated_ok (P := fun d => identifyObj i = identifyDict d) (identity_obj_dict i)).elim h

/-- two images with the same identity and different checksums -/
def witnessA : Image :=
  { path := .str (L "a.iso"), mtime := .int 1, size := .int 1, type := .str (L "dvd"), format := .str (L "iso"),
    arch := .str (L "x86_64"), disc_number := .int 1, disc_count := .int 1, checksums := .dict [(L "md5", .str (L "a"))],
    subvariant := .str [] }
def witnessB : Image := { witnessA with path := .str (L "b.iso"), checksums := .dict [(L "md5", .str (L "b"))] }

def witnessOps : List AddOp := [⟨L "Server", L "x86_64", 0, witnessA⟩, ⟨L "Client", L "i386", 1, witnessB⟩]

/-- an object in use: fresh `Images()`, `witnessA` added, `dumps()` called (header now at the current version) -/
def usedState : ImgState := (hstep (hstep ImgState.fresh (.add ⟨L "Server", L "x86_64", 0, witnessA⟩)).1 .dumps).1

def witnessCompose : PyVal :=
  .dict [(L "id", .str (L "Fedora-22-20131212.0")), (L "type", .str (L "production")), (L "date", .str (L "20131212")), (L "respin", .int 0)]

/-- a document of format `ver`: the images `imgs` under Client/i386, then an entry without any key (KeyError) -/
def brokenDoc (ver : Str) (imgs : List Image) : PyVal :=
  .dict [(L "header", .dict [(L "version", .str ver), (L "type", .str Gen.HEADER_TYPE_Images)]),
         (L "payload", .dict [(L "compose", witnessCompose),
            (L "images", .dict [(L "Client", .dict [(L "i386", .list (imgs.map Image.dict ++ [.dict []]))])])])]

/-- a third image: other identity (disc 2) -/
def witnessC : Image := { witnessA with path := .str (L "c.iso"), disc_number := .int 2, checksums := .dict [(L "md5", .str (L "c"))] }

attribute [local instance] decEqPyVal

/-- closed facts about the witness manifests, evaluated in one declaration (DESIGN.md §3, closed facts) -/
structure WitnessFacts : Prop where
  collide : identEq witnessA witnessB = true ∧ ckEq witnessA witnessB = false
  valid : witnessA.validate = .ok ()
  below : (witnessOps.foldl step ImgState.fresh).cells.all = [witnessA, witnessB]
    ∧ (witnessOps.foldl step (empty (L "1.0"))).cells.all = [witnessA, witnessB]
  refused :
    (add (step (empty (L "1.1")) ⟨L "Server", L "x86_64", 0, witnessA⟩) (L "Client") (L "i386") 1 witnessB).2 = .error .valueError
    ∧ (add (step (empty (L "1.2")) ⟨L "Server", L "x86_64", 0, witnessA⟩) (L "Client") (L "i386") 1 witnessB).2 = .error .valueError
  cross :
    (hstep (hstep (hstep ImgState.fresh (.add ⟨L "Server", L "x86_64", 0, witnessA⟩)).1 .dumps).1
      (.add ⟨L "Client", L "i386", 1, witnessB⟩)).2 = .error .valueError
    ∧ (hstep (hstep (hstep ImgState.fresh (.add ⟨L "Server", L "x86_64", 0, witnessA⟩)).1 (.setVersion (.str (L "1.1")))).1
      (.add ⟨L "Client", L "i386", 1, witnessB⟩)).2 = .error .valueError
  used : usedState.version = .str currentVersion ∧ usedState.cells.all = [witnessA]
  failed :
    (loadsInto usedState 1000 (brokenDoc (L "1.2") [witnessC])).2 = .error .keyError
    ∧ (loadsInto usedState 1000 (brokenDoc (L "1.2") [witnessC])).1.cells.all = [witnessA, witnessC]
    ∧ (loadsInto usedState 1000 (brokenDoc (L "1.2") [witnessC])).1.version = .str (L "1.2")
    ∧ (loadsInto usedState 1000 (brokenDoc (L "1.1") [witnessB])).2 = .error .valueError
    ∧ (loadsInto usedState 1000 (brokenDoc (L "1.1") [witnessB])).1.cells.all = [witnessA]
    ∧ (loadsInto usedState 1000 (brokenDoc (L "1.1") [witnessB])).1.version = .str (L "1.1")
    ∧ (add (loadsInto usedState 1000 (brokenDoc (L "1.1") [witnessB])).1 (L "Client") (L "i386") 1 witnessB).2 = .error .valueError
  header : headerDeserialize (brokenDoc (L "1.2") [witnessC]) = .ok (.str (L "1.2"))
  /-- `C09_failed_load_below_witness` with the two manifests that are not unique spelled out -/
  failed_below :
    (add usedState (L "Client") (L "i386") 1 witnessB).2 = .error .valueError
    ∧ (loadsInto usedState 1000 (brokenDoc (L "1.0") [witnessB])).2 = .error .keyError
    ∧ (loadsInto usedState 1000 (brokenDoc (L "1.0") [witnessB])).1.version = .str (L "1.0")
    ∧ (loadsInto usedState 1000 (brokenDoc (L "1.0") [witnessB])).1.cells.all = [witnessA, witnessB]
    ∧ (loadsInto usedState 1000 (brokenDoc (L "1.0") [])).1.cells.all = [witnessA]
    ∧ (add (loadsInto usedState 1000 (brokenDoc (L "1.0") [])).1 (L "Client") (L "i386") 1 witnessB).2 = .ok ()
    ∧ (add (loadsInto usedState 1000 (brokenDoc (L "1.0") [])).1 (L "Client") (L "i386") 1 witnessB).1.cells.all = [witnessA, witnessB]
  ok_below :
    (loadsInto usedState 1000 (.dict [(L "header", .dict [(L "version", .str (L "1.0"))]),
        (L "payload", .dict [(L "compose", witnessCompose), (L "images", .dict [])])])).2 = .ok ()
    ∧ (add (loadsInto usedState 1000 (.dict [(L "header", .dict [(L "version", .str (L "1.0"))]),
        (L "payload", .dict [(L "compose", witnessCompose), (L "images", .dict [])])])).1 (L "Client") (L "i386") 1 witnessB).2
      = .error .valueError
  gates : versionTuple (.str (L "1.2")) = .ok (.nums (1, 2)) ∧ gateEval Gen.gate_images_Images_deserialize_0 (.nums (1, 2)) = .ok false
    ∧ gateEval Gen.gate_images_Images_deserialize_0 (.nums (2, 0)) = .ok false
    ∧ gateEval Gen.gate_images_Images_deserialize_0 (.nums (1, 1)) = .ok true
    ∧ versionTuple (.str (L "1.1")) = .ok (.nums (1, 1))
  enforces_1_1 : Enforces (.str (L "1.1"))
  enforces_1_2 : Enforces (.str (L "1.2"))
  enforces_2_0 : Enforces (.str (L "2.0"))
  open_1_0 : ¬ Enforces (.str (L "1.0"))
  open_0_0 : ¬ Enforces (.str (L "0.0"))

theorem witness_facts : WitnessFacts := by
  suffices h : _ ∧ _ ∧ _ ∧ _ ∧ _ ∧ _ ∧ _ ∧ _ ∧ _ ∧ _ ∧ _ ∧ _ ∧ _ ∧ _ ∧ _ ∧ _ from
    ⟨h.1, h.2.1, h.2.2.1, h.2.2.2.1, h.2.2.2.2.1, h.2.2.2.2.2.1, h.2.2.2.2.2.2.1, h.2.2.2.2.2.2.2.1, h.2.2.2.2.2.2.2.2.1,
     h.2.2.2.2.2.2.2.2.2.1, h.2.2.2.2.2.2.2.2.2.2.1, h.2.2.2.2.2.2.2.2.2.2.2.1, h.2.2.2.2.2.2.2.2.2.2.2.2.1,
     h.2.2.2.2.2.2.2.2.2.2.2.2.2.1, h.2.2.2.2.2.2.2.2.2.2.2.2.2.2.1, h.2.2.2.2.2.2.2.2.2.2.2.2.2.2.2⟩
  decide +kernel

theorem witness_collide : SameIdentity witnessA witnessB ∧ ¬ PyEq witnessA.checksums witnessB.checksums :=
  ⟨(identEq_iff _ _).mp witness_facts.collide.1,
   fun h => Bool.eq_false_iff.mp witness_facts.collide.2 ((ckEq_iff _ _).mpr h)⟩

theorem witness_not_uniq {cs : Cells} (h : cs.all = [witnessA, witnessB]) : ¬ Uniq cs := fun hu =>
  witness_collide.2 (hu witnessA (by rw [h]; simp) witnessB (by rw [h]; simp) witness_collide.1)

/-- **below 1.1 nothing holds**: on a fresh `Images()` (header 0.0) and under a 1.0 header both adds are
accepted and the manifest is not unique (F11) -/
theorem C09_below_witness :
    ¬ Uniq (witnessOps.foldl step ImgState.fresh).cells ∧ ¬ Uniq (witnessOps.foldl step (empty (L "1.0"))).cells :=
  ⟨witness_not_uniq witness_facts.below.1, witness_not_uniq witness_facts.below.2⟩

/-- the same history at 1.1 / 1.2: the second add is refused with ValueError and the manifest keeps one image -/
theorem C09_witness_refused :
    (add (step (empty (L "1.1")) ⟨L "Server", L "x86_64", 0, witnessA⟩) (L "Client") (L "i386") 1 witnessB).2 = .error .valueError
    ∧ (add (step (empty (L "1.2")) ⟨L "Server", L "x86_64", 0, witnessA⟩) (L "Client") (L "i386") 1 witnessB).2 = .error .valueError :=
  witness_facts.refused

example : witnessA.validate = .ok () := witness_facts.valid

/-- crossing the gate: on a fresh `Images()` (header 0.0) `witnessA` is added, `dumps()` is called (it raises here —
the compose section is empty — but has already set the header to the current version), then the colliding
`witnessB` is refused with ValueError; without the `dumps()` it is accepted (`C09_below_witness`) -/
theorem C09_cross_witness :
    (hstep (hstep (hstep ImgState.fresh (.add ⟨L "Server", L "x86_64", 0, witnessA⟩)).1 .dumps).1
      (.add ⟨L "Client", L "i386", 1, witnessB⟩)).2 = .error .valueError
    ∧ (hstep (hstep (hstep ImgState.fresh (.add ⟨L "Server", L "x86_64", 0, witnessA⟩)).1 (.setVersion (.str (L "1.1")))).1
      (.add ⟨L "Client", L "i386", 1, witnessB⟩)).2 = .error .valueError :=
  witness_facts.cross

example : usedState.version = .str currentVersion ∧ usedState.cells.all = [witnessA] := witness_facts.used

/-- **partial content is kept, the gate stays closed on the document's side** (format 1.2 / 1.1): the valid image in
front of the malformed entry is filed and stays (two images, unique); a colliding image in front of it is refused
(ValueError) with the images as they were; either way the header is left at the DOCUMENT's version, which enforces,
and a colliding `add` afterwards is refused -/
theorem C09_failed_load_witness :
    (loadsInto usedState 1000 (brokenDoc (L "1.2") [witnessC])).2 = .error .keyError
    ∧ (loadsInto usedState 1000 (brokenDoc (L "1.2") [witnessC])).1.cells.all = [witnessA, witnessC]
    ∧ (loadsInto usedState 1000 (brokenDoc (L "1.2") [witnessC])).1.version = .str (L "1.2")
    ∧ (loadsInto usedState 1000 (brokenDoc (L "1.1") [witnessB])).2 = .error .valueError
    ∧ (loadsInto usedState 1000 (brokenDoc (L "1.1") [witnessB])).1.cells.all = [witnessA]
    ∧ (loadsInto usedState 1000 (brokenDoc (L "1.1") [witnessB])).1.version = .str (L "1.1")
    ∧ (add (loadsInto usedState 1000 (brokenDoc (L "1.1") [witnessB])).1 (L "Client") (L "i386") 1 witnessB).2 = .error .valueError :=
  witness_facts.failed

/-- hypotheses of `C09_failed_load_invariant` at that instance -/
example : headerDeserialize (brokenDoc (L "1.2") [witnessC]) = .ok (.str (L "1.2")) := witness_facts.header

/-- **below 1.1 a failed load opens the gate of an object in use** (known finding F49): `usedState` is unique and at
the current version (a colliding `add` is refused).  `loads` of a 1.0 document raises KeyError at its malformed second
entry — the first entry, which collides with the image present, has been filed (the gate in force was the
document's 1.0) and stays; the header is left at "1.0", not reset to the current version as after a load that
returns; the manifest is no longer unique, and further colliding `add`s are accepted without any check -/
theorem C09_failed_load_below_witness :
    (add usedState (L "Client") (L "i386") 1 witnessB).2 = .error .valueError
    ∧ (loadsInto usedState 1000 (brokenDoc (L "1.0") [witnessB])).2 = .error .keyError
    ∧ (loadsInto usedState 1000 (brokenDoc (L "1.0") [witnessB])).1.version = .str (L "1.0")
    ∧ ¬ Uniq (loadsInto usedState 1000 (brokenDoc (L "1.0") [witnessB])).1.cells
    ∧ (loadsInto usedState 1000 (brokenDoc (L "1.0") [])).1.cells.all = [witnessA]
    ∧ (add (loadsInto usedState 1000 (brokenDoc (L "1.0") [])).1 (L "Client") (L "i386") 1 witnessB).2 = .ok ()
    ∧ ¬ Uniq (add (loadsInto usedState 1000 (brokenDoc (L "1.0") [])).1 (L "Client") (L "i386") 1 witnessB).1.cells := by
  obtain ⟨h1, h2, h3, h4, h5, h6, h7⟩ := witness_facts.failed_below
  exact ⟨h1, h2, h3, witness_not_uniq h4, h5, h6, witness_not_uniq h7⟩

/-- … whereas the same 1.0 document without the malformed entry loads, the header goes back to the current version and
the colliding `add` is refused: the open gate is an effect of the FAILURE -/
theorem C09_ok_load_below_contrast :
    (loadsInto usedState 1000 (.dict [(L "header", .dict [(L "version", .str (L "1.0"))]),
        (L "payload", .dict [(L "compose", witnessCompose), (L "images", .dict [])])])).2 = .ok ()
    ∧ (add (loadsInto usedState 1000 (.dict [(L "header", .dict [(L "version", .str (L "1.0"))]),
        (L "payload", .dict [(L "compose", witnessCompose), (L "images", .dict [])])])).1 (L "Client") (L "i386") 1 witnessB).2
      = .error .valueError :=
  witness_facts.ok_below

/-- a history over the total step that satisfies `EnforcedRun` and contains a failed load: header set to 1.1 (on a fresh `Images()`,
header 0.0, the first `add` would not be enforced), add, dumps, failed loads (1.2 document, partial content), colliding add (refused) -/
example : EnforcedRun ImgState.fresh
    [.setVersion (.str (L "1.1")), .add ⟨L "Server", L "x86_64", 0, witnessA⟩, .dumps, .loads (brokenDoc (L "1.2") [witnessC]) 1000,
     .add ⟨L "Client", L "i386", 1, witnessB⟩] := by
  refine ⟨trivial, witness_facts.enforces_1_1, trivial, ?_, ?_, trivial⟩
  · intro ver hver
    rw [witness_facts.header] at hver
    injection hver with hver
    exact hver ▸ witness_facts.enforces_1_2
  · exact enforces_after_loads _ _ _ _ witness_facts.header witness_facts.enforces_1_2

/-- hypotheses of `C09_load_rejects`: 1.2 and 2.0 headers have `old = false`, a 1.1 header has `old = true` and enforces -/
example : versionTuple (.str (L "1.2")) = .ok (.nums (1, 2)) ∧ gateEval Gen.gate_images_Images_deserialize_0 (.nums (1, 2)) = .ok false
    ∧ gateEval Gen.gate_images_Images_deserialize_0 (.nums (2, 0)) = .ok false
    ∧ gateEval Gen.gate_images_Images_deserialize_0 (.nums (1, 1)) = .ok true
    ∧ versionTuple (.str (L "1.1")) = .ok (.nums (1, 1)) := witness_facts.gates

example : Enforces (.str (L "1.1")) := witness_facts.enforces_1_1
example : Enforces (.str (L "1.2")) := witness_facts.enforces_1_2
example : Enforces (.str (L "2.0")) := witness_facts.enforces_2_0
example : ¬ Enforces (.str (L "1.0")) := witness_facts.open_1_0
example : ¬ Enforces (.str (L "0.0")) := witness_facts.open_0_0

end PM
