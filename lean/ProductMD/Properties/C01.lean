import ProductMD.Proofs.CIDistinct
import ProductMD.Proofs.C05CIDown
import ProductMD.Proofs.CIApi
import ProductMD.Proofs.CIRep
import ProductMD.Proofs.JsonRoundTrip
/-!
# C01 — composeinfo survives a write/read cycle unchanged

Model: `Model/ComposeInfo.lean` (typed records, nested-inductive variant forest; `serialize`/`deserialize` mirror
`productmd/composeinfo.py` for the current format, validators = the rule lists generated from the source).

How the proofs run.  The writer is characterised in `Proofs/CIWriter.lean` (`serialize_iff`: which validators passed, and the
document is the sorted table of the entries `flats` lists).  The reader is followed ONCE, for every format version, as the
legacy-aware reader `Legacy.deserialize` on the documented down-conversion `down` (`deserialize_down`, Proofs/C05CIDown.lean;
C05 states it as `C05_ci_faithful_down`).  `C01_readback` is its instance at the current version: the written document is `down` at
`Gen.VERSION` (`down_cur`), that format loses nothing (`curFmt_lossless`, `expected_lossless`), and from format 1.0 on
`Legacy.deserialize` is `CI.deserialize` (`Legacy.deserialize_eq_legacy`).  The part of the reader argument that does not
depend on the format version is in Proofs/CIReader.lean and Proofs/CITop.lean.
-/
namespace PM
open CI

/-- **The writer's refusal of duplicate UIDs.** If the library agrees to write a description whose dicts are keyed the
way `add()` keys them, no two variants anywhere in the forest share a UID — including the F14 shape (a dashed top-level
UID `Server-Tools` next to `Server` → `Tools`): the two would file different entries (ids `ServerTools` / `Tools`) under
one key and `Variant.serialize` raises.  Uses the generated validators: UID alignment below a parent, `uid` without
dashes = `id` at the top level, and a non-empty id. -/
theorem C01_written_uids_distinct (ci : ComposeInfo) (j : PyVal) (hk : WellKeyed ci) (h : serialize ci = .ok j) :
    UidsDistinct ci := by
  obtain ⟨_, _, _, _, d, hd, _⟩ := serialize_iff.mp h
  exact variantsSer_distinct ci.variants d hd hk

/-- **The writer refuses conflicting duplicates.** After a successful `serialize`, any two variants of the forest that
carry the same UID filed exactly the same entry (`Variant UID already exist` otherwise).  This is the model-level content
of the refusal, without any hypothesis on keys; `C01_written_uids_distinct` sharpens it to "no duplicates at all" under
`WellKeyed`. -/
theorem C01_duplicate_uids_agree (ci : ComposeInfo) (j : PyVal) (h : serialize ci = .ok j) :
    ∀ x ∈ flats (byKeys ci.variants), ∀ y ∈ flats (byKeys ci.variants), x.1 = y.1 → x = y := by
  obtain ⟨_, _, _, _, d, hV, _⟩ := serialize_iff.mp h
  obtain ⟨_, _, hs, hd⟩ := variantsSer_iff.mp hV
  exact hs.func.mono fun x hx => (hd x).mpr hx

/-- **Read-back.** Whatever the writer agrees to write is read back as the normal form of what was written:
every section, every variant at any depth with its fields, arches, paths, release and children.
The only hypothesis is the key convention `add()` establishes. -/
theorem C01_readback (ci : ComposeInfo) (j : PyVal) (hk : WellKeyed ci) :
    serialize ci = .ok j → deserialize j = .ok ci.norm := by
  intro h
  have hH := (serialize_iff.mp h).1
  -- the written document is the down-conversion to the current format (`down_cur`); the two side conditions of
  -- `deserialize_down` concern formats below 0.3 and below 1.0 and are closed by evaluating `vLe` at `Gen.VERSION`
  have hd := deserialize_down currentVersion Gen.VERSION true ci j (down_cur h) hk
    (headerOK_of _ _ _ hH versionTuple_current) (fun h => nomatch h) (legacyDomain_from_1_0 _ _ rfl)
  -- the current format has every field, so the documented result is the normal form itself
  rw [expected_lossless _ _ _ (downFmt_cur ▸ curFmt_lossless)] at hd
  -- `headerDe_ok` is stated for a document of the shape `header :: rest`: show `j` as the writer built it
  obtain ⟨_, _, _, _, d, _, rfl⟩ := serialize_iff.mp h
  rwa [Legacy.deserialize_eq_legacy (headerDe_ok _ hH) version_not_lt_1_0]

/-- **Fixpoint.** Writing the normal form (= the re-read object, by `C01_readback`) produces the very same document. -/
theorem C01_fixpoint (ci : ComposeInfo) (j : PyVal) (hk : WellKeyed ci) :
    serialize ci = .ok j → serialize ci.norm = .ok j := by
  intro h
  obtain ⟨hH, hC, hR, hB, d, hV, rfl⟩ := serialize_iff.mp h
  refine serialize_iff.mpr ⟨hH, compose_norm_valid _ hC, ?_, ?_, d, variantsSer_norm _ d hV hk, ?_⟩
  all_goals simp only [ComposeInfo.norm, release_norm_eq _ hR, composeVal_norm]
  · exact hR
  · cases hl : ci.release.isLayered
    · rfl
    · simp only [hl, if_true] at hB ⊢
      exact hB
  · cases ci.release.isLayered <;> rfl

/-- **Bytes.** The text of the first `dumps()`, parsed and loaded, is dumped to the same text.  `parse` stands for
`json.load`; that it inverts the printer on the written document is the explicit hypothesis `hjson`.  CPython's parser does
not satisfy it (it returns dicts in the order of the text, which is sorted: `C01_hjson_witness`); the statement for the
modelled parser is `C01_bytes_parsed`. -/
theorem C01_bytes (parse : Str → Except Err PyVal) (ci : ComposeInfo) (t : Str) (hk : WellKeyed ci)
    (hjson : ∀ j, serialize ci = .ok j → parse (JsonText.dumps j) = .ok j) :
    dumps ci = .ok t → reloadDump parse t = .ok t := by
  intro h
  obtain ⟨hv, j, hj, rfl⟩ := dumps_ok h
  unfold reloadDump
  rw [hjson j hj]
  simp only [loadsDoc, C01_readback ci j hk hj, hv, dumps, C01_fixpoint ci j hk hj]

/-- the reader's result is exactly the normal form also through `loads` (which validates once more).  `hv` holds by evaluation
(`ComposeInfo` has no `_validate_*` method today); as a hypothesis it keeps the statement true should the class gain one. -/
theorem C01_loads (ci : ComposeInfo) (j : PyVal) (hk : WellKeyed ci)
    (h : serialize ci = .ok j) (hv : validateClass "composeinfo.ComposeInfo" [] = .ok ()) : loadsDoc j = .ok ci.norm := by
  simp only [loadsDoc, C01_readback ci j hk h, hv]

/-- **Normal form, identity.** On a description that already has the shape the reader returns for a written document
(`Normal`, decidable: final only with a label, lower-case release type, base product only when layered, top level sorted by UID, every variant
keyed by id with sorted arches, stored-form paths, release only on layered products, children sorted by id) `norm` does
nothing. -/
theorem C01_norm_id (ci : ComposeInfo) (h : Normal ci) : ci.norm = ci := by
  obtain ⟨compose, release, base, variants⟩ := ci
  obtain ⟨hfin, hlab, hlow, hbase, hsorted, hnl⟩ := h
  simp only at hfin hlab hlow hbase hsorted hnl
  have hc : compose.norm = compose := by
    obtain ⟨id, type, date, respin, label, final⟩ := compose
    simp only at hfin hlab
    cases label with
    | none => simp [Compose.norm, hfin rfl]
    | some l =>
      cases l with
      | nil => exact absurd rfl hlab
      | cons ch cs => simp [Compose.norm]
  have hr : release.norm = release := release_norm_of_lower release hlow
  have hv : normTop variants = variants := by
    unfold normTop
    rw [norms_of_normal variants hnl, sortDedup_of_sorted hsorted]
    exact pickUid_self variants hsorted.nodup
  simp only [ComposeInfo.norm, hc, hr, hv]
  cases hlay : release.isLayered with
  | true => simp
  | false => simp [hbase hlay]

/-- **Normal form, what it keeps (sections).** Only the documented normalisations happen: `final` is dropped without a
label (an empty label counts as none), the release type is case-folded, the base product is dropped unless layered. -/
theorem C01_norm_sections (ci : ComposeInfo) :
    ci.norm.compose.id = ci.compose.id ∧ ci.norm.compose.type = ci.compose.type ∧ ci.norm.compose.date = ci.compose.date ∧
    ci.norm.compose.respin = ci.compose.respin ∧
    (∀ ch cs, ci.compose.label = some (ch :: cs) → ci.norm.compose.label = ci.compose.label ∧ ci.norm.compose.final = ci.compose.final) ∧
    ((ci.compose.label = none ∨ ci.compose.label = some []) → ci.norm.compose.label = none ∧ ci.norm.compose.final = false) ∧
    ci.norm.release.name = ci.release.name ∧ ci.norm.release.short = ci.release.short ∧
    ci.norm.release.version = ci.release.version ∧ ci.norm.release.type = Str.lowerAscii ci.release.type ∧
    ci.norm.release.isLayered = ci.release.isLayered ∧ ci.norm.release.internal = ci.release.internal ∧
    (ci.release.isLayered = true → ci.norm.base = ci.base) ∧ (ci.release.isLayered = false → ci.norm.base = none) := by
  obtain ⟨⟨id, type, date, respin, label, final⟩, release, base, variants⟩ := ci
  refine ⟨rfl, rfl, rfl, rfl, ?_, ?_, rfl, rfl, rfl, rfl, rfl, rfl, ?_, ?_⟩
  · intro ch cs h
    simp only at h
    simp [ComposeInfo.norm, Compose.norm, h]
  · intro h
    simp only at h
    rcases h with h | h <;> simp [ComposeInfo.norm, Compose.norm, h]
  · intro h; simp only at h; simp [ComposeInfo.norm, h]
  · intro h; simp only at h; simp [ComposeInfo.norm, h]

/-- **Normal form, what it keeps (variants).** Identity fields are untouched, the arch set is the same set, a path is kept
exactly when its category is one of the generated `_fields`, its arch is one of the variant's own and it is not empty. -/
theorem C01_norm_variant (v : Variant) :
    v.norm.id = v.id ∧ v.norm.uid = v.uid ∧ v.norm.name = v.name ∧ v.norm.type = v.type ∧ v.norm.key = v.id ∧
    (∀ a, a ∈ v.norm.arches ↔ a ∈ v.arches) ∧
    v.norm.paths = storedPaths (Str.sortDedup v.arches) v.paths ∧
    (v.type ≠ layeredProduct → v.norm.release = none) ∧
    (v.type = layeredProduct → v.norm.release = v.release.map fun r => { r with isLayered := true, type := Str.lowerAscii r.type }) := by
  cases v with
  | mk key id uid name type arches paths rel kids =>
  refine ⟨rfl, rfl, rfl, rfl, rfl, fun a => mem_sortDedup, rfl, ?_, ?_⟩
  · intro h; simp only [Variant.type] at h; simp [Variant.norm, Variant.release, h]
  · intro h; simp only [Variant.type] at h; simp [Variant.norm, Variant.release, h, forceLayered, Release.norm]

/-- what `storedPaths` keeps, cell by cell -/
theorem C01_stored_path (arches : List Str) (p : PathTable) (cat a : Str)
    (hc : cat ∈ Gen.COMPOSEINFO_PATH_FIELDS) (ha : a ∈ arches) :
    pathAt (storedPaths arches p) cat a = (match pathAt p cat a with | some v => if v = [] then none else some v | none => none) := by
  rw [pathAt_storedPaths p hc ha]
  unfold storedCell pathAt
  cases lookup cat p with
  | none => rfl
  | some t =>
    simp only
    cases lookup a t with
    | none => rfl
    | some v => by_cases hv : v = [] <;> simp [hv]

/-! ### non-vacuity: a layered compose with a label, a depth-3 forest, a layered-product variant with its own release,
a dashed top-level UID, stray and empty paths -/
def CI.exRelease : Release := { name := k%"Fedora", short := k%"F", version := k%"22", type := k%"ga", isLayered := true, internal := true }
def CI.exCI : ComposeInfo :=
  { compose := { id := k%"F-22-20150522.n.0", type := k%"nightly", date := k%"20150522", respin := 0, label := some k%"RC-1.0", final := true },
    release := exRelease,
    base := some { name := k%"Base", short := k%"b", version := k%"7.1", type := k%"eus" },
    variants :=
      [.mk k%"Server" k%"Server" k%"Server" k%"Server" k%"variant" [k%"x86_64", k%"i386"]
          [(k%"os_tree", [(k%"x86_64", k%"Server/x86_64/os"), (k%"ppc64", k%"stray"), (k%"i386", [])]),
           (k%"debug_repository", [(k%"i386", k%"Server/i386/debug")])] none
          [.mk k%"optional" k%"optional" k%"Server-optional" k%"opt" k%"optional" [k%"x86_64"] [] none
             [.mk k%"LP" k%"LP" k%"Server-optional-LP" k%"lp" k%"layered-product" [k%"x86_64"] []
                (some { exRelease with isLayered := false, type := k%"updates" }) []],
           .mk k%"HA" k%"HA" k%"Server-HA" k%"ha" k%"addon" [k%"i386"] [] none []],
       .mk k%"ClientX" k%"ClientX" k%"Client-X" k%"Client" k%"variant" [k%"x86_64"] [] none []] }

/-- the attributes of the objects `exOps` speaks of -/
def CI.exU : Nat → Forest.Attrs := fun i =>
  [ { id := k%"A", uid := k%"A", name := k%"a", type := k%"variant", arches := [k%"x86_64", k%"i386"] },
    { id := k%"B", uid := k%"A-B", name := k%"b", type := k%"optional", arches := [k%"x86_64"] },
    { id := k%"C", uid := k%"A-B-C", name := k%"c", type := k%"addon", arches := [k%"x86_64"] },
    { id := k%"X", uid := k%"A-X", name := k%"x", type := k%"variant", arches := [k%"ppc64le"] },
    { id := k%"DE", uid := k%"D-E", name := k%"d", type := k%"variant", arches := [k%"s390x"] } ].getD i default
/-- non-vacuity of `C01_api_roundtrip`: a history with a refused call (object 3 has an arch its parent lacks) builds a depth-3
forest that is written; unfolded to depth 4, which is more than the forest is deep (`unfold` cuts below its depth argument) -/
def CI.exOps : List Forest.Op := [⟨none, 0, none⟩, ⟨some 0, 1, none⟩, ⟨some 0, 3, none⟩, ⟨some 1, 2, none⟩, ⟨none, 4, none⟩]
def CI.exApiCI : ComposeInfo :=
  { exCI with variants := forestOf exU (fun _ => ⟨[], none⟩) (Forest.run exU 50 exOps) 4 }

/-- Closed facts about the example descriptions (the compose above, the forest built by the `add` history, a parent holding
one child under two keys), evaluated in one declaration (DESIGN.md §3, closed facts). -/
structure CI.ExCIFacts : Prop where
  written : WellKeyed exCI ∧ UidsDistinct exCI ∧ isOk (serialize exCI) = true
  normal : Normal exCI.norm ∧ ¬ Normal exCI
  reordered : exCI.norm.variants.map Variant.uid ≠ exCI.variants.map Variant.uid
  keyed_by_uid :
    let kid := fun (key : Str) => Variant.mk key k%"B" k%"P-B" k%"b" k%"variant" [k%"x86_64"] [] none []
    let ci : ComposeInfo := { exCI with variants := [.mk k%"P" k%"P" k%"P" k%"p" k%"variant" [k%"x86_64"] [] none [kid k%"B", kid k%"P-B"]] }
    isOk (serialize ci) = true ∧ ¬ WellKeyed ci ∧ ¬ UidsDistinct ci ∧
      (ci.norm.variants.map fun v => v.kids.length) = [1]
  api : (∀ o ∈ exOps, o.c = none → o.key = none) ∧ isOk (serialize exApiCI) = true ∧
    (uidsL exApiCI.variants) = [k%"A", k%"A-B", k%"A-B-C", k%"D-E"]
  hjson :
    (match serialize exCI with
     | .ok j => (match JsonParse.parse (JsonText.dumps j) with
                 | .ok w => PyVal.beq w (PyVal.canon j) && !(PyVal.beq w j)
                 | .error _ => false)
     | .error _ => false) = true
  reload : WellKeyed exCI ∧ JsonParse.intFits JsonParse.defaultLimit exCI.compose.respin = true ∧
    (match dumps exCI with
     | .ok t => (match reloadDump JsonParse.parse t with | .ok t' => t' == t | .error _ => false)
     | .error _ => false) = true
  load_into :
    (match serialize exCI with
    | .ok j => (match loadInto exApiCI j, loadInto exCI (PyVal.canon j) with
        | .ok a, .ok b => (uidsL a.variants == uidsL exCI.norm.variants) && (uidsL b.variants == uidsL exCI.norm.variants)
            && (match loadInto a (PyVal.canon j) with | .ok c => uidsL c.variants == uidsL a.variants | .error _ => false)
            && !(uidsL exApiCI.variants == uidsL exCI.norm.variants)
        | _, _ => false)
    | .error _ => false) = true

theorem CI.exCI_facts : ExCIFacts := by
  suffices h : _ ∧ _ ∧ _ ∧ _ ∧ _ ∧ _ ∧ _ ∧ _ from
    ⟨h.1, h.2.1, h.2.2.1, h.2.2.2.1, h.2.2.2.2.1, h.2.2.2.2.2.1, h.2.2.2.2.2.2.1, h.2.2.2.2.2.2.2⟩
  decide +kernel

example : WellKeyed exCI ∧ UidsDistinct exCI ∧ isOk (serialize exCI) = true := exCI_facts.written
example : Normal exCI.norm ∧ ¬ Normal exCI := exCI_facts.normal
example : exCI.norm ≠ exCI :=
  fun h => exCI_facts.reordered (congrArg (fun c => c.variants.map Variant.uid) h)

/-- Why the key convention is a hypothesis: a parent holding the *same* child twice, once under its id and once under its
UID (only possible by writing into `.variants` directly, never through `add()`), is written without complaint and read
back with one child. -/
theorem C01_keyed_by_uid_witness :
    let kid := fun (key : Str) => Variant.mk key k%"B" k%"P-B" k%"b" k%"variant" [k%"x86_64"] [] none []
    let ci : ComposeInfo := { exCI with variants := [.mk k%"P" k%"P" k%"P" k%"p" k%"variant" [k%"x86_64"] [] none [kid k%"B", kid k%"P-B"]] }
    isOk (serialize ci) = true ∧ ¬ WellKeyed ci ∧ ¬ UidsDistinct ci ∧
      (ci.norm.variants.map fun v => v.kids.length) = [1] := exCI_facts.keyed_by_uid

/-- **`WellKeyed` is established by `add()`.** Take ANY history of `add` calls from the empty `ComposeInfo` — any objects,
any containers, accepted or refused calls, objects added twice, any order — in which the top-level calls use the default
key (`ci.variants.add(v)`; `Variant.add` has no key parameter at all).  The forest the writer then walks (the arena state
unfolded to any depth `f`; `X` = the paths / per-variant releases, which `add` never looks at) satisfies `WellKeyed`.
With an explicit `variant_id` the statement is false (F29: `Variants.add(v, 'junk')`). -/
theorem C01_api_wellkeyed (U : Nat → Forest.Attrs) (X : Nat → Extra) (fuel : Nat) (ops : List Forest.Op)
    (hkey : ∀ o ∈ ops, o.c = none → o.key = none) (f : Nat) (compose : Compose) (release : Release) (base : Option BaseProduct) :
    WellKeyed { compose, release, base, variants := forestOf U X (Forest.run U fuel ops) f } :=
  forestOf_wellKeyed (Forest.InvW.run U fuel ops) X f (run_top_keys U fuel ops hkey)

/-- **The property for everything built through the API**: no hypothesis on the forest is left.  If the library agrees to
write what a history of default-key `add` calls built, it is read back as its normal form and written again to the same
document. -/
theorem C01_api_roundtrip (U : Nat → Forest.Attrs) (X : Nat → Extra) (fuel : Nat) (ops : List Forest.Op)
    (hkey : ∀ o ∈ ops, o.c = none → o.key = none) (f : Nat) (compose : Compose) (release : Release) (base : Option BaseProduct)
    (j : PyVal) :
    let ci : ComposeInfo := { compose, release, base, variants := forestOf U X (Forest.run U fuel ops) f }
    serialize ci = .ok j → deserialize j = .ok ci.norm ∧ serialize ci.norm = .ok j := by
  intro ci h
  have hk := C01_api_wellkeyed U X fuel ops hkey f compose release base
  exact ⟨C01_readback ci j hk h, C01_fixpoint ci j hk h⟩

example : (∀ o ∈ exOps, o.c = none → o.key = none) ∧ isOk (serialize exApiCI) = true ∧
    (uidsL exApiCI.variants) = [k%"A", k%"A-B", k%"A-B-C", k%"D-E"] := exCI_facts.api

/-! ## bytes through the modelled JSON parser

`JsonParse.parseWith lim` (Model/JsonParse.lean) models CPython's `json.loads` (tied to the real one by
`harness/json_diff.py`); `Proofs/JsonRoundTrip.lean` proves `parseWith lim (JsonText.dumps j) = .ok (PyVal.canon j)`:
the parser returns every dict in the order of the text, which `dumps` has SORTED by key, while the writer's document `j` is in
insertion order (`id, type, date, respin, …`).  So `hjson` of `C01_bytes` is not what CPython does, and the byte statement for
the modelled parser rests instead on the reader not depending on the key order of its input (Proofs/CIOrder.lean) and on the
written document being representable in JSON (Proofs/CIRep.lean). -/

/-- on the example compose the modelled parser's result is not the document the writer built: no parser can satisfy `hjson`
of `C01_bytes` and agree with CPython here -/
theorem C01_hjson_witness :
    (match serialize exCI with
     | .ok j => (match JsonParse.parse (JsonText.dumps j) with
                 | .ok w => PyVal.beq w (PyVal.canon j) && !(PyVal.beq w j)
                 | .error _ => false)
     | .error _ => false) = true := exCI_facts.hjson

/-- **The reader is independent of the key order of its input.**  Whatever document (without a key twice in a dict)
`ComposeInfo.deserialize` accepts, it returns the same object for the key-sorted document — at every level, any forest
depth (Proofs/CIOrder.lean).  Only which error is reported first for a document that is refused can depend on the order. -/
theorem C01_reader_order_independent (doc : PyVal) (ci : ComposeInfo) (hrep : Mf.jsonRep doc = true)
    (h : deserialize doc = .ok ci) : deserialize (PyVal.canon doc) = .ok ci :=
  deserialize_jeq (Img.jeq_canon doc hrep) ci h

/-- **The written document is JSON-representable** (`Mf.jsonRep`: no value outside JSON's types, no dict binds a key twice)
**and its only integer is the compose respin** (whether `int()` takes back every number in it is whether it takes back the
respin). -/
theorem C01_written_representable (lim : Nat) (ci : ComposeInfo) (j : PyVal) (h : serialize ci = .ok j) :
    Mf.jsonRep j = true ∧ JsonParse.numsOk lim j = JsonParse.intFits lim ci.compose.respin := by
  obtain ⟨_, _, _, _, d, hV, rfl⟩ := serialize_iff.mp h
  obtain ⟨_, _, hs, hd⟩ := variantsSer_iff.mp hV
  have hflat := rep_flatVal lim d hs fun x hx => flats_entries _ x ((hd x).mp hx)
  have hc := rep_composeVal lim ci.compose
  have hr := rep_releaseVal lim ci.release
  have hh := rep_headerVal lim
  have hbv := fun b => rep_baseVal lim b
  cases ci.release.isLayered <;> cases ci.base <;>
    simp [Mf.jsonRep, Mf.jsonRepKvs, Mf.hasKey, JsonParse.numsOk, JsonParse.numsOkKvs, hflat.1, hflat.2, hc.1, hc.2, hr.1, hr.2,
      hh.1, hh.2, hbv]

/-- **Bytes, parser modelled.**  The text of the first `dumps()`, parsed by the modelled `json.loads`
(`JsonParse.parseWith lim`), loaded and dumped again, is the same text.  Hypotheses: the key convention `add()` establishes,
and that `int()` accepts the digits of the respin under the interpreter's digit limit `lim` (nothing for `lim = 0`; any respin of
at most 640 digits under any limit:
`C01_bytes_parsed_unlimited`, `C01_bytes_parsed_small`). -/
theorem C01_bytes_parsed (lim : Nat) (ci : ComposeInfo) (t : Str) (hk : WellKeyed ci)
    (hnum : JsonParse.intFits lim ci.compose.respin = true) :
    dumps ci = .ok t → reloadDump (JsonParse.parseWith lim) t = .ok t := by
  intro h
  obtain ⟨hv, j, hj, rfl⟩ := dumps_ok h
  obtain ⟨hrep, hn⟩ := C01_written_representable lim ci j hj
  have hp := JsonParse.parseWith_dumps lim j hrep (by rw [hn]; exact hnum)
  have hread := C01_readback ci j hk hj
  unfold reloadDump
  rw [hp]
  simp only [loadsDoc, deserialize_jeq (Img.jeq_canon j hrep) _ hread, hv, dumps, C01_fixpoint ci j hk hj]

/-- reloading the key-sorted document and reloading the document as written give the same text -/
theorem C01_reload_order_independent (ci : ComposeInfo) (j : PyVal) (hk : WellKeyed ci) (h : serialize ci = .ok j) (text : Str) :
    reloadDump (fun _ => .ok (PyVal.canon j)) text = reloadDump (fun _ => .ok j) text := by
  have hrep := (C01_written_representable 0 ci j h).1
  have hread := C01_readback ci j hk h
  unfold reloadDump
  simp only [loadsDoc, deserialize_jeq (Img.jeq_canon j hrep) _ hread, hread]

theorem C01_bytes_parsed_unlimited (ci : ComposeInfo) (t : Str) (hk : WellKeyed ci) :
    dumps ci = .ok t → reloadDump (JsonParse.parseWith 0) t = .ok t :=
  C01_bytes_parsed 0 ci t hk (JsonParse.intFits_zero _)

theorem C01_bytes_parsed_small (lim : Nat) (ci : ComposeInfo) (t : Str) (hk : WellKeyed ci)
    (hlen : (Str.natStr ci.compose.respin.natAbs).length ≤ 640) :
    dumps ci = .ok t → reloadDump (JsonParse.parseWith lim) t = .ok t :=
  C01_bytes_parsed lim ci t hk (JsonParse.intFits_of_length lim _ hlen)

/-- non-vacuity: the example compose (layered, label, depth-3 forest) is written, its text is parsed by the modelled
CPython parser under the default digit limit to a document that is NOT the writer's (`C01_hjson_witness`), and the reload
gives the same text -/
example : WellKeyed exCI ∧ JsonParse.intFits JsonParse.defaultLimit exCI.compose.respin = true ∧
    (match dumps exCI with
     | .ok t => (match reloadDump JsonParse.parse t with | .ok t' => t' == t | .error _ => false)
     | .error _ => false) = true := exCI_facts.reload

/-- **A load REPLACES what the object held** (F41).  Whatever the object holds — nothing, a compose filled in through the API, a
compose loaded before — a successful `loads()`/`load()` leaves exactly what a fresh object would hold after reading the
document: the result is the same for every prior state, and it is the reader's own result.  In the model the first half holds
by definition: `loadInto` does not look at `held` (Model/ComposeInfo.lean says why that is what the library does); what ties it
to the library is the `preload` stream of the check, where a second compose, or the same text, is loaded into a used object. -/
theorem C01_load_replaces (held : ComposeInfo) (doc : PyVal) :
    (∀ held0, loadInto held0 doc = loadInto held doc) ∧
    (∀ ci, loadInto held doc = .ok ci → deserialize doc = .ok ci) := by
  refine ⟨fun _ => rfl, fun ci h => ?_⟩
  unfold loadInto loadsDoc at h
  cases hc : deserialize doc <;> rw [hc] at h
  · cases h
  cases hv : validateClass "composeinfo.ComposeInfo" [] <;> rw [hv] at h
  · cases h
  cases h
  rfl

/-- **Re-reading the own dump into a used object**: an object holding ANYTHING (for instance the very compose that was
written) that is handed the written document — as built by the writer or key-sorted as `json.load` returns it — ends up
holding exactly the normal form of what was written: no union with what it held, and the same text can be loaded any
number of times (the third conjunct is the second at `held := ci.norm`).  `hv`: as in `C01_loads`. -/
theorem C01_reload_into_used_object (held ci : ComposeInfo) (j : PyVal) (hk : WellKeyed ci) (h : serialize ci = .ok j)
    (hv : validateClass "composeinfo.ComposeInfo" [] = .ok ()) :
    loadInto held j = .ok ci.norm ∧ loadInto held (PyVal.canon j) = .ok ci.norm ∧
    loadInto ci.norm (PyVal.canon j) = .ok ci.norm := by
  have h1 := C01_loads ci j hk h hv
  have h2 := loadsDoc_jeq (Img.jeq_canon j (C01_written_representable 0 ci j h).1) _ h1
  exact ⟨h1, h2, h2⟩

/-- non-vacuity: the depth-3 example compose is written; its document is loaded into an object that holds the forest
built by the `add` history `exOps` (other variants, other release) and into one that holds the example itself — both end
up with the normal form of the example, twice in a row -/
example : (match serialize exCI with
    | .ok j => (match loadInto exApiCI j, loadInto exCI (PyVal.canon j) with
        | .ok a, .ok b => (uidsL a.variants == uidsL exCI.norm.variants) && (uidsL b.variants == uidsL exCI.norm.variants)
            && (match loadInto a (PyVal.canon j) with | .ok c => uidsL c.variants == uidsL a.variants | .error _ => false)
            && !(uidsL exApiCI.variants == uidsL exCI.norm.variants)
        | _, _ => false)
    | .error _ => false) = true := exCI_facts.load_into

def CI.sameSet (a b : List Str) : Bool := a.all (b.contains ·) && b.all (a.contains ·)

/-- **Tables, both inclusions.** The 14 path categories of the `VariantPaths` documentation, the 9 release types, 5 compose
types, 10 label names and 4 variant types of the property text are the generated tables — nothing missing, nothing extra
(a category lost or fused in `_fields`, a type dropped from a table: this stops compiling). -/
theorem C01_tables :
    sameSet Gen.COMPOSEINFO_PATH_FIELDS
      [k%"os_tree", k%"packages", k%"repository", k%"isos", k%"images", k%"jigdos", k%"source_tree", k%"source_packages",
       k%"source_repository", k%"source_isos", k%"source_jigdos", k%"debug_tree", k%"debug_packages", k%"debug_repository"] = true ∧
    Gen.COMPOSEINFO_PATH_FIELDS.Nodup ∧
    sameSet Gen.RELEASE_TYPES [k%"fast", k%"ga", k%"updates", k%"updates-testing", k%"eus", k%"aus", k%"els", k%"tus", k%"e4s"] = true ∧
    sameSet Gen.COMPOSE_TYPES [k%"test", k%"ci", k%"nightly", k%"production", k%"development"] = true ∧
    sameSet Gen.LABEL_NAMES [k%"EA", k%"DevelPhaseExit", k%"InternalAlpha", k%"Alpha", k%"InternalSnapshot", k%"Beta", k%"Snapshot",
      k%"RC", k%"Update", k%"SecurityFix"] = true ∧
    sameSet Gen.VARIANT_TYPES [k%"variant", k%"optional", k%"addon", k%"layered-product"] = true := by decide +kernel

end PM
