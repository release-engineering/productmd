import ProductMD.Proofs.C08Images
import ProductMD.Proofs.C08CI
import ProductMD.Proofs.IniTextTie
import ProductMD.Proofs.C08TreeInfo
import ProductMD.Proofs.FactsTreeInfo
import ProductMD.Proofs.C08CIRepeat
import ProductMD.Proofs.C08HistoryBuilders
import ProductMD.Proofs.ManifestIO
import ProductMD.Model.DiscInfo
import ProductMD.Model.ManifestIO
/-!
# C08 - serialisation is canonical: the bytes written depend on the content only

Python's unordered containers (dicts, sets) are lists in the model, in insertion / iteration order.  "The same content"
is stated per format as a relation that allows EVERY rearrangement of every unordered container (and nothing else): `JEq`
(JSON values), `Img.Same`, `CI.Same`, `TI.Same`, `IniText.IniEq`.  The theorems say `Same x y → dumps x = ok b → dumps y = ok b`.
Quantifying over all rearrangements covers every construction order, every dict/set iteration order, hence every
`PYTHONHASHSEED`.  (Which exception a dump that FAILS
raises can depend on the order - the first offending element wins - so the statements are about the bytes of successful
dumps; `isOk` is order-independent as well.)

Full statement (properties.jsonl C08): for all valid contents of each format, all permutations of the construction order of
their unordered parts, all hash seeds, any number of repeated dumps: same bytes; JSON keys sorted, 4-space indentation;
treeinfo sections and options sorted; caller-ordered lists keep their order.
-/
namespace PM
open PyVal

/-- every JSON format: documents that are the same content (`JEq`: equal up to the order of dict entries at every level,
lists in the same order) are written as the same bytes -/
theorem C08_json_canonical (a b : PyVal) (h : JEq a b) : JsonText.dumps a = JsonText.dumps b := h.dumps_eq

/-- in particular any permutation of the entries of the top-level dict (distinct keys) -/
theorem C08_json_perm (l l' : List (Str × PyVal)) (hp : l.Perm l') (hd : (l.map (·.1)).Nodup) :
    JsonText.dumps (.dict l) = JsonText.dumps (.dict l') := (JEq.dict_of_perm hp hd).dumps_eq

example : JsonText.dumps (.dict [("b".toList, .int 1), ("a".toList, .dict [("y".toList, .none), ("x".toList, .list [.int 2, .int 1])])])
    = JsonText.dumps (.dict [("a".toList, .dict [("x".toList, .list [.int 2, .int 1]), ("y".toList, .none)]), ("b".toList, .int 1)]) := by
  decide

section Images
open Img PM.PyOps PM.Spec

/-- **C08 (images).**  Two manifests with the same content are written as the same bytes, whatever the order in which
variants, arches and images were added, provided no two images of one cell share a path (the per-cell sort is by path
only; see `C08_images_equal_paths_witness` for what happens otherwise).
Stronger than the `ok b → ok b` form: as soon as the writer accepts every image of `x`, the complete results agree. -/
theorem C08_perm_images (x y : Img.ImgState) (h : Img.Same x y) (hd : DistinctPaths (triples x.cells))
    (o : OutCells) (hx : serializeCells x.cells [] = .ok o) : (dumps y).2 = (dumps x).2 :=
  dumps_eq_of_filings (by rw [h.compose]) h.filings hd ((serializeCells_ok _ _ _).mp hx).1

/-- the form of the property statement: the same bytes -/
theorem C08_perm_images_bytes (x y : Img.ImgState) (h : Img.Same x y) (hd : DistinctPaths (triples x.cells)) (b : Str)
    (hx : (dumps x).2 = .ok b) : (dumps y).2 = .ok b := by
  cases hs : serializeCells x.cells [] with
  | ok o =>
    rw [C08_perm_images x y h hd o hs]
    exact hx
  | error e =>
    -- `dumps x` succeeded, so every stage of `serialize` did
    rw [Img.dumps_eq, serialize_snd, hs] at hx
    cases hcs : x.compose.serialize with
    | error e' =>
      rw [hcs] at hx
      cases hx
    | ok comp =>
      rw [hcs] at hx
      cases hx

/-- what the object is afterwards: only the header version moved (always the second case, `Img.dumps_state`; the two
coincide when the version was the current one already) -/
theorem C08_repeat_images_state (s : Img.ImgState) :
    (dumps s).1 = s ∨ (dumps s).1 = { s with version := .str currentVersion } :=
  .inr (Img.dumps_state s)

/-- **C08 repeat (images).**  `dumps` changes the object (`header.version` becomes the current version) but not what the
next `dumps` writes. -/
theorem C08_repeat_images (s : Img.ImgState) : (dumps (dumps s).1).2 = (dumps s).2 := by
  -- `serialize` does not read the header version
  rw [Img.dumps_eq, Img.dumps_eq]
  rfl

end Images

namespace Img
open PM.PyOps PM.Spec

def wImg (path : String) (n : Int) : Image :=
  { path := .str (L path), mtime := .int 1, size := .int 1, volume_id := .none, type := .str (L "dvd"),
    format := .str (L "iso"), arch := .str (L "x86_64"), disc_number := .int n, disc_count := .int 2,
    checksums := .dict [(L "md5", .str (L "d41d8cd98f00b204e9800998ecf8427e"))], implant_md5 := .none, bootable := .bool false,
    subvariant := .str (L "S"), unified := .bool false, additional_variants := .list [] }
def wCompose : Compose :=
  { id := .str (L "F-22-20150101.0"), type := .str (L "production"), date := .str (L "20150101"), respin := .int 0 }
/-- two images with different paths, filed in the two possible orders -/
def wA : ImgState := { compose := wCompose, cells := [(L "S", [(L "x86_64", [(0, wImg "S/x86_64/iso/b.iso" 1), (1, wImg "S/x86_64/iso/a.iso" 2)])])] }
def wB : ImgState := { compose := wCompose, cells := [(L "S", [(L "x86_64", [(1, wImg "S/x86_64/iso/a.iso" 2), (0, wImg "S/x86_64/iso/b.iso" 1)])])] }
/-- two images with the SAME path (their identity differs in `disc_number`, so `Images.add` accepts both) -/
def wX : ImgState := { compose := wCompose, cells := [(L "S", [(L "x86_64", [(0, wImg "S/x86_64/iso/same.iso" 1), (1, wImg "S/x86_64/iso/same.iso" 2)])])] }
def wY : ImgState := { compose := wCompose, cells := [(L "S", [(L "x86_64", [(1, wImg "S/x86_64/iso/same.iso" 2), (0, wImg "S/x86_64/iso/same.iso" 1)])])] }

theorem wAB_same : Same wA wB := ⟨rfl, PermR.of_perm FSame.refl (List.Perm.swap _ _ _)⟩
theorem wA_distinct : DistinctPaths (triples wA.cells) := by
  -- the two paths differ, and the filings of a cell are a sublist of all filings
  have h : ((triples wA.cells).map fun t => pathKey t.2.2.dict).Nodup := by decide +kernel
  exact fun v a => (List.filter_sublist.map _).nodup h

/-- Closed facts about the witnesses, evaluated in one declaration (DESIGN.md §3, closed facts). -/
structure WitnessFacts : Prop where
  wA_written : (serializeCells wA.cells []).isOk = true
  wXY_differ : (match (dumps wX).2, (dumps wY).2 with | .ok a, .ok b => a != b | _, _ => false) = true

theorem witness_facts : WitnessFacts := by
  suffices h : _ ∧ _ from ⟨h.1, h.2⟩
  decide +kernel
end Img

/-- the hypotheses of `C08_perm_images` are satisfiable by a genuine rearrangement, and the dump succeeds -/
example : ∃ o, Img.serializeCells Img.wA.cells [] = .ok o ∧ (Img.dumps Img.wB).2 = (Img.dumps Img.wA).2 :=
  let ⟨o, h⟩ := ok_of_isOk Img.witness_facts.wA_written
  ⟨o, h, C08_perm_images Img.wA Img.wB Img.wAB_same Img.wA_distinct o h⟩

/-- **Equal paths in one cell (outside the quantifier): the bytes DO depend on the order.**  The per-cell sort is by path
only and stable, so two images of one cell with the same path come out in the set's iteration order - in CPython the order of
the objects' addresses.  `wX` and `wY` are the same content (`Same`), both are written, the texts differ. -/
theorem C08_images_equal_paths_witness :
    Img.Same Img.wX Img.wY ∧
    (match (Img.dumps Img.wX).2, (Img.dumps Img.wY).2 with | .ok a, .ok b => a != b | _, _ => false) = true :=
  ⟨⟨rfl, PermR.of_perm Img.FSame.refl (List.Perm.swap _ _ _)⟩, Img.witness_facts.wXY_differ⟩

namespace CI

/-- the same compose description: sections equal, variant forests equal up to the order of every child dict (at every
level), of every arch set and of every path table (`VEq`/`LEq`, `Spec/CIWords.lean`) -/
structure Same (x y : ComposeInfo) : Prop where
  compose : x.compose = y.compose
  release : x.release = y.release
  base : x.base = y.base
  variants : LEq x.variants y.variants

theorem Same.refl (x : ComposeInfo) : Same x x := ⟨rfl, rfl, rfl, LEq.refl _⟩

/-- model domain: the children of a container are a Python dict, so their keys are pairwise distinct (at every level) -/
def DictKeysTop (x : ComposeInfo) : Prop := (x.variants.map Variant.key).Nodup ∧ DictKeysL x.variants

theorem Same.of_perm (x : ComposeInfo) (vs : List Variant) (h : x.variants.Perm vs) : Same x { x with variants := vs } :=
  ⟨rfl, rfl, rfl, LEq.of_perm h⟩

end CI
open CI in
/-- **C08 (composeinfo).**  The same content is written as the same bytes, whatever the order in which variants (at any
level), arches and paths were added. -/
theorem C08_perm_composeinfo (x y : CI.ComposeInfo) (h : CI.Same x y) (hk : CI.DictKeysTop x) (b : Str)
    (hx : dumps x = .ok b) : dumps y = .ok b := by
  -- of the successful dump only this is used: the forest of `x` was written, as some `d`
  obtain ⟨_, j, hj, _⟩ := dumps_ok hx
  obtain ⟨_hheader, _hcompose, _hrelease, _hbase, d, hv, _⟩ := serialize_iff.mp hj
  -- the sections are equal and the forest of `y` is written as the same `d`, so `serialize` gives the same document
  have hvs : variantsSer y.variants = variantsSer x.variants := (variantsSer_leq h.variants hk.1 hk.2 d hv).trans hv.symm
  unfold dumps at hx ⊢
  rw [serialize_congr h.compose.symm h.release.symm h.base.symm hvs]
  exact hx

open CI in
/-- whether a dump succeeds does not depend on the order either -/
theorem C08_perm_composeinfo_ok (x y : CI.ComposeInfo) (h : CI.Same x y) (hk : CI.DictKeysTop x) :
    isOk (dumps x) = true → isOk (dumps y) = true := by
  intro hx
  obtain ⟨b, hd⟩ := CI.ok_of_isOk hx
  rw [C08_perm_composeinfo x y h hk b hd]
  rfl

/-- **C08 repeat (composeinfo).**  `dumps : State → State × Bytes` (`CI.dumpsSt`, `Model/ComposeInfoState.lean`: the writer
threaded through the object in the code's order, with the two mutations a dump makes - `header.version` set to the current
version, `release.is_layered = True` on every layered-product variant it reaches - also when it fails half-way).
The second dump writes what the first wrote (or raises what it raised). -/
theorem C08_repeat_composeinfo (s : CI.CIState) : (CI.dumpsSt (CI.dumpsSt s).1).2 = (CI.dumpsSt s).2 :=
  CI.c8_dumpsSt_of_touched (CI.c8_dumpsSt_touched s)

/-- **C08 repeat (composeinfo), any number of dumps.**  After `n` dumps in a row on one object (`CI.c8After n s`; each of them
may have succeeded or failed half-way), the next dump writes exactly what the very first dump wrote (or raises what it raised):
by induction on `n`, the object stays `Touched` (same sections, forced `is_layered` flags only) and the writer cannot tell. -/
theorem C08_repeat_composeinfo_n (s : CI.CIState) (n : Nat) : (CI.dumpsSt (CI.c8After n s)).2 = (CI.dumpsSt s).2 :=
  CI.c8_dumpsSt_of_touched (CI.c8_after_touched n s)

/-- the stateful writer produces the text of the pure one (so every `C08_perm_composeinfo*` statement is about it too), and
the object it leaves behind differs from the original only in `header.version` (old or current) and in forced
`is_layered` flags of layered-product variants (`CI.Touched`) -/
theorem C08_repeat_composeinfo_state (s : CI.CIState) :
    (CI.dumpsSt s).2 = CI.dumps s.ci ∧
    ∃ vs', (CI.dumpsSt s).1.ci = { s.ci with variants := vs' } ∧ CI.TouchedL s.ci.variants vs' ∧
      ((CI.dumpsSt s).1.version = s.version ∨ (CI.dumpsSt s).1.version = CI.currentVersion) :=
  CI.dumpsSt_spec s

namespace CI
def wV (id : Str) (arches : List Str) : Variant :=
  .mk id id id k%"n" k%"variant" arches [] none []
def wCI (vs : List Variant) : ComposeInfo :=
  { compose := { id := k%"F-22-20150101.0", type := k%"production", date := k%"20150101", respin := 0, label := none, final := false },
    release := { name := k%"F", short := k%"F", version := k%"22", type := k%"ga", isLayered := false, internal := false },
    base := none, variants := vs }
def wC1 : ComposeInfo := wCI [wV k%"Server" [k%"x86_64", k%"aarch64"], wV k%"Client" [k%"i386"]]
def wC2 : ComposeInfo := wCI [wV k%"Client" [k%"i386"], wV k%"Server" [k%"aarch64", k%"x86_64"]]

theorem wC_same : Same wC1 wC2 := by
  refine ⟨rfl, rfl, rfl, ?_⟩
  show LEq [wV k%"Server" [k%"x86_64", k%"aarch64"], wV k%"Client" [k%"i386"]] [wV k%"Client" [k%"i386"], wV k%"Server" [k%"aarch64", k%"x86_64"]]
  -- swap the two variants; `Client` is then equal, `Server` differs in the order of its two arches
  refine .trans (.swap _ _ _) (.cons (VEq.refl _) (.cons ?_ .nil))
  unfold wV
  refine .mk _ _ _ _ _ _ (fun x => ?_) (fun _ _ => rfl) .nil
  simp only [List.mem_cons, List.not_mem_nil, or_false]
  exact or_comm
theorem wC_keys : DictKeysTop wC1 := by
  refine ⟨by decide, ?_⟩
  simp [wC1, wCI, wV, DictKeysL, DictKeys]

/-- a layered-product variant whose release still says `is_layered = False` -/
def wLP : Variant :=
  .mk k%"LP" k%"LP" k%"LP" k%"n" layeredProduct [k%"x86_64"] []
    (some { name := k%"L", short := k%"L", version := k%"1", type := k%"ga", isLayered := false, internal := false }) []
/-- a compose holding `wLP`, with `header.version` still `0.9` -/
def wSt : CIState := { version := k%"0.9", ci := wCI [wLP] }

/-- Closed facts about `wC1` and `wSt` (as `Img.WitnessFacts`). -/
structure WitnessFacts : Prop where
  wC1_written : (dumps wC1).isOk = true
  wSt_changed : (match dumpsSt wSt with
     | (s', .ok _) => s'.version == currentVersion && s'.version != wSt.version &&
         (match s'.ci.variants with
          | [v] => (v.release.map (·.isLayered)) == some true
          | _ => false)
     | _ => false) = true

theorem witness_facts : WitnessFacts := by
  suffices h : _ ∧ _ from ⟨h.1, h.2⟩
  decide +kernel
end CI

/-- the hypotheses of `C08_perm_composeinfo` hold for a genuine rearrangement of a compose that IS written -/
example : ∃ b, CI.dumps CI.wC1 = .ok b ∧ CI.dumps CI.wC2 = .ok b :=
  let ⟨b, h⟩ := ok_of_isOk CI.witness_facts.wC1_written
  ⟨b, h, C08_perm_composeinfo _ _ CI.wC_same CI.wC_keys b h⟩

/-- non-vacuity: the dump of `wSt` succeeds and DOES change the object (header version and the flag), and the
next dumps write the same text -/
example :
    (match CI.dumpsSt CI.wSt with
     | (s', .ok _) => s'.version == CI.currentVersion && s'.version != CI.wSt.version &&
         (match s'.ci.variants with
          | [v] => (v.release.map (·.isLayered)) == some true
          | _ => false)
     | _ => false) = true ∧
    (CI.dumpsSt (CI.c8After 3 CI.wSt)).2 = (CI.dumpsSt CI.wSt).2 :=
  ⟨CI.witness_facts.wSt_changed, C08_repeat_composeinfo_n CI.wSt 3⟩

/-- **the INI bytes are a function of the document modulo the order of sections and of the options inside a section**
(`SortedConfigParser.write` iterates `SortedDict`s).  `IniEq`: the sections are a rearrangement of each other, each with
rearranged options; names distinct as in any dict; no `[DEFAULT]` block (`add_section` refuses the name). -/
theorem C08_ini_canonical (d d' : Ini) (h : IniText.IniEq d d') (hk : IniText.DistinctKeys d) (hd : Ini.NoDefault d) :
    IniText.render d = IniText.render d' := TI.render_congr (h.ce hk.opts) hk.secs hd

example : IniText.render [("b".toList, [("y".toList, "1".toList), ("x".toList, "2".toList)]), ("a".toList, [])]
    = IniText.render [("a".toList, []), ("b".toList, [("x".toList, "2".toList), ("y".toList, "1".toList)])] := by decide

/-- The treeinfo writer turns a set / dict into a comma list in three places, each through a sort, so the list does not
depend on the order of the container.  Here: `[tree] platforms` and `[general] platforms` (a set). -/
theorem C08_treeinfo_platforms (t t' : TI.Tree) (ha : t.arch = t'.arch) (hp : ∀ x, x ∈ t.platforms ↔ x ∈ t'.platforms) :
    TI.platformsStr t = TI.platformsStr t' := TI.platformsStr_congr ha hp

/-- The second place (see `C08_treeinfo_platforms`): `[tree] variants` and `[general] variants`, the values / keys of the
top-level dict. -/
theorem C08_treeinfo_variants_list (l l' : List Str) (h : l.Perm l') :
    Str.joinWith ',' (Ini.sortS l) = Str.joinWith ',' (Ini.sortS l') := by rw [Ini.sortS_perm_eq h]

/-- The third place: a variant's `addons`, a set of child UIDs. -/
theorem C08_treeinfo_addons (kids kids' : List TI.Variant) (h : (kids.map TI.Variant.uid).Perm (kids'.map TI.Variant.uid)) :
    Str.joinWith ',' (Str.sortDedup (kids.map TI.Variant.uid)) = Str.joinWith ',' (Str.sortDedup (kids'.map TI.Variant.uid)) := by
  rw [Str.sortDedup_congr (fun x => h.mem_iff)]

mutual
/-- keys in ascending order in every dict, at every level -/
def KeysSorted : PyVal → Prop
  | .list xs => KeysSortedL xs
  | .dict kvs => kvs.Pairwise KLe ∧ KeysSortedD kvs
  | _ => True
def KeysSortedL : List PyVal → Prop
  | [] => True
  | x :: xs => KeysSorted x ∧ KeysSortedL xs
def KeysSortedD : List (Str × PyVal) → Prop
  | [] => True
  | (_, v) :: rest => KeysSorted v ∧ KeysSortedD rest
end

theorem keysSortedD_iff : ∀ l : List (Str × PyVal), KeysSortedD l ↔ ∀ kv ∈ l, KeysSorted kv.2
  | [] => by simp [KeysSortedD]
  | (k, v) :: rest => by simp [KeysSortedD, keysSortedD_iff rest]

theorem keysSortedL_iff : ∀ l : List PyVal, KeysSortedL l ↔ ∀ x ∈ l, KeysSorted x
  | [] => by simp [KeysSortedL]
  | _ :: rest => by simp [KeysSortedL, keysSortedL_iff rest]

theorem canon_keysSorted : ∀ v : PyVal, KeysSorted (canon v) := by
  intro v
  induction v using PyVal.induct with
  | list xs ih =>
    rw [canon_list, KeysSorted, keysSortedL_iff, List.forall_mem_map]
    exact ih
  | dict kvs ih =>
    rw [canon_dict, KeysSorted, keysSortedD_iff]
    refine ⟨sortKvs_sorted _, fun kv hkv => ?_⟩
    obtain ⟨p, hp, rfl⟩ := List.mem_map.mp ((sortKvs_perm _).mem_iff.mp hkv)
    exact ih p hp
  | _ => trivial

theorem canonList_keysSorted : ∀ l : List PyVal, KeysSortedL (canonList l) :=
  fun l => canon_keysSorted (.list l)

theorem canonKvs_keysSorted : ∀ l : List (Str × PyVal), KeysSortedD (canonKvs l) := by
  intro l
  rw [keysSortedD_iff, canonKvs_eq_map, List.forall_mem_map]
  exact fun p _ => canon_keysSorted p.2

/-- **C08 layout (JSON).**  What is written is the rendering of a value whose dict keys are in ascending order at every
level; indentation is four blanks per nesting level; every further entry of a dict / list at level `n` starts on its own
line after `4 * n` blanks, `key: value` with one blank.  (The opening and closing lines of a container are the `x :: xs` and
`(k, v) :: rest` equations of `JsonText.render`; the example below shows a complete text.) -/
theorem C08_layout_json (v : PyVal) :
    JsonText.dumps v = JsonText.render 0 (canon v) ∧ KeysSorted (canon v) ∧
    (∀ n, JsonText.indentStr n = List.replicate (4 * n) ' ') ∧
    (∀ n k x rest, JsonText.renderKvs n ((k, x) :: rest) =
        ',' :: '\n' :: JsonText.indentStr n ++ JsonText.quote k ++ ':' :: ' ' :: JsonText.render n x ++ JsonText.renderKvs n rest) ∧
    (∀ n x xs, JsonText.renderItems n (x :: xs) =
        ',' :: '\n' :: JsonText.indentStr n ++ JsonText.render n x ++ JsonText.renderItems n xs) :=
  ⟨rfl, canon_keysSorted v, fun _ => rfl, fun _ _ _ _ => by simp only [JsonText.renderKvs],
   fun _ _ _ => by simp only [JsonText.renderItems]⟩

example : JsonText.dumps (.dict [("b".toList, .list [.int 1, .dict [("z".toList, .none), ("y".toList, .bool true)]]), ("a".toList, .dict [])])
    = "{\n    \"a\": {},\n    \"b\": [\n        1,\n        {\n            \"y\": true,\n            \"z\": null\n        }\n    ]\n}".toList := by
  decide +kernel

/-- **C08 layout (treeinfo).**  For a document without a `[DEFAULT]` block: sections in ascending order of their names, inside a section the options in ascending order
of their names, one `key = value` line each, a blank line after every section. -/
theorem C08_layout_ini (d : Ini) (hd : Ini.NoDefault d) :
    IniText.render d = (Ini.sortKV (d.filter (·.1 != Ini.DEFAULT))).flatMap IniText.renderSec ∧
    Ini.KSorted (·.1) (Ini.sortKV (d.filter (·.1 != Ini.DEFAULT))) ∧
    (∀ s : Str × IniSec, IniText.renderSec s = '[' :: s.1 ++ ']' :: '\n' :: (Ini.sortKV s.2).flatMap IniText.renderOpt ++ ['\n'] ∧
        Ini.KSorted (·.1) (Ini.sortKV s.2)) ∧
    (∀ kv : Str × Str, IniText.renderOpt kv = kv.1 ++ ' ' :: '=' :: ' ' :: IniText.escNl kv.2 ++ ['\n']) := by
  refine ⟨?_, Ini.sortBy_sorted _ _, fun s => ⟨rfl, Ini.sortBy_sorted _ _⟩, fun _ => rfl⟩
  unfold IniText.render
  unfold Ini.NoDefault at hd
  rw [hd]
  rfl

/-- **C08 order kept (JSON).**  A list is written element by element in the given order: canonicalisation maps over it
without rearranging, and the rendering of a concatenation is the concatenation of the renderings. -/
theorem C08_order_kept_json (xs ys : List PyVal) (n : Nat) :
    canon (.list xs) = .list (xs.map canon) ∧
    JsonText.renderItems n (xs ++ ys) = JsonText.renderItems n xs ++ JsonText.renderItems n ys := by
  refine ⟨canon_list xs, ?_⟩
  induction xs with
  | nil => rfl
  | cons x xs ih => simp [JsonText.renderItems, ih]

/-- a list is content: two orders of the same two elements are written as different bytes -/
theorem C08_order_kept_json_witness :
    JsonText.dumps (.list [.str "Client".toList, .str "Server".toList]) ≠ JsonText.dumps (.list [.str "Server".toList, .str "Client".toList]) := by
  decide

open Img in
/-- **C08 order kept (images).**  `additional_variants` of a unified image is written verbatim (whatever list the caller
gave, in the caller's order). -/
theorem C08_order_kept_images (i : Img.Image) (h : i.unified.truthy = true) :
    i.dict.get? (L "additional_variants") = some i.additional_variants := by
  unfold Image.dict
  rw [h]
  rfl

/-- **C08 order kept (discinfo).**  The disc numbers are written in the caller's order (`lines[3]`: `.discinfo` has four lines -
timestamp, description, arch, disc numbers: `DiscInfo.serialize`). -/
theorem C08_order_kept_discinfo (x : DI.DiscInfo) (ns : List Int) (hx : x.discs = .nums ns) (lines : List Str)
    (h : DI.serialize x = .ok lines) : lines[3]? = some (Str.joinWith ',' (ns.map Str.intStr)) := by
  unfold DI.serialize at h
  cases hv : validateClass "discinfo.DiscInfo" (DI.obj x) with
  | error e => simp [hv, bind, Except.bind] at h
  | ok u =>
    simp only [hv, bind, Except.bind, pure, Except.pure, hx] at h
    injection h with h
    subst h
    rfl

/-- … and that line is content: the files for `1,2` and for `2,1` differ -/
theorem C08_order_kept_discinfo_witness :
    DI.buildFile ["1.0".toList, "d".toList, "a".toList, Str.joinWith ',' ([1, 2].map Str.intStr)]
      ≠ DI.buildFile ["1.0".toList, "d".toList, "a".toList, Str.joinWith ',' ([2, 1].map Str.intStr)] := by decide

/-- **C08 (rpms, modules, extra_files).**  The mapping the `add` calls built is stored and written verbatim, so the bytes
are a function of that mapping modulo the order of the entries of its dicts at every level (variant, arch, srpm / module /
… tables, checksum dicts); its lists (extra-file entries, a module's rpm list) are content.  [Which mapping a given
HISTORY of `add` calls builds is C12's model; that two histories differing in the order of their calls build `JEq`
mappings - hence the same bytes - is `C08_perm_history_rpms` / `_modules` / `_extra_files` / `_bytes` below.] -/
theorem C08_perm_manifests (k : Mf.Kind) (m m' : Mf.Manifest) (hc : m.compose = m'.compose) (hp : JEq m.payload m'.payload) :
    (Mf.dumps k m).2 = (Mf.dumps k m').2 := by
  simp only [Mf.dumps, Mf.dumpDoc]
  cases validateClass k.className [] with
  | error e => rfl
  | ok u => exact Mf.serialize_dumps_congr k m m' hc hp

/-- **C08 (manifest builders): two state updates at different addresses commute.**  Every `add` of the three builders is
`setPathS leaf path state` after checks that do not touch the state (`Rpms.add_eq`, `Modules.add_eq`, `ExtraFiles.add_eq`); for
ANY two leaf updates and any two different paths of the same length the two orders give the same mapping up to the order of dict
entries.  (The two-call case; whole histories: `C08_perm_history_*` below.) -/
theorem C08_manifests_updates_commute (f1 f2 : PyVal → PyVal × Mf.Out) (p1 p2 : List Str) (hl : p1.length = p2.length)
    (hne : p1 ≠ p2) (s : PyVal) (hs : Mf.NodupAll s) :
    JEq (Mf.setPathS f2 p2 (Mf.setPathS f1 p1 s).1).1 (Mf.setPathS f1 p1 (Mf.setPathS f2 p2 s).1).1 :=
  Mf.setPathS_comm f1 f2 p1 p2 hl hne s hs

/-- `Rpms.add` for two accepted calls that file under different `[variant][arch][srpm]` tables: either order, the same
mapping up to dict order -/
theorem C08_rpms_adds_commute (s : PyVal) (hs : Mf.NodupAll s) (a b : Mf.RpmsArgs) (pa pb : Mf.RpmsPlan)
    (ha : Mf.rpmsCheck a = .ok pa) (hb : Mf.rpmsCheck b = .ok pb)
    (hne : [a.variant, a.arch, pa.srpmKey] ≠ [b.variant, b.arch, pb.srpmKey]) :
    JEq (Mf.Rpms.add (Mf.Rpms.add s a).1 b).1 (Mf.Rpms.add (Mf.Rpms.add s b).1 a).1 := by
  simp only [Mf.Rpms.add_eq, ha, hb]
  exact Mf.setPathS_comm _ _ [a.variant, a.arch, pa.srpmKey] [b.variant, b.arch, pb.srpmKey] (by simp) hne s hs

/-- `Modules.add` for two accepted calls with different `[variant][arch][uid]` (calls that hit the same module concatenate
its caller-ordered rpm list: their relative order is content) -/
theorem C08_modules_adds_commute (s : PyVal) (hs : Mf.NodupAll s) (a b : Mf.ModulesArgs) (pa pb : Mf.ModulesPlan)
    (ha : Mf.modulesCheck a = .ok pa) (hb : Mf.modulesCheck b = .ok pb)
    (hne : [a.variant, a.arch, pa.uid] ≠ [b.variant, b.arch, pb.uid]) :
    JEq (Mf.Modules.add (Mf.Modules.add s a).1 b).1 (Mf.Modules.add (Mf.Modules.add s b).1 a).1 := by
  simp only [Mf.Modules.add_eq, ha, hb]
  exact Mf.setPathS_comm _ _ [a.variant, a.arch, pa.uid] [b.variant, b.arch, pb.uid] (by simp) hne s hs

/-- **C08 repeat (rpms, modules, extra_files).**  A dump sets `header.version` and nothing else that the next dump reads. -/
theorem C08_repeat_manifests (k : Mf.Kind) (m : Mf.Manifest) : (Mf.dumps k (Mf.dumps k m).1).2 = (Mf.dumps k m).2 := by
  have h : (Mf.dumps k m).1.compose = m.compose ∧ (Mf.dumps k m).1.payload = m.payload := by
    unfold Mf.dumps Mf.dumpDoc
    cases validateClass k.className [] with
    | error e => exact ⟨rfl, rfl⟩
    | ok u => cases u; exact ⟨rfl, rfl⟩
  exact C08_perm_manifests k _ _ h.1 (h.2 ▸ JEq.refl _)

/-! rpms / modules / extra_files, whole HISTORIES of `add` calls.  For every start mapping (a fresh `{}` or anything loaded;
`Mf.NodupAll`: the keys of every dict reached through dicts are distinct - the model domain, they are Python dicts; what
stands inside a list is not constrained), every history `h` of `add` calls of any length (accepted and refused ones mixed)
and every rearrangement `h'` of it in which the calls writing the same ORDER-SENSITIVE cell keep their relative order (`SameOrder slot`:
`h'` is a permutation of `h`, and for each cell the sub-history of the calls writing it is the same list), running the C12
model of `add` over `h` and over `h'` gives `JEq` mappings - equal up to the order of dict entries at every level, hence
the same bytes - and every call has the same outcome in both runs.

The order-sensitive cells (what is caller-ordered CONTENT): rpms - the slot `[variant][arch][srpm][nevra]` (two writes of one
slot: the later wins); modules - the entry `[variant][arch][uid]` (a repeated add extends the module's rpm list and rewrites
`metadata` / `modulemd_path[category]`); extra_files - the entry list `[variant][arch]`.  Everything else is unordered: variants,
arches, source packages, packages of one source package, modules, and calls that the precondition checks refuse (they write
nothing whatever the mapping; they may stand anywhere). -/

/-- the quantifier of the history theorems, in its two forms: "the calls of every cell keep their relative order" is the same as
"reachable by a sequence of swaps of two adjacent calls that do not write the same cell" -/
theorem C08_history_order_iff_swaps {α γ : Type} [DecidableEq γ] (cell : α → Option γ) (h h' : List α) :
    SameOrder cell h h' ↔ SwapEq (CellIndep cell) h h' :=
  ⟨SwapEq.of_sameOrder cell h h', SwapEq.sameOrder cell⟩

/-- `SameOrder.of_perm_pairwise` with the hypothesis over ALL pairs of calls, a call with itself included: since
`CellIndep cell a a` holds only of a call that writes nothing, this form covers the histories of refused calls -/
theorem C08_history_order_of_perm {α γ : Type} [DecidableEq γ] (cell : α → Option γ) (h h' : List α) (hp : h.Perm h')
    (hi : ∀ a ∈ h, ∀ b ∈ h, CellIndep cell a b) : SameOrder cell h h' :=
  .of_perm_pairwise hp (List.pairwise_of_forall_mem_list hi)

/-- **C08 (rpms, histories).**  What the head of this section says, for `Rpms.add`.  Second conjunct: the calls with their outcomes are such a
rearrangement of each other, i.e. every call has the same outcome in both runs. -/
theorem C08_perm_history_rpms (s : PyVal) (hs : Mf.NodupAll s) (h h' : List Mf.RpmsArgs) (ho : SameOrder Mf.rpmsSlot h h') :
    JEq (Mf.runRpms s h) (Mf.runRpms s h') ∧
    SameOrder (fun x : Mf.RpmsArgs × Mf.Out => Mf.rpmsSlot x.1) (Hist.trace Mf.Rpms.add s h) (Hist.trace Mf.Rpms.add s h') :=
  Hist.perm_history Mf.rpms_commutes ho s hs

/-- **C08 (modules, histories).**  The same for `Modules.add`. -/
theorem C08_perm_history_modules (s : PyVal) (hs : Mf.NodupAll s) (h h' : List Mf.ModulesArgs) (ho : SameOrder Mf.modulesSlot h h') :
    JEq (Mf.runModules s h) (Mf.runModules s h') ∧
    SameOrder (fun x : Mf.ModulesArgs × Mf.Out => Mf.modulesSlot x.1) (Hist.trace Mf.Modules.add s h) (Hist.trace Mf.Modules.add s h') :=
  Hist.perm_history Mf.modules_commutes ho s hs

/-- **C08 (extra_files, histories).**  The same for `ExtraFiles.add`. -/
theorem C08_perm_history_extra_files (s : PyVal) (hs : Mf.NodupAll s) (h h' : List Mf.ExtraArgs) (ho : SameOrder Mf.extraSlot h h') :
    JEq (Mf.runExtra s h) (Mf.runExtra s h') ∧
    SameOrder (fun x : Mf.ExtraArgs × Mf.Out => Mf.extraSlot x.1) (Hist.trace Mf.ExtraFiles.add s h) (Hist.trace Mf.ExtraFiles.add s h') :=
  Hist.perm_history Mf.extra_commutes ho s hs

/-- **C08 (manifest histories): the same bytes.**  Whatever the header version and compose section, the manifests two such
histories build are written as the same bytes (or both dumps raise the same error). -/
theorem C08_perm_history_bytes (ver : PyVal) (compose : Obj) (s : PyVal) (hs : Mf.NodupAll s) :
    (∀ h h', SameOrder Mf.rpmsSlot h h' →
      (Mf.dumps .rpms ⟨ver, compose, Mf.runRpms s h⟩).2 = (Mf.dumps .rpms ⟨ver, compose, Mf.runRpms s h'⟩).2) ∧
    (∀ h h', SameOrder Mf.modulesSlot h h' →
      (Mf.dumps .modules ⟨ver, compose, Mf.runModules s h⟩).2 = (Mf.dumps .modules ⟨ver, compose, Mf.runModules s h'⟩).2) ∧
    (∀ h h', SameOrder Mf.extraSlot h h' →
      (Mf.dumps .extraFiles ⟨ver, compose, Mf.runExtra s h⟩).2 = (Mf.dumps .extraFiles ⟨ver, compose, Mf.runExtra s h'⟩).2) :=
  ⟨fun h h' ho => C08_perm_manifests _ _ _ rfl (C08_perm_history_rpms s hs h h' ho).1,
   fun h h' ho => C08_perm_manifests _ _ _ rfl (C08_perm_history_modules s hs h h' ho).1,
   fun h h' ho => C08_perm_manifests _ _ _ rfl (C08_perm_history_extra_files s hs h h' ho).1⟩

/-- **C08 (rpms histories): only the last write of a slot is content.**  A write that the NEXT call replaces (same slot
`[variant][arch][srpm][nevra]`) leaves no trace: the mapping is the one built without it (equal, not only `JEq`), whatever the start
mapping.  With `C08_perm_history_rpms` (a call may be moved next to the following call of its slot: no call of that slot stands
between them) every overwritten write of a history can be dropped without changing the bytes. -/
theorem C08_history_overwrite_rpms (s : PyVal) (a b : Mf.RpmsArgs) (t : List Mf.RpmsArgs) (hab : Mf.rpmsSlot a = Mf.rpmsSlot b)
    (hb : Mf.rpmsSlot b ≠ Option.none) : Mf.runRpms s (a :: b :: t) = Mf.runRpms s (b :: t) := by
  simp only [Mf.runRpms, List.foldl_cons, Mf.rpms_overwrite s a b hab hb]

/-- **Refusal depends on the arguments only.**  On a freshly constructed manifest the outcome of every call of a history is the
outcome of its precondition checks (`rpmsCheck` / `modulesCheck` / `extraCheck`, functions of the arguments): so the per-call
outcomes of `C08_perm_history_*` are, from `{}`, the same function of the call in every rearrangement. -/
theorem C08_history_outcomes :
    (∀ h : List Mf.RpmsArgs, Hist.trace Mf.Rpms.add Mf.empty h = h.map (fun a => (a, (Mf.rpmsCheck a).map (fun _ => ())))) ∧
    (∀ h : List Mf.ModulesArgs, Hist.trace Mf.Modules.add Mf.empty h = h.map (fun a => (a, (Mf.modulesCheck a).map (fun _ => ())))) ∧
    (∀ h : List Mf.ExtraArgs, Hist.trace Mf.ExtraFiles.add Mf.empty h = h.map (fun a => (a, (Mf.extraCheck a).map (fun _ => ())))) := by
  -- `add` also fails where it meets a non-dict on its way down (AttributeError).  On a mapping of the shape `add` itself builds
  -- (`Mf.RpmsShape` …: dicts down to the leaf's level) it fails only where its check fails, and it keeps that shape
  -- (`*_shape_step`); `{}` has it.
  refine ⟨fun h => ?_, fun h => ?_, fun h => ?_⟩
  · exact Hist.trace_eq_map _ Mf.RpmsShape _ Mf.rpms_shape_step h Mf.empty rfl
  · exact Hist.trace_eq_map _ Mf.ModulesShape _ Mf.modules_shape_step h Mf.empty rfl
  · exact Hist.trace_eq_map _ Mf.ExtraShape _ Mf.extra_shape_step h Mf.empty rfl

namespace Mf
def wR (variant nevra path : String) : RpmsArgs :=
  { variant := lit variant, arch := lit "x86_64", nevra := lit nevra, path := lit path, sigkey := none,
    category := lit "binary", srpm := some (lit "foo-0:1.0-1.src") }
def wR1 : RpmsArgs := wR "Server" "foo-0:1.0-1.x86_64" "p/first"
/-- another package of the same source package (same address `[Server][x86_64][foo-0:1.0-1.src]`, other key) -/
def wR2 : RpmsArgs := wR "Server" "foo-libs-0:1.0-1.x86_64" "p/libs"
/-- the slot of `wR1` again, other record: the later write wins -/
def wR3 : RpmsArgs := wR "Server" "foo-0:1.0-1.x86_64" "p/second"
/-- refused: unknown arch -/
def wRbad : RpmsArgs := { wR "Client" "foo-0:1.0-1.x86_64" "p/x" with arch := lit "no-such-arch" }

def wM (uid : String) (rpms : List String) : ModulesArgs :=
  { variant := lit "Server", arch := lit "x86_64", uid := .str (lit uid), kojiTag := lit "t", modulemdPath := lit "m.yaml",
    category := lit "binary", rpms := .list (rpms.map fun r => .str (lit r)) }
def wM1 : ModulesArgs := wM "httpd:2.4:1:c" ["a", "b"]
def wM2 : ModulesArgs := wM "nginx:1:1:c" ["z"]
/-- the module of `wM1` again: its rpm list is extended -/
def wM3 : ModulesArgs := wM "httpd:2.4:1:c" ["a", "0"]
def wMbad : ModulesArgs := { wM "x:1" [] with kojiTag := [] }

def wE (arch path : String) : ExtraArgs :=
  { variant := lit "Server", arch := lit arch, path := lit path, size := .int 1, checksums := .dict [] }
def wE1 : ExtraArgs := wE "x86_64" "zz/GPL"
/-- another arch of the same variant (same address `[Server]`, other key of the leaf) -/
def wE2 : ExtraArgs := wE "aarch64" "EULA"
/-- the entry list of `wE1` again -/
def wE3 : ExtraArgs := wE "x86_64" "EULA"
def wEbad : ExtraArgs := { wE "x86_64" "/abs" with checksums := .list [] }

/-- Closed facts about a history of four calls `a1, bad, a2, a3` of one builder, evaluated in one declaration per builder
(as `Img.WitnessFacts`): `bad` is refused, `a3` writes the cell of `a1` again, `a2`
another one; the two orders of the history build different lists of entries; each call has its outcome; and for two writes of
ONE cell the order is content. -/
structure HistFacts {α : Type} (slot : α → Option (List Str)) (add : PyVal → α → PyVal × Out) (a1 bad a2 a3 : α) : Prop where
  bad_refused : slot bad = Option.none
  same_slot : slot a3 = slot a1
  accepted : slot a1 ≠ Option.none
  other_slot : slot a1 ≠ slot a2
  lists_differ : (Hist.run add empty [a1, bad, a2, a3] != Hist.run add empty [a2, a1, bad, a3]) = true
  outcomes : (Hist.trace add empty [a2, a1, bad, a3]).map (fun x => Out.isOk x.2) = [true, true, false, true]
  order_is_content : (JsonText.dumps (Hist.run add empty [a1, a3]) != JsonText.dumps (Hist.run add empty [a3, a1])) = true

instance {α : Type} (slot : α → Option (List Str)) (add : PyVal → α → PyVal × Out) (a1 bad a2 a3 : α) :
    Decidable (HistFacts slot add a1 bad a2 a3) :=
  decidable_of_iff (_ ∧ _ ∧ _ ∧ _ ∧ _ ∧ _ ∧ _)
    ⟨fun h => ⟨h.1, h.2.1, h.2.2.1, h.2.2.2.1, h.2.2.2.2.1, h.2.2.2.2.2.1, h.2.2.2.2.2.2⟩,
     fun s => ⟨s.bad_refused, s.same_slot, s.accepted, s.other_slot, s.lists_differ, s.outcomes, s.order_is_content⟩⟩

theorem wR_facts : HistFacts rpmsSlot Rpms.add wR1 wRbad wR2 wR3 := by decide +kernel
theorem wM_facts : HistFacts modulesSlot Modules.add wM1 wMbad wM2 wM3 := by decide +kernel
theorem wE_facts : HistFacts extraSlot ExtraFiles.add wE1 wEbad wE2 wE3 := by decide +kernel

/-- the two histories of `HistFacts` are `SameOrder`: `a2` moves to the front, past the refused call (independent of everything)
and then past `a1` (another cell) -/
theorem HistFacts.sameOrder {α : Type} {slot : α → Option (List Str)} {add : PyVal → α → PyVal × Out} {a1 bad a2 a3 : α}
    (e : HistFacts slot add a1 bad a2 a3) : SameOrder slot [a1, bad, a2, a3] [a2, a1, bad, a3] := by
  refine SwapEq.sameOrder _ (.trans (.cons _ (.swap _ _ _ ?_)) (.swap _ _ _ ?_))
  · exact Or.inl e.bad_refused
  · exact Or.inr (Or.inr e.other_slot)
end Mf

/-- `[a1, refused, a2, a3] ~ [a2, a1, refused, a3]` where `a3` rewrites the slot of `a1` -/
theorem C08_history_rpms_example_order : SameOrder Mf.rpmsSlot [Mf.wR1, Mf.wRbad, Mf.wR2, Mf.wR3] [Mf.wR2, Mf.wR1, Mf.wRbad, Mf.wR3] :=
  Mf.wR_facts.sameOrder

/-- the hypotheses of `C08_perm_history_rpms` hold for a genuine rearrangement of four calls: one refused (in both runs), one slot
written twice (the second write survives in both runs), two packages of one source package swapped; the two mappings are NOT the
same list of entries, and both manifests are written - as the same bytes -/
example :
    Mf.rpmsSlot Mf.wRbad = Option.none ∧ Mf.rpmsSlot Mf.wR3 = Mf.rpmsSlot Mf.wR1 ∧ Mf.rpmsSlot Mf.wR1 ≠ Option.none ∧
    (Mf.runRpms Mf.empty [Mf.wR1, Mf.wRbad, Mf.wR2, Mf.wR3] != Mf.runRpms Mf.empty [Mf.wR2, Mf.wR1, Mf.wRbad, Mf.wR3]) = true ∧
    ((Hist.trace Mf.Rpms.add Mf.empty [Mf.wR2, Mf.wR1, Mf.wRbad, Mf.wR3]).map (fun x => Mf.Out.isOk x.2)) = [true, true, false, true] ∧
    JEq (Mf.runRpms Mf.empty [Mf.wR1, Mf.wRbad, Mf.wR2, Mf.wR3]) (Mf.runRpms Mf.empty [Mf.wR2, Mf.wR1, Mf.wRbad, Mf.wR3]) :=
  have e := Mf.wR_facts
  ⟨e.bad_refused, e.same_slot, e.accepted, e.lists_differ, e.outcomes,
   (C08_perm_history_rpms Mf.empty Mf.nodupAll_empty _ _ C08_history_rpms_example_order).1⟩

/-- **Two writes of one slot (the region the quantifier excludes): the order IS content.**  `[a1, a3]` and `[a3, a1]` are written
as different bytes (the later record wins). -/
theorem C08_history_same_slot_witness :
    Mf.rpmsSlot Mf.wR3 = Mf.rpmsSlot Mf.wR1 ∧
    (JsonText.dumps (Mf.runRpms Mf.empty [Mf.wR1, Mf.wR3]) != JsonText.dumps (Mf.runRpms Mf.empty [Mf.wR3, Mf.wR1])) = true ∧
    (JsonText.dumps (Mf.runModules Mf.empty [Mf.wM1, Mf.wM3]) != JsonText.dumps (Mf.runModules Mf.empty [Mf.wM3, Mf.wM1])) = true ∧
    (JsonText.dumps (Mf.runExtra Mf.empty [Mf.wE1, Mf.wE3]) != JsonText.dumps (Mf.runExtra Mf.empty [Mf.wE3, Mf.wE1])) = true :=
  ⟨Mf.wR_facts.same_slot, Mf.wR_facts.order_is_content, Mf.wM_facts.order_is_content, Mf.wE_facts.order_is_content⟩

/-- the hypotheses of `C08_history_overwrite_rpms` hold for two different calls -/
example : Mf.rpmsSlot Mf.wR1 = Mf.rpmsSlot Mf.wR3 ∧ Mf.rpmsSlot Mf.wR3 ≠ Option.none ∧ Mf.wR1.path ≠ Mf.wR3.path :=
  have e := Mf.wR_facts
  ⟨e.same_slot.symm, fun h => e.accepted (e.same_slot.symm.trans h), by decide +kernel⟩

/-- the same rearrangement of four `Modules.add` calls; `wM3` extends the rpm list of `wM1`'s module -/
theorem C08_history_modules_example_order :
    SameOrder Mf.modulesSlot [Mf.wM1, Mf.wMbad, Mf.wM2, Mf.wM3] [Mf.wM2, Mf.wM1, Mf.wMbad, Mf.wM3] :=
  Mf.wM_facts.sameOrder

/-- the hypotheses of `C08_perm_history_modules` hold for it, as for rpms above -/
example :
    Mf.modulesSlot Mf.wMbad = Option.none ∧ Mf.modulesSlot Mf.wM3 = Mf.modulesSlot Mf.wM1 ∧ Mf.modulesSlot Mf.wM1 ≠ Option.none ∧
    (Mf.runModules Mf.empty [Mf.wM1, Mf.wMbad, Mf.wM2, Mf.wM3] != Mf.runModules Mf.empty [Mf.wM2, Mf.wM1, Mf.wMbad, Mf.wM3]) = true ∧
    ((Hist.trace Mf.Modules.add Mf.empty [Mf.wM2, Mf.wM1, Mf.wMbad, Mf.wM3]).map (fun x => Mf.Out.isOk x.2)) = [true, true, false, true] ∧
    JEq (Mf.runModules Mf.empty [Mf.wM1, Mf.wMbad, Mf.wM2, Mf.wM3]) (Mf.runModules Mf.empty [Mf.wM2, Mf.wM1, Mf.wMbad, Mf.wM3]) :=
  have e := Mf.wM_facts
  ⟨e.bad_refused, e.same_slot, e.accepted, e.lists_differ, e.outcomes,
   (C08_perm_history_modules Mf.empty Mf.nodupAll_empty _ _ C08_history_modules_example_order).1⟩

/-- the same rearrangement of four `ExtraFiles.add` calls; `wE3` appends to the entry list of `wE1` -/
theorem C08_history_extra_example_order :
    SameOrder Mf.extraSlot [Mf.wE1, Mf.wEbad, Mf.wE2, Mf.wE3] [Mf.wE2, Mf.wE1, Mf.wEbad, Mf.wE3] :=
  Mf.wE_facts.sameOrder

/-- the hypotheses of `C08_perm_history_extra_files` hold for it -/
example :
    Mf.extraSlot Mf.wEbad = Option.none ∧ Mf.extraSlot Mf.wE3 = Mf.extraSlot Mf.wE1 ∧ Mf.extraSlot Mf.wE1 ≠ Option.none ∧
    (Mf.runExtra Mf.empty [Mf.wE1, Mf.wEbad, Mf.wE2, Mf.wE3] != Mf.runExtra Mf.empty [Mf.wE2, Mf.wE1, Mf.wEbad, Mf.wE3]) = true ∧
    ((Hist.trace Mf.ExtraFiles.add Mf.empty [Mf.wE2, Mf.wE1, Mf.wEbad, Mf.wE3]).map (fun x => Mf.Out.isOk x.2)) = [true, true, false, true] ∧
    JEq (Mf.runExtra Mf.empty [Mf.wE1, Mf.wEbad, Mf.wE2, Mf.wE3]) (Mf.runExtra Mf.empty [Mf.wE2, Mf.wE1, Mf.wEbad, Mf.wE3]) :=
  have e := Mf.wE_facts
  ⟨e.bad_refused, e.same_slot, e.accepted, e.lists_differ, e.outcomes,
   (C08_perm_history_extra_files Mf.empty Mf.nodupAll_empty _ _ C08_history_extra_example_order).1⟩

/-- what `C08_perm_treeinfo` and `C08_perm_treeinfo_top_key` share.  `hget` (`TI.c8GetTransfer`): the variant that `main_variant`
selects for `[general]` is found in `t'` under the same key path, with the same content (`variants[variant]` in
`General.serialize`: the one place where the writer looks a variant up instead of iterating) - the only use of the two theorems'
side conditions. -/
theorem TI.Same.dumpText_ok {t t' : TI.TreeInfo} {mv : Option Str} (hs : TI.Same t t') (hk : TI.DictKeys t)
    (hget : TI.c8GetTransfer t t' mv) (b : Str) (h : TI.dumpText t mv = .ok b) : TI.dumpText t' mv = .ok b := by
  unfold TI.dumpText at h ⊢
  cases hd : TI.serialize t mv with
  | error e =>
    rw [hd] at h
    cases h
  | ok d =>
    obtain ⟨d', h', hr⟩ := TI.c8_perm_treeinfo_gen hs hk hget hd
    rw [hd] at h
    rw [h']
    simp only [Except.map] at h ⊢
    rw [hr]
    exact h

/-- **C08 (treeinfo), every `main_variant`.**  Two trees with the same content (`TI.Same`: variant containers at every level,
the platform set, the checksum table and the image tables in any order, path tables answering every lookup alike;
`Proofs/C08TreeInfo.lean`) are written as the same bytes FOR EVERY `main_variant` argument, and a dump that succeeds for one
succeeds for the other.
Model domain (`TI.DictKeys`): top-level variant keys, checksum paths and the image names of a platform are pairwise distinct
(keys of Python dicts).  Side condition (`TI.c8Siblings`): at every level of the forest siblings are told apart by their
container key AND by their UID.  The UID part is needed: `VariantBase.__getitem__` resolves a `main_variant` that is not a
container key by a FIRST-MATCH scan for the UID, and with two siblings of one UID the bytes do depend on the insertion order
(`C08_treeinfo_shared_uid_witness`, finding F44); for a `main_variant` that is `None` or a container key the UID part is not
needed (`C08_perm_treeinfo_top_key`). -/
theorem C08_perm_treeinfo (t t' : TI.TreeInfo) (mv : Option Str) (hs : TI.Same t t') (hk : TI.DictKeys t)
    (hsib : TI.c8Siblings t.variants) (b : Str) (h : TI.dumpText t mv = .ok b) : TI.dumpText t' mv = .ok b :=
  hs.dumpText_ok hk (TI.c8_getTransfer_sib mv hs hsib) b h

/-- the same for a `main_variant` that is `None` or the container key of a top-level variant, WITHOUT the UID condition -/
theorem C08_perm_treeinfo_top_key (t t' : TI.TreeInfo) (mv : Option Str) (hs : TI.Same t t') (hk : TI.DictKeys t)
    (hmv : TI.MainVariantTop t mv) (b : Str) (h : TI.dumpText t mv = .ok b) : TI.dumpText t' mv = .ok b :=
  hs.dumpText_ok hk (TI.c8_getTransfer_top hs hk.tops hmv) b h

/-- both directions: the two dumps write the same bytes or BOTH fail (not necessarily with the same exception: file head) -/
theorem C08_perm_treeinfo_iff (t t' : TI.TreeInfo) (mv : Option Str) (hs : TI.Same t t') (hk : TI.DictKeys t)
    (hsib : TI.c8Siblings t.variants) :
    (∀ b, TI.dumpText t mv = .ok b ↔ TI.dumpText t' mv = .ok b) ∧
    ((∃ e, TI.dumpText t mv = .error e) ↔ (∃ e, TI.dumpText t' mv = .error e)) := by
  have fwd := fun b => C08_perm_treeinfo t t' mv hs hk hsib b
  have bwd := fun b => C08_perm_treeinfo t' t mv hs.symm (TI.c8_dictKeys_congr hs hk) (TI.c8_siblings_congr hs.variants hsib) b
  refine ⟨fun b => ⟨fwd b, bwd b⟩, ?_, ?_⟩
  · rintro ⟨e, he⟩
    cases h' : TI.dumpText t' mv with
    | error e' => exact ⟨e', rfl⟩
    | ok b => rw [bwd b h'] at he; cases he
  · rintro ⟨e, he⟩
    cases h' : TI.dumpText t mv with
    | error e' => exact ⟨e', rfl⟩
    | ok b => rw [fwd b h'] at he; cases he

/-- document level, with the success transfer made explicit -/
theorem C08_perm_treeinfo_doc (t t' : TI.TreeInfo) (mv : Option Str) (hs : TI.Same t t') (hk : TI.DictKeys t)
    (hsib : TI.c8Siblings t.variants) (d : Ini) (h : TI.serialize t mv = .ok d) :
    ∃ d', TI.serialize t' mv = .ok d' ∧ IniText.render d' = IniText.render d :=
  TI.c8_perm_treeinfo_gen hs hk (TI.c8_getTransfer_sib mv hs hsib) h

namespace TI

/-! The witnesses are defined with their evaluated facts in `Proofs/FactsTreeInfo.lean`.  `wT1` / `wT2`: platforms `xen, efi` /
`efi, xen, efi`, variants `B` (paths `packages`, `repository`) and `A` in either order, `B`'s two paths swapped, two checksums
swapped.  `wS1` / `wS2`: two top-level variants `X`, `Y` with the one UID `A-b`, in either order. -/

theorem wTree_same {plats plats' : List Str} {vs vs' : List Variant} {cs cs' : List (Str × Str × Str)}
    (hp : ∀ x, x ∈ plats ↔ x ∈ plats') (hv : TLEq vs vs') (hc : cs.Perm cs') : Same (wTree plats vs cs) (wTree plats' vs' cs') :=
  ⟨rfl, rfl, rfl, rfl, rfl, rfl, hp, hv, hc, PermR.refl (fun _ => ⟨rfl, List.Perm.refl _⟩) _, rfl, rfl, rfl, rfl⟩

-- through `wTree_same`: `rfl : wT1.release = wT2.release` would first try `wT1 =?= wT2`, and refuting that decodes the strings
theorem wT_same : Same wT1 wT2 := by
  refine wTree_same (fun x => ?_) ?_ (.swap _ _ _)
  · simp only [List.mem_cons, List.not_mem_nil, or_false]
    constructor
    · rintro (h | h)
      · exact .inr (.inl h)
      · exact .inl h
    · rintro (h | h | h)
      · exact .inr h
      · exact .inl h
      · exact .inr h
  · -- swap the two variants; `A` is then equal, the path table of `B` is a permutation with distinct keys
    refine .trans (.swap _ _ _) (.cons (TVEq.refl _) (.cons ?_ .nil))
    exact .mk _ _ _ _ _ (Assoc.lookup_perm (.swap _ _ _) (by decide)) .nil

theorem wT_keys : DictKeys wT1 := ⟨by decide, by decide, fun p hp => by cases hp⟩
theorem wT_mv : MainVariantTop wT1 none := fun m hm => by cases hm
theorem wT_sib : c8Siblings wT1.variants := by
  refine ⟨by decide, by decide, ?_⟩
  simp [wT1, wTree, wVar, c8SibL, c8SibV]

end TI

/-- the hypotheses of `C08_perm_treeinfo` hold for a genuine rearrangement of a tree that IS written -/
example : ∃ b, TI.dumpText TI.wT1 none = .ok b ∧ TI.dumpText TI.wT2 none = .ok b :=
  let ⟨b, h⟩ := ok_of_isOk treeinfo_facts.perm.wT1_written
  ⟨b, h, C08_perm_treeinfo _ _ none TI.wT_same TI.wT_keys TI.wT_sib b h⟩

/-- the bridge from a `match` written in this file to `TI.textsDiffer` (see there).  Used by `rw`: given as a term
(`(textsDiffer_eq _ _).trans …`) the unifier compares the two sides by running the dumps. -/
theorem textsDiffer_eq (r s : Except Err Str) :
    (match r, s with
     | .ok a, .ok b => a != b
     | _, _ => false) = TI.textsDiffer r s := by
  cases r <;> cases s <;> rfl

/-- **Two siblings with one UID (the region `C08_perm_treeinfo` excludes): the bytes DO depend on the insertion order.**
`wS1` and `wS2` are the same content (`TI.Same`), keys are distinct (`TI.DictKeys`), both are written for
`main_variant = "A-b"` - a UID, not a container key - and the texts differ: `[general] packagedir` is that of whichever
variant the first-match UID scan of `VariantBase.__getitem__` meets first.  Replayed on the real library: finding F44. -/
theorem C08_treeinfo_shared_uid_witness :
    TI.Same TI.wS1 TI.wS2 ∧ TI.DictKeys TI.wS1 ∧ ¬ TI.c8Siblings TI.wS1.variants ∧
    (match TI.dumpText TI.wS1 (some k%"A-b"), TI.dumpText TI.wS2 (some k%"A-b") with
     | .ok a, .ok b => a != b
     | _, _ => false) = true :=
  ⟨TI.wTree_same (fun _ => Iff.rfl) (.swap _ _ _) (.refl _), ⟨by decide, by decide, fun p hp => by cases hp⟩,
   fun h => absurd h.2.1 (by decide), by rw [textsDiffer_eq]; exact treeinfo_facts.perm.wS_differ⟩

/-- a history of `dump` calls on ONE object -/
def TI.dumpHistory (t : TI.TreeInfo) (calls : List (Option Str)) : List (Except Err Str) := calls.map (TI.dumpText t)

/-- **C08 repeat (treeinfo).**  Whatever was dumped before (with whichever `main_variant` arguments) and whatever is dumped
afterwards, a `dump(main_variant = mv)` writes what a fresh object of the same content writes for the same call: the output is
a function of (content, main_variant) only.
In the model this is immediate - `TI.serialize` has no state to carry from one call to the next (the code creates a
throw-away `General(self)` per dump and `Header.serialize` of treeinfo does not set `header.version`).  That the REAL object
has no such hidden state either is not a statement about the model: it is covered on every run by the `c08_seq` probe of the
harness (one object, `dump(main_variant=<each top-level key>)` and plain dumps in every order, each output compared with a
fresh object's and with `TI.dumpText`). -/
theorem C08_repeat_treeinfo (t : TI.TreeInfo) (before after : List (Option Str)) (mv : Option Str) :
    (TI.dumpHistory t (before ++ mv :: after))[before.length]? = some (TI.dumpText t mv) := by
  simp [TI.dumpHistory]

end PM
