import ProductMD.Proofs.DtrExact
import ProductMD.Proofs.RegexAdequacy
import ProductMD.Proofs.Assoc
/-!
# C15 — compose ids encode date, type and respin recoverably

Model (Model/ComposeId.lean): `createComposeId` = `ComposeInfo.create_compose_id` as coded (type suffixes through the
encoder table obtained by evaluating `Compose.type_suffix` for every compose type, `BaseProduct.type_suffix`, layered
part, RHEL-5 variant hack); `getDateTypeRespin` = `get_date_type_respin` as coded: the generated pattern run through
the backtracking engine model (`pyMatch`, first success), `groupdict`, the generated decoder table, `int()`.
The theorems are about these regex-driven functions and hold for prefixes of any length and any content but a line feed.
-/
namespace PM
open PM.IdProof PM.NvraProof PM.Dec PM.First PM.Str

/-- The pattern and group table regenerated from the source are the ones the proofs decompose. -/
theorem C15_pattern : Gen.re_composeinfo_get_date_type_respin_0 = Spec.dtr
    ∧ Gen.re_composeinfo_get_date_type_respin_0_groups = Spec.dtrGroups := by decide +kernel

/-- shape of a type suffix the decoder pattern can pick up: empty, or `.` followed by lower-case letters -/
def sufShape : Str → Bool
  | [] => true
  | c :: l => c == '.' && !l.isEmpty && l.all Spec.lowerCls.mem

def production : Str := ['p','r','o','d','u','c','t','i','o','n']

/-- what `get_date_type_respin` makes of a suffix written by the encoder (`none` = it raises or mis-reads) -/
def decodeSuffix (suf : Str) : Option Str :=
  if suf.isEmpty then some production
  else if sufShape suf then Gen.COMPOSE_TYPE_SUFFIXES.lookup (suf.drop 1) else none

/-- **decoder ∘ encoder = id on `COMPOSE_TYPES`** (on the regenerated tables): every compose type has a suffix, of a
shape the pattern captures, and the decoder table maps it back.  Breaks when a suffix is known to one side only. -/
theorem C15_tables : ∀ t ∈ Gen.COMPOSE_TYPES, (Gen.COMPOSE_TYPE_ENCODER.lookup t).bind decodeSuffix = some t := by
  decide +kernel

/-- Every documented spelling is in the decoder table with its documented meaning, and is lower-case letters. -/
theorem C15_documented : ∀ p ∈ Spec.documentedSuffixes,
    Gen.COMPOSE_TYPE_SUFFIXES.lookup p.1 = some p.2 ∧ p.1 ≠ [] ∧ p.1.all Spec.lowerCls.mem = true := by decide +kernel

/-- **The decoder table is EXACTLY the documented spellings** (`n`, `nightly`, `t`, `test`, `ci`, `d`, each with its
documented meaning): nothing documented is missing and nothing undocumented is accepted.  A spelling added to (or
dropped from) `COMPOSE_TYPE_SUFFIXES` breaks this obligation. -/
theorem C15_table_exact : (∀ p ∈ Gen.COMPOSE_TYPE_SUFFIXES, p ∈ Spec.documentedSuffixes)
    ∧ (∀ p ∈ Spec.documentedSuffixes, p ∈ Gen.COMPOSE_TYPE_SUFFIXES) := by decide +kernel

/-- **The encoder is EXACTLY the documented one**: the compose types are the documented five and each is written with
its documented suffix (none, `.n`, `.t`, `.ci`, `.d`) — both inclusions, on the regenerated tables. -/
theorem C15_encoder_exact : (∀ p ∈ Gen.COMPOSE_TYPE_ENCODER, p ∈ Spec.documentedEncoder)
    ∧ (∀ p ∈ Spec.documentedEncoder, p ∈ Gen.COMPOSE_TYPE_ENCODER)
    ∧ (∀ t ∈ Gen.COMPOSE_TYPES, t ∈ Spec.documentedEncoder.map Prod.fst)
    ∧ (∀ t ∈ Spec.documentedEncoder.map Prod.fst, t ∈ Gen.COMPOSE_TYPES) := by decide +kernel

theorem namedGroup_dtr (D : Str) (ty r : Option Str) :
    let caps : Caps := respinCaps r ++ (typeCaps ty ++ [(1, D)])
    namedGroup Spec.dtrGroups caps "date" = some D ∧ namedGroup Spec.dtrGroups caps "type" = ty
    ∧ namedGroup Spec.dtrGroups caps "respin" = r := by
  cases r <;> cases ty <;> exact ⟨rfl, rfl, rfl⟩

/-- **Exact behaviour of the decoder on EVERY string** (any length, any content, line feeds and Unicode digits
included): the regex-driven `getDateTypeRespin` equals the directly written `dtrDirect` — the date is the LAST window of
8 digits that starts in the first line (of a longer run: its last 8), then the longest `.letters`, then the longest
`.digits`; no such window gives `(None, None, None)`.  This is the statement from which F10 is read off: a respin of 8
or more digits holds the last such window. -/
theorem C15_decoder_exact (s : Str) : getDateTypeRespin s = dtrDirect s := by
  unfold getDateTypeRespin dtrDirect
  rw [C15_pattern.1, dtr_eq]
  cases lastWin s with
  | none => rfl
  | some p =>
    obtain ⟨D, X⟩ := p
    simp only [Option.map_some, C15_pattern.2]
    obtain ⟨h1, h2, h3⟩ := namedGroup_dtr D (typeSplit X).1 (respinSplit (typeSplit X).2)
    simp only [h1, h2, h3]
    cases hty : (typeSplit X).1 with
    | none => rfl
    | some t =>
      -- the capture starts with `.`: it is not the empty string that `if not result["type"]` also takes for production
      obtain ⟨L, rfl⟩ := typeSplit_some hty
      rfl

theorem dtr_decode (P D L : Str) (r : Option Nat) (hP : '\n' ∉ P) (hD : D.length = 8)
    (hDd : ∀ x ∈ D, digitCls.mem x = true) (hL : ∀ x ∈ L, Spec.lowerCls.mem x = true)
    (hr : ∀ n, r = some n → n < 10 ^ 7) :
    getDateTypeRespin (P ++ (D ++ (sufStr L ++ respStr r))) =
      match (if L = [] then some production else Gen.COMPOSE_TYPE_SUFFIXES.lookup L) with
      | some t => .ok (some (some D, t, r.getD 0))
      | none => .error .valueError := by
  rw [C15_decoder_exact]
  unfold dtrDirect
  rw [lastWin_fmt P D L r hP hD hDd hL hr]
  simp only [typeSplit_fmt L r hL, respinSplit_fmt]
  have hv : ∀ n, r = some n → pyIntDigits (natStr n) = .ok n := fun n hn =>
    pyIntDigits_natStr n (Nat.le_trans (natStr_len n 7 (by decide) (hr n hn)) (by decide))
  cases L with
  | nil =>
    cases r with
    | none => rfl
    | some n => simp only [Option.map_some, hv n rfl]; rfl
  | cons l0 ls =>
    simp only [reduceCtorEq, if_false, List.drop_succ_cons, List.drop_zero]
    cases Gen.COMPOSE_TYPE_SUFFIXES.lookup (l0 :: ls) with
    | none => rfl
    | some t =>
      cases r with
      | none => rfl
      | some n => simp only [Option.map_some, hv n rfl]; rfl

/-
FULL STATEMENT (false of the code, see `C15_respin_witness`): the same without the bound on the respin.
-/
/-- **Every documented suffix decodes; a missing respin is 0; no suffix is `production`** — for any prefix without
line feed (digit runs of any length allowed), any date of 8 digits, respins of at most 7 digits. -/
theorem C15_suffixes_partial (P D : Str) (r : Option Nat) (hP : '\n' ∉ P) (hD : D.length = 8)
    (hDd : ∀ x ∈ D, digitCls.mem x = true) (hr : ∀ n, r = some n → n < 10 ^ 7) :
    getDateTypeRespin (P ++ (D ++ respStr r)) = .ok (some (some D, production, r.getD 0))
    ∧ ∀ p ∈ Spec.documentedSuffixes,
        getDateTypeRespin (P ++ (D ++ ('.' :: p.1 ++ respStr r))) = .ok (some (some D, p.2, r.getD 0)) := by
  constructor
  · have := dtr_decode P D [] r hP hD hDd (by simp) hr
    simpa [sufStr] using this
  · intro p hp
    obtain ⟨h1, h2, h3⟩ := C15_documented p hp
    have := dtr_decode P D p.1 r hP hD hDd (by simpa using h3) hr
    rwa [if_neg h2, h1, sufStr_ne_nil h2] at this

/-- **An unknown suffix is rejected**: lower-case letters that are not a key of the decoder table raise `ValueError`. -/
theorem C15_unknown_suffix_partial (P D L : Str) (r : Option Nat) (hP : '\n' ∉ P) (hD : D.length = 8)
    (hDd : ∀ x ∈ D, digitCls.mem x = true) (hL : ∀ x ∈ L, Spec.lowerCls.mem x = true) (hne : L ≠ [])
    (hr : ∀ n, r = some n → n < 10 ^ 7) (hunk : Gen.COMPOSE_TYPE_SUFFIXES.lookup L = none) :
    getDateTypeRespin (P ++ (D ++ ('.' :: L ++ respStr r))) = .error .valueError := by
  have := dtr_decode P D L r hP hD hDd hL hr
  rwa [if_neg hne, hunk, sufStr_ne_nil hne] at this

/-- **Everything outside the documented spellings is rejected**: lower-case letters that are not one of the documented
six raise `ValueError` (from `C15_table_exact`: the table has no other key). -/
theorem C15_undocumented_rejected_partial (P D L : Str) (r : Option Nat) (hP : '\n' ∉ P) (hD : D.length = 8)
    (hDd : ∀ x ∈ D, digitCls.mem x = true) (hL : ∀ x ∈ L, Spec.lowerCls.mem x = true) (hne : L ≠ [])
    (hr : ∀ n, r = some n → n < 10 ^ 7) (hundoc : ∀ t, (L, t) ∉ Spec.documentedSuffixes) :
    getDateTypeRespin (P ++ (D ++ ('.' :: L ++ respStr r))) = .error .valueError := by
  apply C15_unknown_suffix_partial P D L r hP hD hDd hL hne hr
  cases hl : Gen.COMPOSE_TYPE_SUFFIXES.lookup L with
  | none => rfl
  | some t => exact absurd (C15_table_exact.1 _ (Assoc.mem_of_lookup hl)) (hundoc t)

-- the long spelling of `.d` is not among the documented ones: `C15_undocumented_rejected_partial` applies to it
example : ∀ t, ("development".toList, t) ∉ Spec.documentedSuffixes := by
  intro t h; simp [Spec.documentedSuffixes] at h

/-- the domain of the property: a date of 8 digits, a compose type of the table, a natural respin; no line feed in
the part of the id before the date (see `C15_prefix_no_newline` for the field-wise condition) -/
structure IdDom (a : ComposeIdArgs) (D t : Str) (n : Nat) : Prop where
  prefix_nl : '\n' ∉ composeIdPrefix a
  date : a.date = some D
  date_len : D.length = 8
  date_digits : ∀ x ∈ D, digitCls.mem x = true
  ctype : a.ctype = some t
  ctype_mem : t ∈ Gen.COMPOSE_TYPES
  respin : a.respin = some (Int.ofNat n)

theorem create_shape {a : ComposeIdArgs} {D t : Str} {n : Nat} (h : IdDom a D t n) :
    ∃ L, createComposeId a = .ok (composeIdPrefix a ++ (D ++ (sufStr L ++ respStr (some n))))
      ∧ (∀ x ∈ L, Spec.lowerCls.mem x = true)
      ∧ (if L = [] then some production else Gen.COMPOSE_TYPE_SUFFIXES.lookup L) = some t := by
  -- `C15_tables`: the suffix written for `t` is empty or `.letters`, and the decoder table maps the letters back to `t`
  have ht := C15_tables t h.ctype_mem
  cases hs : Gen.COMPOSE_TYPE_ENCODER.lookup t with
  | none => rw [hs] at ht; cases ht
  | some suf =>
    rw [hs] at ht
    have hcreate : createComposeId a = .ok (composeIdPrefix a ++ (D ++ (suf ++ respStr (some n)))) := by
      simp [createComposeId, composeTypeSuffix, h.ctype, hs, h.date, h.respin, pctS, pctInt, intStr, respStr, Except.map]
    cases suf with
    | nil => exact ⟨[], hcreate, by simp, ht⟩
    | cons c l =>
      simp only [Option.bind, decodeSuffix, List.isEmpty_cons, Bool.false_eq_true, if_false, List.drop_succ_cons,
        List.drop_zero] at ht
      split at ht
      · rename_i hsh
        simp only [sufShape, Bool.and_eq_true, beq_iff_eq, Bool.not_eq_true', List.isEmpty_eq_false_iff,
          List.all_eq_true] at hsh
        obtain ⟨⟨rfl, hne⟩, hall⟩ := hsh
        exact ⟨l, by rwa [sufStr_ne_nil hne], hall, by rw [if_neg hne]; exact ht⟩
      · cases ht

/-
FULL STATEMENT (false of the code): the same for every respin; fails from 10^7 on, see `C15_respin_witness`.
-/
/-- **Decoding a created id yields exactly the date, compose type and respin it was created from** — for every
release / base product / variant set (any strings, any digit runs, layered or not, RHEL-5 hack or not; only: no line
feed before the date), every compose type of the regenerated table, every date of 8 digits, every respin < 10^7. -/
theorem C15_decode_create_partial (a : ComposeIdArgs) (D t : Str) (n : Nat) (h : IdDom a D t n) (hn : n < 10 ^ 7) :
    ∃ id, createComposeId a = .ok id ∧ getDateTypeRespin id = .ok (some (some D, t, n)) := by
  obtain ⟨L, h1, h2, h3⟩ := create_shape h
  refine ⟨_, h1, ?_⟩
  have := dtr_decode (composeIdPrefix a) D L (some n) h.prefix_nl h.date_len h.date_digits h2
    (fun m hm => by cases hm; exact hn)
  rw [h3] at this
  simpa using this

/-- F10, replayed on the real code by the harness: a respin of 8 digits is taken for the date. -/
theorem C15_respin_witness :
    (getDateTypeRespin "f-23-20160101.n.12345678".toList).toOption
      = some (some (some "12345678".toList, production, 0))
    ∧ (createComposeId { release := { short := some "f".toList, version := some "23".toList, type := some "ga".toList },
                         date := some "20160101".toList, ctype := some "nightly".toList, respin := some 12345678 }).toOption
      = some "f-23-20160101.n.12345678".toList := by decide +kernel

/-- **The id starts with short-version[-type]** (type left out when empty or, case-insensitively, `ga`). -/
theorem C15_prefix (a : ComposeIdArgs) (id : Str) (h : createComposeId a = .ok id) :
    ∃ rest, id = pctS a.release.short ++ '-' :: pctS a.release.version ++ a.release.typeSuffix ++ rest
    ∧ a.release.typeSuffix = (match a.release.type with
        | none => []
        | some t => if t = [] ∨ lowerAscii t = ['g', 'a'] then [] else '-' :: lowerAscii t) := by
  cases hs : composeTypeSuffix a.ctype with
  | error e => simp [createComposeId, hs, Except.map] at h
  | ok suf =>
    simp only [createComposeId, hs, Except.map, Except.ok.injEq] at h
    refine ⟨(if a.isLayered then
        '-' :: pctS a.baseProduct.short ++ '-' :: pctS a.baseProduct.version ++ a.baseProduct.typeSuffix else [])
        ++ rhel5Part a ++ ['-'] ++ pctS a.date ++ suf ++ '.' :: pctInt a.respin, ?_, ?_⟩
    · rw [← h]; simp [composeIdPrefix]
    · unfold Product.typeSuffix
      cases a.release.type with
      | none => rfl
      | some t => cases t <;> simp

/-- The regenerated validator pattern is `.*\d{8}` followed by optional parts only. -/
theorem C15_validator_shape : ∃ tail, Gen.re_composeinfo_Compose__validate_id_0
    = .cat Spec.anyStar (.cat Spec.digits8 tail) ∧ tail.nullable = true :=
  ⟨_, rfl, by decide⟩

theorem validates_of_shape (P D X : Str) (hP : '\n' ∉ P) (hD : D.length = 8)
    (hDd : ∀ x ∈ D, digitCls.mem x = true) : composeIdValidates (P ++ (D ++ X)) = true := by
  obtain ⟨tail, hre, hnull⟩ := C15_validator_shape
  unfold composeIdValidates
  rw [hre, pyMatches_iff]
  exact ⟨X, .cat ((Lang.starCls Cls.any _ _).mpr ⟨P, Cls.any_All.mpr hP, rfl, trivial⟩)
    (.cat (digits8_den D X hD hDd) (den_nullable tail X hnull))⟩

/-- **A created id passes the library's own compose-id validator pattern** (any natural respin, any compose type of `Gen.COMPOSE_TYPES`: `IdDom`). -/
theorem C15_validates (a : ComposeIdArgs) (D t : Str) (n : Nat) (h : IdDom a D t n) :
    ∃ id, createComposeId a = .ok id ∧ composeIdValidates id = true := by
  obtain ⟨L, h1, _, _⟩ := create_shape h
  exact ⟨_, h1, validates_of_shape _ D _ h.prefix_nl h.date_len h.date_digits⟩

/-- No line feed in the release / base-product short, version and type (an unset attribute prints as `None`)
⇒ no line feed before the date.  The variant part of the RHEL-5 hack is `-Client` or `-Server`. -/
theorem C15_prefix_no_newline (a : ComposeIdArgs)
    (h1 : NoNl a.release.short) (h2 : NoNl a.release.version) (h3 : NoNl a.release.type)
    (h4 : a.isLayered = true → NoNl a.baseProduct.short ∧ NoNl a.baseProduct.version ∧ NoNl a.baseProduct.type) :
    '\n' ∉ composeIdPrefix a := by
  have hbp : '\n' ∉ (if a.isLayered then
      '-' :: pctS a.baseProduct.short ++ '-' :: pctS a.baseProduct.version ++ a.baseProduct.typeSuffix else []) := by
    split
    · rename_i hl
      obtain ⟨g1, g2, g3⟩ := h4 hl
      simp only [List.mem_append, List.mem_cons, not_or]
      exact ⟨⟨⟨by decide, pctS_nl g1⟩, by decide, pctS_nl g2⟩, typeSuffix_nl g3⟩
    · simp
  simp only [composeIdPrefix, List.mem_append, List.mem_cons, List.not_mem_nil, not_or]
  exact ⟨⟨⟨⟨⟨pctS_nl h1, by decide, pctS_nl h2⟩, typeSuffix_nl h3⟩, hbp⟩, rhel5Part_nl a⟩, by decide, not_false⟩

/-- an instance of `IdDom`: layered, with the RHEL-5 variant part -/
def exampleArgs : ComposeIdArgs :=
  { release := { short := some "RHEL".toList, version := some "5.11".toList, type := some "EUS".toList },
    isLayered := true,
    baseProduct := { short := some "RHEL".toList, version := some "5".toList, type := some "ga".toList },
    variants := ["Server".toList, "Client".toList],
    date := some "20160101".toList, ctype := some "test".toList, respin := some 31 }

example : IdDom exampleArgs "20160101".toList "test".toList 31 :=
  { prefix_nl := by decide, date := rfl, date_len := rfl, date_digits := by decide, ctype := rfl, ctype_mem := by decide,
    respin := rfl }
example : (createComposeId exampleArgs).toOption = some "RHEL-5.11-eus-RHEL-5-Client-20160101.t.31".toList := by
  decide +kernel
example : (getDateTypeRespin "RHEL-5.11-eus-RHEL-5-Client-20160101.t.31".toList).toOption
    = some (some (some "20160101".toList, "test".toList, 31)) := by decide +kernel
example : (match getDateTypeRespin "f-23-20160101.x.1".toList with | .error .valueError => true | _ => false) = true := by
  decide +kernel
example : Gen.COMPOSE_TYPE_SUFFIXES.lookup "x".toList = none := by decide

end PM
