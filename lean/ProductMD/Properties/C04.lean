import ProductMD.Proofs.FactsTreeInfo
/-!
# C04 — treeinfo and discinfo survive a write/read cycle

For trees of any size — any number of top-level variants, children of every type at any depth, any number of
platforms, images and checksums:

* `C04_tree_written`   — writer: every fact of every variant is in the document, under a section of its own.
* `C04_tree_readback`  — **`serialize t mv = ok d → deserialize fo d = ok (norm t)`**: the assembled current-format
  reader (header, release, base product, `[tree]`, the forest with the F7 section fallback, checksums, images with the
  platform-suffix rule, stage2, media) returns the documented normal form of the tree.
* `C04_tree_fixpoint`  — on a tree in normal form (`norm t = t`) the reader returns the tree itself (what the reader validates
  follows from the dump having succeeded), and a second dump yields the same document.
* `C04_tree_text`      — the same through the text: `loads (dumps t) = ok (norm t)`; the reader side is the proved
  `parse ∘ render` theorem of `Proofs/IniRoundTrip.lean`, extended in `Proofs/IniTextTie.lean` to the comment-named `; WARNING.n` options of
  `[general]` which the writer emits and the reader skips.
* `C04_tree_bytes`     — `dumps (loads (dumps t)) = dumps t`: the re-read object can be written again and shows the same
  bytes (`C04_tree_second_dump` on the document).
* `C04_disc_readback`  — discinfo, on the text.

Every hypothesis about the tree is a decidable property of it; the others are about the float oracle (`hfl`), about the blank
predicate `sp` of the text reader (`hsp`, `hh`, `hs`) and about the written document (`htext`: `TextOK`, which for CPython's blanks
follows from the Boolean `IniText.Representable`, `C04_textOK_criterion`).  Each is justified next to its definition against the
`quantifier` text of C04 in properties.jsonl; regions where the real library violates the property are excluded by an
explicit hypothesis and have an evaluated witness below (F8, F17, F24, F25).
Dictionaries are association lists; `norm` puts them in `SortedDict` order, so "normal form" fixes the representative
of each Python dict — independence of the bytes from the insertion order is C08.
-/
namespace PM
open Ini TI

/-- What the writer has written: the document has the sections of `docList t g` (`g` the options of
`[general]`, see `serialize_spec`), no section twice, and every variant at any depth has a section of its own holding `varOpts`. -/
theorem C04_tree_written (t : TreeInfo) (mv : Option Str) (d : Ini) (h : serialize t mv = .ok d) :
    ∃ g, (∀ s, d.lookup s = (docList t g).lookup s) ∧ ((docList t g).map (·.1)).Nodup ∧ d.length = (docList t g).length ∧
      ∀ x ∈ subVs none t.variants, d.lookup (secName x.2.type x.2.uid) = some (varOpts x.1 x.2) := by
  obtain ⟨n, key, v, w⟩ := serialize_spec h
  exact ⟨_, w.look, w.nodup, w.length, fun x hx => (w.look _).trans (L_variant w.nodup x hx)⟩

/-- the path kinds cannot shadow the identifying options of a variant section (obligation on the generated field list) -/
theorem C04_path_fields_disjoint :
    ∀ f ∈ Gen.TREEINFO_PATH_FIELDS, f ≠ kId ∧ f ≠ kUid ∧ f ≠ kName ∧ f ≠ kType ∧ f ≠ kParent ∧ f ≠ kAddons := fun f hf =>
  have ⟨h1, h2, h3, h4, h5, h6, _⟩ := pathFields_ne_varKeys f hf
  ⟨h1, h2, h3, h4, h5, h6⟩

theorem C04_path_fields_nodup : Gen.TREEINFO_PATH_FIELDS.Nodup := pathFields_nodup

/-- the "seven path kinds" of the property are EXACTLY the generated field list, and the variant types exactly the three
documented ones (equalities, both inclusions: a kind added to or dropped from the code breaks this) -/
theorem C04_tables_documented :
    Gen.TREEINFO_PATH_FIELDS = ["packages", "repository", "source_packages", "source_repository", "debug_packages", "debug_repository",
      "identity"].map String.toList ∧
    Gen.TREEINFO_VARIANT_TYPES = ["variant", "optional", "addon"].map String.toList := by decide +kernel

/-- the written document has no `[DEFAULT]` block, so `get`/`has_option` never fall back -/
theorem C04_no_default (t : TreeInfo) (mv : Option Str) (d : Ini) (h : serialize t mv = .ok d) : Ini.NoDefault d := by
  obtain ⟨n, key, v, w⟩ := serialize_spec h
  exact w.view.noDefault

/-- **C04, trees, on the document.**  Hypotheses (all decidable):
* `hts`/`hfl` — integer build timestamp that survives `int(float(str n))` (true for `|n| ≤ 2^53`; beyond: F17); a bool is
  refused by the writer (`C04_bool_timestamp_refused`), so `hts` excludes float timestamps only;
* `hplat`, `huok` — platform names and UIDs are non-empty and free of `,` (they travel in comma-separated options: a name
  with a comma is not representable in the file syntax);
* `hnd` — UIDs are pairwise distinct in the forest (a UID identifies a variant; that sibling ids are then distinct too is
  derived from the UID alignment the generated validator enforces: `kidIds_of_valid`);
* `htop` — no top-level variant of type `addon` (F24);
* `hcs` — checksum paths are dictionary keys, type and value free of `:` (the `type:value` syntax);
* `himg` — image names are dictionary keys; no platform with images is called `<x>-<tree arch>` (F25);
* `hv` — the normal form passes the validators the reader runs (`ReadValid`; for a tree already in normal form this
  follows from the dump having succeeded: `C04_tree_fixpoint`). -/
theorem C04_tree_readback (fo : FloatOracle) (t : TreeInfo) (mv : Option Str) (d : Ini) (n : Int)
    (h : serialize t mv = .ok d)
    (hts : t.tree.ts = .int n) (hfl : fo.intOfFloatStr (Str.intStr n) = .ok n)
    (hplat : PlatformsOK t.tree) (huok : UidsOK t.variants) (hnd : UidsNodup t.variants) 
    (htop : TopNotAddon t.variants) (hcs : ChecksumsOK t.checksums) (himg : ImagesOK t.tree.arch t.images)
    (hv : ReadValid (norm t)) :
    deserialize fo d = .ok (norm t) := by
  obtain ⟨n0, key, chosen, w⟩ := serialize_spec h
  exact readback_of_view fo w (serialize_valid h) w.view hts hfl hplat ⟨huok, hnd, kidIds_of_valid (serialize_valid h).forest hnd, htop⟩
    hcs himg (fun _ => trivial) (fun _ _ => trivial) hv

/-- **C04, trees in normal form: the cycle is the identity**, and the second dump produces the same document. -/
theorem C04_tree_fixpoint (fo : FloatOracle) (t : TreeInfo) (mv : Option Str) (d : Ini) (n : Int)
    (h : serialize t mv = .ok d) (hnorm : norm t = t)
    (hts : t.tree.ts = .int n) (hfl : fo.intOfFloatStr (Str.intStr n) = .ok n)
    (hplat : PlatformsOK t.tree) (huok : UidsOK t.variants) (hnd : UidsNodup t.variants) 
    (htop : TopNotAddon t.variants) (hcs : ChecksumsOK t.checksums) (himg : ImagesOK t.tree.arch t.images) :
    deserialize fo d = .ok t ∧ (deserialize fo d).bind (serialize · mv) = .ok d := by
  have hv : ReadValid (norm t) := by rw [hnorm]; exact readValid_of_normal (serialize_valid h) hnorm
  have := C04_tree_readback fo t mv d n h hts hfl hplat huok hnd htop hcs himg hv
  rw [hnorm] at this
  exact ⟨this, Returns.bind this h⟩

/-! ### A bool is no build timestamp (F43)

In Python `bool <: int`, so a plain `isinstance` test for `[int, float]` lets `Tree.build_timestamp = True` through; it would be
written as `build_timestamp = True`, which no reader loads (`float("True")`).  The library's `_assert_type` accepts a bool only
where `bool` is listed (`Gen.assertTypeBoolStrict`, translated from the method's body): such a tree is refused by the writer, so
the excluded region of `hts` (`t.tree.ts = .int n`) contains floats only. -/

/-- **a tree whose build timestamp is a bool is not written** -/
theorem C04_bool_timestamp_refused (t : TreeInfo) (mv : Option Str) (b : Bool) (hb : t.tree.ts = .bool b) (d : Ini) :
    serialize t mv ≠ .ok d := by
  intro h
  have h1 := Rule.check_type_ok (check_of_rule closed_facts.buildTs (serialize_valid h).tree)
  have hg : (treeObj t.tree).get kBuildTs = .bool b := by
    cases ht : t.tree with
    | mk arch ts platforms =>
      rw [ht] at hb; simp only at hb; subst hb; rfl
  rw [hg] at h1
  cases b <;> cases h1

/-- a written tree's timestamp is an int or a float -/
theorem C04_written_timestamp_int_or_float (t : TreeInfo) (mv : Option Str) (d : Ini) (h : serialize t mv = .ok d) :
    (∃ n, t.tree.ts = .int n) ∨ (∃ r i, t.tree.ts = .float r i) := by
  cases hts : t.tree.ts with
  | int n => exact .inl ⟨n, rfl⟩
  | float r i => exact .inr ⟨r, i, rfl⟩
  | bool b => exact absurd h (C04_bool_timestamp_refused t mv b hts d)

/-- `TextOK sp d` (`Spec/TIWords.lean`): no line feed anywhere in the written document, and what the reader is to return
(the sorted document without the comment-named options) is representable: single-line values and
option names without outer blanks, names free of `=`/`:` and not starting with `#`, `;`, `[`.  For CPython's blank
predicate it follows from the Boolean criterion the driver evaluates on every case: -/
theorem C04_textOK_criterion (d : Ini) (h : IniText.Representable d = true) : TextOK Str.isPySpace d :=
  textOK_of_representable d h

/-- **C04, trees, through the text.**  Beyond `C04_tree_readback`: `sp` is the blank predicate of `str.strip()` with
the five facts of `SpOK` and `#`, `;` not blank; the written document satisfies `TextOK`; checksum paths and image names
do not start with `#`/`;` (the `quantifier` text of C04 in properties.jsonl asks this of option names). -/
theorem C04_tree_text (sp : Char → Bool) (hsp : IniParse.SpOK sp) (hh : sp '#' = false) (hs : sp ';' = false)
    (fo : FloatOracle) (t : TreeInfo) (mv : Option Str) (text : Str) (n : Int)
    (h : dumps t mv = .ok text)
    (htext : ∀ d, serialize t mv = .ok d → TextOK sp d)
    (hck : ∀ c ∈ t.checksums, nc c.1 = true) (himn : ∀ p ∈ t.images, ∀ kv ∈ p.2, nc kv.1 = true)
    (hts : t.tree.ts = .int n) (hfl : fo.intOfFloatStr (Str.intStr n) = .ok n)
    (hplat : PlatformsOK t.tree) (huok : UidsOK t.variants) (hnd : UidsNodup t.variants) 
    (htop : TopNotAddon t.variants) (hcs : ChecksumsOK t.checksums) (himg : ImagesOK t.tree.arch t.images)
    (hv : ReadValid (norm t)) :
    loads sp fo text = .ok (norm t) := by
  obtain ⟨d, hser, rfl⟩ := dumps_ok h
  obtain ⟨n0, key, chosen, w⟩ := serialize_spec hser
  unfold loads
  rw [parse_render_textOK hsp hh hs w.view.noDefault (htext d hser)]
  show deserialize fo (readDoc d) = .ok (norm t)
  exact readback_of_view fo w (serialize_valid hser) (view_readDoc w.view) hts hfl hplat
    ⟨huok, hnd, kidIds_of_valid (serialize_valid hser).forest hnd, htop⟩ hcs himg
    (fun _ => noCommentKeys_checksums hcs.1 hck) (fun p hp => noCommentKeys_setsKV (himg.1 p hp) (himn p hp)) hv

/-- C04, trees in normal form: the cycle is the identity on the text as well. -/
theorem C04_tree_bytes_normal (sp : Char → Bool) (hsp : IniParse.SpOK sp) (hh : sp '#' = false) (hs : sp ';' = false)
    (fo : FloatOracle) (t : TreeInfo) (mv : Option Str) (text : Str) (n : Int)
    (h : dumps t mv = .ok text) (hnorm : norm t = t)
    (htext : ∀ d, serialize t mv = .ok d → TextOK sp d)
    (hck : ∀ c ∈ t.checksums, nc c.1 = true) (himn : ∀ p ∈ t.images, ∀ kv ∈ p.2, nc kv.1 = true)
    (hts : t.tree.ts = .int n) (hfl : fo.intOfFloatStr (Str.intStr n) = .ok n)
    (hplat : PlatformsOK t.tree) (huok : UidsOK t.variants) (hnd : UidsNodup t.variants) 
    (htop : TopNotAddon t.variants) (hcs : ChecksumsOK t.checksums) (himg : ImagesOK t.tree.arch t.images) :
    loads sp fo text = .ok t ∧ (loads sp fo text).bind (dumps · mv) = .ok text := by
  obtain ⟨d, hd, _⟩ := dumps_ok h
  have hv : ReadValid (norm t) := by rw [hnorm]; exact readValid_of_normal (serialize_valid hd) hnorm
  have := C04_tree_text sp hsp hh hs fo t mv text n h htext hck himn hts hfl hplat huok hnd htop hcs himg hv
  rw [hnorm] at this
  exact ⟨this, Returns.bind this h⟩

/-- **C04, trees: writing the re-read object reproduces the file byte for byte.**  For any tree the writer accepts (not only
normal forms): the re-read object `norm t` can be written again (`serialize_transfer`: every validator passes, the section names are
those of the first dump) and its document renders to the same bytes (`docList_norm`: same sections with the same options up to
creation order, which `SortedConfigParser.write` does not show).  Beyond `C04_tree_text`: every top-level variant is filed under its UID (`hk`;
outside: F8) and the requested main variant, if any, is the key of a top-level variant (`hmv`). -/
theorem C04_tree_bytes (sp : Char → Bool) (hsp : IniParse.SpOK sp) (hh : sp '#' = false) (hs : sp ';' = false)
    (fo : FloatOracle) (t : TreeInfo) (mv : Option Str) (text : Str) (n : Int)
    (h : dumps t mv = .ok text)
    (htext : ∀ d, serialize t mv = .ok d → TextOK sp d)
    (hck : ∀ c ∈ t.checksums, nc c.1 = true) (himn : ∀ p ∈ t.images, ∀ kv ∈ p.2, nc kv.1 = true)
    (hts : t.tree.ts = .int n) (hfl : fo.intOfFloatStr (Str.intStr n) = .ok n)
    (hplat : PlatformsOK t.tree) (huok : UidsOK t.variants) (hnd : UidsNodup t.variants)
    (htop : TopNotAddon t.variants) (hcs : ChecksumsOK t.checksums) (himg : ImagesOK t.tree.arch t.images)
    (hv : ReadValid (norm t)) (hk : TopKeyedByUid t.variants) (hmv : MainVariantTop t mv) :
    loads sp fo text = .ok (norm t) ∧ (loads sp fo text).bind (dumps · mv) = .ok text := by
  have hload := C04_tree_text sp hsp hh hs fo t mv text n h htext hck himn hts hfl hplat huok hnd htop hcs himg hv
  obtain ⟨d, hser, hr⟩ := dumps_ok h
  obtain ⟨d', hd', hr'⟩ := second_dump hser hv hk hnd hmv hcs.1 himg.1
  exact ⟨hload, Returns.bind hload ((congrArg (Except.map _) hd').trans (congrArg Except.ok (hr'.trans hr)))⟩

/-- the same on the document, without the text layer -/
theorem C04_tree_second_dump (t : TreeInfo) (mv : Option Str) (d : Ini) (h : serialize t mv = .ok d) (hv : ReadValid (norm t))
    (hk : TopKeyedByUid t.variants) (hnd : UidsNodup t.variants) (hmv : MainVariantTop t mv)
    (hcs : ChecksumsOK t.checksums) (himg : ImagesOK t.tree.arch t.images) :
    ∃ d', serialize (norm t) mv = .ok d' ∧ IniText.render d' = IniText.render d :=
  second_dump h hv hk hnd hmv hcs.1 himg.1

/-- `C04_tree_bytes_normal` for CPython's `str.isspace`, with the decidable representability criterion -/
theorem C04_tree_bytes_normal_py (fo : FloatOracle) (t : TreeInfo) (mv : Option Str) (text : Str) (n : Int)
    (h : dumps t mv = .ok text) (hnorm : norm t = t)
    (hrep : ∀ d, serialize t mv = .ok d → IniText.Representable d = true)
    (hck : ∀ c ∈ t.checksums, nc c.1 = true) (himn : ∀ p ∈ t.images, ∀ kv ∈ p.2, nc kv.1 = true)
    (hts : t.tree.ts = .int n) (hfl : fo.intOfFloatStr (Str.intStr n) = .ok n)
    (hplat : PlatformsOK t.tree) (huok : UidsOK t.variants) (hnd : UidsNodup t.variants) 
    (htop : TopNotAddon t.variants) (hcs : ChecksumsOK t.checksums) (himg : ImagesOK t.tree.arch t.images) :
    loads Str.isPySpace fo text = .ok t ∧ (loads Str.isPySpace fo text).bind (dumps · mv) = .ok text :=
  C04_tree_bytes_normal Str.isPySpace spOK_py py_hash py_semi fo t mv text n h hnorm
    (fun d hd => C04_textOK_criterion d (hrep d hd)) hck himn hts hfl hplat huok hnd htop hcs himg

/-! ### non-vacuity: a layered tree with a dashed top-level UID, three levels, children of all three types -/

example : norm C04_exTree0 ≠ C04_exTree0 ∧ norm C04_exTree = C04_exTree := treeinfo_facts.exTree.norm_fixed
example : (serialize C04_exTree none).toBool = true ∧ (serialize C04_exTree0 none).toBool = true := treeinfo_facts.exTree.writable
/-- every hypothesis of `C04_tree_readback` / `C04_tree_fixpoint` holds of the example -/
example : C04_exTree.tree.ts = .int 1417653911 ∧ C04_fo.intOfFloatStr (Str.intStr 1417653911) = .ok 1417653911 ∧
    PlatformsOK C04_exTree.tree ∧ UidsOK C04_exTree.variants ∧ UidsNodup C04_exTree.variants ∧
    TopNotAddon C04_exTree.variants ∧ ChecksumsOK C04_exTree.checksums ∧ ImagesOK C04_exTree.tree.arch C04_exTree.images :=
  treeinfo_facts.exTree.hyps
/-- the text-level hypotheses hold too -/
example : (serialize C04_exTree none).toOption.map IniText.Representable = some true ∧
    (∀ c ∈ C04_exTree.checksums, nc c.1 = true) ∧ (∀ p ∈ C04_exTree.images, ∀ kv ∈ p.2, nc kv.1 = true) :=
  treeinfo_facts.exTree.text_hyps
/-- the extra hypotheses of `C04_tree_bytes` hold of the un-normalised example: top-level variants are filed under their UID (and
`Server` is the key of one, so it can be requested as main variant), -/
example : TopKeyedByUid C04_exTree0.variants ∧ (∃ v ∈ C04_exTree0.variants, v.key = "Server".toList) := treeinfo_facts.exTree.keyed
/-- no main variant requested, -/
example : MainVariantTop C04_exTree0 none := fun _ h => nomatch h
/-- and the normal form passes the reader's validators -/
example : ReadValid (norm C04_exTree0) := by
  cases hs : serialize C04_exTree none with
  | error e => have := treeinfo_facts.exTree.writable.1; rw [hs] at this; cases this
  | ok d => exact readValid_of_normal (serialize_valid hs) treeinfo_facts.exTree.norm_fixed.2
/-- `C04_bool_timestamp_refused` evaluated on the example: the writer raises TypeError -/
theorem C04_bool_timestamp_refused_witness :
    (match serialize { C04_exTree with tree := { C04_exTree.tree with ts := .bool true } } none with
     | .error .typeError => true | _ => false) = true := by
  rw [treeinfo_facts.exTree.bool_ts]
/-- the conclusion of `C04_tree_readback`, evaluated, also for the un-normalised tree -/
example : (serialize C04_exTree none).toOption.map (deserialize C04_fo) = some (.ok C04_exTree) := treeinfo_facts.exTree.readback
example : (serialize C04_exTree0 none).toOption.map (deserialize C04_fo) = some (.ok (norm C04_exTree0)) := treeinfo_facts.exTree.readback0

/-! ### witnesses for the excluded regions (real defects, replayed on the library by the check) -/

/-- F8: a top-level variant with UID ≠ id filed under its id comes back filed under its UID, and `[general] variants` of
the second dump differs from the first -/
theorem C04_F8_witness :
    let t := C04_one "optional".toList "optional".toList "Server-optional".toList "optional".toList
    (serialize t none).toOption.map (fun d => ((deserialize C04_fo d).toOption.map fun t' =>
        (t'.variants.map Variant.key, ((serialize t' none).toOption.map fun d' => opt d' sGeneral kVariants), opt d sGeneral kVariants)))
      = some (some (["Server-optional".toList], some (some "Server-optional".toList), some "optional".toList)) :=
  treeinfo_facts.rekeyed.F8

/-- F17: an integer timestamp beyond 2^53 comes back changed (with CPython's rounding of `float("9007199254740993")`) -/
theorem C04_F17_witness :
    let t := { C04_one "S".toList "S".toList "S".toList "variant".toList with
               tree := ⟨"x86_64".toList, .int 9007199254740993, ["x86_64".toList]⟩ }
    (serialize t none).toOption.map (fun d => (deserialize C04_fo d).toOption.map (·.tree.ts.str))
      = some (some "9007199254740992".toList) :=
  treeinfo_facts.excluded.F17

/-- F24: a top-level variant of type `addon` is written but cannot be read back (`NoSectionError`) -/
theorem C04_F24_witness :
    (serialize (C04_one "HA".toList "HA".toList "HA".toList "addon".toList) none).toOption.map (deserialize C04_fo)
      = some (.error .parserError) :=
  treeinfo_facts.excluded.F24

/-- F25: images for a platform called `xen-x86_64` in an `x86_64` tree are read back under `xen` and refused -/
theorem C04_F25_witness :
    let t := { C04_one "S".toList "S".toList "S".toList "variant".toList with
               tree := ⟨"x86_64".toList, .int 7, ["x86_64".toList, "xen-x86_64".toList]⟩
               images := [("xen-x86_64".toList, [("kernel".toList, "k".toList)])] }
    (serialize t none).toOption.map (deserialize C04_fo) = some (.error .valueError) :=
  treeinfo_facts.excluded.F25

/-- **C04, discinfo, through the text.**  For every record the writer accepts: the float timestamp token reads back
(`hts`: `float(repr x) == x`, CPython, finite `x`; a `repr` has no blanks or line feed: `hts1`), description and arch are
single-line without outer blanks (`strip()` on write would alter them: F17d), the description does not start or end with a
quote character (F17d), the disc numbers are `ALL` or any non-empty list of integers.  The decimal round trip of the
numbers and the join/split of the four lines are proved, not assumed. -/
theorem C04_disc_readback (fo : FloatOracle) (x : DI.DiscInfo) (text : Str)
    (h : DI.dumps x = .ok text)
    (hts : fo.reprOfFloatStr x.timestamp = .ok x.timestamp) (hts1 : Str.strip x.timestamp = x.timestamp ∧ '\n' ∉ x.timestamp)
    (hdesc : Str.strip x.description = x.description ∧ '\n' ∉ x.description) (hq : DI.stripQuotes x.description = x.description)
    (harch : Str.strip x.arch = x.arch ∧ '\n' ∉ x.arch)
    (hd : x.discs = .all ∨ ∃ ns, x.discs = .nums ns ∧ ns ≠ []) :
    DI.loads fo text = .ok x :=
  DI.loads_dumps fo x text h hts hts1 hdesc hq harch hd

/-- the hypotheses of `C04_disc_readback` are satisfiable, with disc numbers of any sign and size -/
example : (DI.dumps ⟨"1417653911.123".toList, "Fedora 21".toList, "x86_64".toList, .nums [1, 2, -3, 10 ^ 30]⟩).toBool = true
    ∧ Str.strip "1417653911.123".toList = "1417653911.123".toList ∧ Str.strip "Fedora 21".toList = "Fedora 21".toList
    ∧ DI.stripQuotes "Fedora 21".toList = "Fedora 21".toList := treeinfo_facts.excluded.disc

end PM
