import ProductMD.Proofs.Builders
import ProductMD.Model.ManifestIO
/-!
# C12 — manifest builders file each entry exactly where the arguments say

Model: `Model/Builders.lean` (`Rpms.add`, `Modules.add`, `ExtraFiles.add` as `State → Args → State × Out`, each the
interpretation of the method's statement list as generated from the source, `Gen.*_add_script`; `relativeTo`).
`Rpms.add_eq` / `Modules.add_eq` / `ExtraFiles.add_eq` (Proofs/Builders.lean, resting on the obligations `rpms_script_eq`,
`modules_script_eq`, `extra_script_eq` there, which `C12_scripts` collects) turn the interpreted list into "the documented
refusals `rpmsCheck` / `modulesCheck` / `extraCheck`, then the insertion".
The state is the public mapping as a `PyVal`; theorems quantify over ANY state (also an ill-shaped one that was loaded),
any arguments, any history.

For each builder:
* `_refusal`      a call that raises returns the identical mapping (all raises come before the first `setdefault`;
                  the chain of `setdefault`s followed by the leaf update cannot fail half-way; for `Modules.add`, whose
                  leaf update is three statements, on mappings whose addressed entry has the shape the builder produces);
* `_refuses`      each listed precondition makes the call raise `ValueError` (`TypeError` for non-dict checksums);
* `_error_class`  on a mapping built by the builder itself nothing else can be raised;
* `_frame`        after ANY call every lookup path that leaves the addressed entry reads what it read before;
* `_content`      after an accepted call the addressed entry holds exactly the documented record;
* `_plan`         where the entry is filed: canonical N-E:V-R.A of the source package / canonical module UID.
-/
namespace PM.Mf
open PM

theorem C12_rpms_plan (a : RpmsArgs) (p : RpmsPlan) (h : rpmsCheck a = .ok p) : RpmsAccepted a p := rpmsCheck_ok h

/-- each refusing precondition named by the property makes `Rpms.add` raise `ValueError` and return the same
mapping: unknown arch, source arch, unknown category, empty path (F30), absolute path, missing epoch
(no `:`), unparsable name, category disagreeing with the RPM's own arch -/
theorem C12_rpms_refuses (s : PyVal) (a : RpmsArgs)
    (h : a.arch ∉ Gen.RPM_ARCHES ∨ a.arch ∈ srcArches ∨ a.category ∉ Gen.SUPPORTED_CATEGORIES
       ∨ a.path = [] ∨ Str.startsWith a.path ['/'] = true ∨ ':' ∉ a.nevra ∨ (∃ e, parseNvra a.nevra = .error e)
       ∨ (∃ d, parseNvra a.nevra = .ok d ∧ ¬ ((a.category = lit "source") ↔ archIn nevraSrcArches d.arch = true))) :
    Rpms.add s a = (s, .error .valueError) := by
  rw [Rpms.add_eq]
  cases hc : rpmsCheck a with
  | error e => rw [rpmsCheck_error_class a e hc]
  | ok p =>
    exfalso
    have acc := C12_rpms_plan a p hc
    obtain ⟨d, hd, _, hiff⟩ := acc.parsed
    rcases h with h | h | h | h | h | h | h | h
    · exact h acc.arch_known
    · exact acc.arch_binary h
    · exact h acc.category_known
    · exact acc.path_nonempty h
    · rw [acc.path_relative] at h; cases h
    · exact h acc.has_colon
    · obtain ⟨e, he⟩ := h; rw [hd] at he; cases he
    · obtain ⟨d', hd', hn⟩ := h
      rw [hd] at hd'
      cases hd'
      exact hn hiff

/-- `rpms[nevra] = {...}` is the last statement: a chain that fails has stored nothing -/
theorem rpmsSet_atomic (k : Str) (r : PyVal) (ks : List Str) (s : PyVal) (e : Err)
    (h : (setPathS (rpmsLeaf k r) ks s).2 = .error e) : (setPathS (rpmsLeaf k r) ks s).1 = s := by
  rw [rpmsLeaf_eq] at h ⊢
  exact setPathS_sub_atomic _ k (fun _ _ h => by cases h) rfl ks s e h

/-- **Refusal leaves the manifest untouched** — for every mapping (even an ill-shaped one that was loaded) and all
arguments -/
theorem C12_rpms_refusal (s : PyVal) (a : RpmsArgs) (e : Err) (h : (Rpms.add s a).2 = .error e) :
    (Rpms.add s a).1 = s := by
  rw [Rpms.add_eq] at h ⊢
  cases hc : rpmsCheck a with
  | error e' => rfl
  | ok p => rw [hc] at h; exact rpmsSet_atomic _ _ _ s e h

/-- **Frame** — after any call (accepted or not), every lookup path that leaves
`[variant][arch][srpm key]` at some key, or that goes through it to another RPM's record, reads the same value
as before. -/
theorem C12_rpms_frame (s : PyVal) (a : RpmsArgs) (p : RpmsPlan) (hc : rpmsCheck a = .ok p) (path : List Str)
    (h : Off (OtherKey p.key) path [a.variant, a.arch, p.srpmKey]) :
    getPath (Rpms.add s a).1 path = getPath s path :=
  Rpms.add_frame s hc path h

/-- the frame in the words of the property: any other `[variant][arch][srpm][nevra]` address, and everything
below it, is untouched -/
theorem C12_rpms_frame_pointwise (s : PyVal) (a : RpmsArgs) (p : RpmsPlan) (hc : rpmsCheck a = .ok p)
    (v' a' k' n' : Str) (rest : List Str)
    (hne : ¬ (v' = a.variant ∧ a' = a.arch ∧ k' = p.srpmKey ∧ n' = p.key)) :
    getPath (Rpms.add s a).1 (v' :: a' :: k' :: n' :: rest) = getPath s (v' :: a' :: k' :: n' :: rest) := by
  refine C12_rpms_frame s a p hc _ (Off.cons fun h1 => Off.cons fun h2 => Off.cons fun h3 => ?_)
  exact (Off_nil _ _).mpr (OtherKey.head fun h4 => hne ⟨h1, h2, h3, h4⟩)

/-- the whole table of another variant is untouched -/
theorem C12_rpms_frame_variant (s : PyVal) (a : RpmsArgs) (p : RpmsPlan) (hc : rpmsCheck a = .ok p)
    (v' : Str) (rest : List Str) (hne : v' ≠ a.variant) :
    getPath (Rpms.add s a).1 (v' :: rest) = getPath s (v' :: rest) := by
  exact C12_rpms_frame s a p hc _ (Off.head hne)

/-- … and the whole table of another arch of the variant -/
theorem C12_rpms_frame_arch (s : PyVal) (a : RpmsArgs) (p : RpmsPlan) (hc : rpmsCheck a = .ok p)
    (a' : Str) (rest : List Str) (hne : a' ≠ a.arch) :
    getPath (Rpms.add s a).1 (a.variant :: a' :: rest) = getPath s (a.variant :: a' :: rest) := by
  exact C12_rpms_frame s a p hc _ (Off.cons fun _ => Off.head hne)

/-- **Content** — `p.record` is `{sigkey, path, category}` with the lower-cased key, the given path and category
(`RpmsAccepted.record`) -/
theorem C12_rpms_content (s : PyVal) (a : RpmsArgs) (p : RpmsPlan) (hc : rpmsCheck a = .ok p)
    (hok : (Rpms.add s a).2 = .ok ()) :
    getPath (Rpms.add s a).1 [a.variant, a.arch, p.srpmKey, p.key] = some p.record :=
  Rpms.add_content s hc hok

theorem C12_modules_plan (a : ModulesArgs) (p : ModulesPlan) (h : modulesCheck a = .ok p) : ModulesAccepted a p :=
  modulesCheck_ok h

/-- each refusing precondition makes `Modules.add` raise `ValueError` and return the same mapping: empty variant,
unknown arch or category, a UID that is not a string / has no `:` / does not parse, absolute or empty
modulemd path, empty koji tag, `rpms` neither list nor tuple -/
theorem C12_modules_refuses (s : PyVal) (a : ModulesArgs)
    (h : a.variant = [] ∨ a.arch ∉ Gen.RPM_ARCHES ∨ a.category ∉ Gen.SUPPORTED_CATEGORIES
       ∨ (∀ t, a.uid ≠ .str t) ∨ (∃ t, a.uid = .str t ∧ ':' ∉ t) ∨ (∃ e, parseUid a.uid = .error e)
       ∨ Str.startsWith a.modulemdPath ['/'] = true ∨ a.modulemdPath = [] ∨ a.kojiTag = [] ∨ a.rpms = .other) :
    Modules.add s a = (s, .error .valueError) := by
  rw [Modules.add_eq]
  cases hc : modulesCheck a with
  | error e => rw [modulesCheck_error_class a e hc]
  | ok p =>
    exfalso
    have acc := C12_modules_plan a p hc
    obtain ⟨t, u, ht, hcol, hp, _, _⟩ := acc.uid
    rcases h with h | h | h | h | h | h | h | h | h | h
    · exact acc.variant_nonempty h
    · exact h acc.arch_known
    · exact h acc.category_known
    · exact h t ht
    · obtain ⟨t', ht', hn⟩ := h
      rw [ht] at ht'; cases ht'
      exact hn hcol
    · obtain ⟨e, he⟩ := h
      rw [ht, hp] at he; cases he
    · rw [acc.path_relative] at h; cases h
    · exact acc.path_nonempty h
    · exact acc.koji_nonempty h
    · rcases acc.rpms with h' | h' <;> rw [h] at h' <;> cases h'

/-- the three statements of `Modules.add`'s leaf update cannot stop half-way exactly on these entries: on an `EntryOK` dict all three
succeed, on a non-dict the first one raises; on a dict whose `modulemd_path` is no dict or whose `rpms` is no list the metadata is
written before the second or third statement raises (hence the hypothesis of `C12_modules_refusal`) -/
theorem modulesLeaf_atomic (p : ModulesPlan) (x : PyVal) (e : Err) (hx : EntryOK x ∨ ∀ kvs, x ≠ .dict kvs)
    (h : (modulesLeaf p x).2 = .error e) : (modulesLeaf p x).1 = x := by
  rcases hx with hx | hx
  · obtain ⟨_, _, _, _, _, _, heq⟩ := modulesLeaf_ok p x hx
    rw [heq] at h; cases h
  · rw [modulesLeaf_nondict p x hx]

/-- **Refusal leaves the manifest untouched** — on every mapping whose addressed entry (if there is one) has the
shape `Modules.add` itself produces; `C12_modules_reachable` shows that every mapping built by `add` calls has. -/
theorem C12_modules_refusal (s : PyVal) (a : ModulesArgs) (e : Err)
    (hs : ∀ p x, modulesCheck a = .ok p → getPath s [a.variant, a.arch, p.uid] = some x → EntryOK x ∨ ∀ kvs, x ≠ .dict kvs)
    (h : (Modules.add s a).2 = .error e) : (Modules.add s a).1 = s := by
  rw [Modules.add_eq] at h ⊢
  cases hc : modulesCheck a with
  | error e' => rfl
  | ok p =>
    rw [hc] at h
    refine setPathS_atomic (modulesLeaf p) (fun x => EntryOK x ∨ ∀ kvs, x ≠ .dict kvs)
      (fun x e hx h => modulesLeaf_atomic p x e hx h) ?_ _ s e ?_ h
    · obtain ⟨_, _, _, _, _, _, heq⟩ := modulesLeaf_ok p (.dict []) .empty
      rw [heq]
    · intro x hx
      rw [(setPathS_leaf (modulesLeaf p) _ s x hx).1]
      exact getD_elim (fun y hy => hs p y hc hy) (.inl .empty)

/-- **Frame** — after any call, every lookup path that leaves `[variant][arch][uid]` reads the same value -/
theorem C12_modules_frame (s : PyVal) (a : ModulesArgs) (p : ModulesPlan) (hc : modulesCheck a = .ok p)
    (path : List Str) (h : Off (fun _ => False) path [a.variant, a.arch, p.uid]) :
    getPath (Modules.add s a).1 path = getPath s path := by
  rw [Modules.add_eq, hc]
  exact setPathS_frame _ (fun _ => False) id (fun _ _ hq => hq.elim) _ s path h

theorem C12_modules_frame_pointwise (s : PyVal) (a : ModulesArgs) (p : ModulesPlan) (hc : modulesCheck a = .ok p)
    (v' a' u' : Str) (rest : List Str) (hne : ¬ (v' = a.variant ∧ a' = a.arch ∧ u' = p.uid)) :
    getPath (Modules.add s a).1 (v' :: a' :: u' :: rest) = getPath s (v' :: a' :: u' :: rest) := by
  exact C12_modules_frame s a p hc _ (Off.cons fun h1 => Off.cons fun h2 => Off.head fun h3 => hne ⟨h1, h2, h3⟩)

/-- **Content** — after an accepted call on a well-shaped entry, `[variant][arch][uid]` holds: the metadata record
(overwritten), the category's modulemd path (other categories kept), the RPM list extended by the elements of
the argument (list or tuple alike, stored as list elements) -/
theorem C12_modules_content (s : PyVal) (a : ModulesArgs) (p : ModulesPlan) (hc : modulesCheck a = .ok p)
    (hs : ∀ x, getPath s [a.variant, a.arch, p.uid] = some x → EntryOK x)
    (hnav : leafArg [a.variant, a.arch, p.uid] s ≠ none) :
    ∃ e mp l,
      (getPath s [a.variant, a.arch, p.uid]).getD (.dict []) = .dict e
      ∧ (lookup e (lit "modulemd_path")).getD (.dict []) = .dict mp
      ∧ (lookup e (lit "rpms")).getD (.list []) = .list l
      ∧ (Modules.add s a).2 = .ok ()
      ∧ getPath (Modules.add s a).1 [a.variant, a.arch, p.uid, lit "metadata"] = some p.metadata
      ∧ getPath (Modules.add s a).1 [a.variant, a.arch, p.uid, lit "modulemd_path", p.category] = some (.str p.path)
      ∧ (∀ c', c' ≠ p.category →
          getPath (Modules.add s a).1 [a.variant, a.arch, p.uid, lit "modulemd_path", c'] = lookup mp c')
      ∧ getPath (Modules.add s a).1 [a.variant, a.arch, p.uid, lit "rpms"] = some (.list (l ++ p.rpms)) := by
  rw [Modules.add_eq, hc]
  simp only
  cases hl : leafArg [a.variant, a.arch, p.uid] s with
  | none => exact absurd hl hnav
  | some x =>
    obtain ⟨hx, h1, h2⟩ := setPathS_leaf (modulesLeaf p) _ s x hl
    obtain ⟨e, mp, l, hxe, hmp, hll, heq⟩ := modulesLeaf_ok p x (hx ▸ getD_elim hs .empty)
    rw [heq] at h1 h2
    obtain ⟨l1, l2, l3⟩ := modulesEntry_lookup e p.metadata (.dict (put mp p.category (.str p.path))) (.list (l ++ p.rpms))
    refine ⟨e, mp, l, by rw [← hx, hxe], hmp, hll, h2, ?_, ?_, ?_, ?_⟩
    · exact (getPath_below h1 [lit "metadata"]).trans ((getPath_dict_single ..).trans l1)
    · refine (getPath_below h1 [lit "modulemd_path", p.category]).trans ?_
      rw [getPath_dict_cons, l2, Option.bind_some, getPath_dict_single, lookup_put_same]
    · intro c' hc'
      refine (getPath_below h1 [lit "modulemd_path", c']).trans ?_
      rw [getPath_dict_cons, l2, Option.bind_some, getPath_dict_single, lookup_put_other _ _ _ _ hc']
    · exact (getPath_below h1 [lit "rpms"]).trans ((getPath_dict_single ..).trans l3)

theorem C12_extra_plan (a : ExtraArgs) (r : PyVal) (h : extraCheck a = .ok r) :
    a.variant ≠ [] ∧ a.arch ∈ Gen.RPM_ARCHES ∧ a.path ≠ [] ∧ Str.startsWith a.path ['/'] = false
      ∧ a.checksums.isinstance .dict = true ∧ r = extraRecord a :=
  (extraCheck_spec a).of_ok h

/-- each refusing precondition makes `ExtraFiles.add` raise (`ValueError`; `TypeError` for checksums that are not
a dict) and return the same mapping -/
theorem C12_extra_refuses (s : PyVal) (a : ExtraArgs)
    (h : a.variant = [] ∨ a.arch ∉ Gen.RPM_ARCHES ∨ a.path = [] ∨ Str.startsWith a.path ['/'] = true
       ∨ a.checksums.isinstance .dict = false) :
    ∃ e, (e = .valueError ∨ e = .typeError) ∧ ExtraFiles.add s a = (s, .error e) := by
  rw [ExtraFiles.add_eq]
  cases hc : extraCheck a with
  | error e => exact ⟨e, extraCheck_error_class a e hc, rfl⟩
  | ok r =>
    exfalso
    obtain ⟨h1, h2, h3, h4, h5, _⟩ := C12_extra_plan a r hc
    rcases h with h | h | h | h | h
    · exact h1 h
    · exact h h2
    · exact h3 h
    · rw [h4] at h; cases h
    · rw [h5] at h; cases h

/-- `.append(record)` is the last statement: a chain that fails has stored nothing -/
theorem extraSet_atomic (arch : Str) (r : PyVal) (ks : List Str) (s : PyVal) (e : Err)
    (h : (setPathS (extraLeaf arch r) ks s).2 = .error e) : (setPathS (extraLeaf arch r) ks s).1 = s := by
  rw [extraLeaf_eq] at h ⊢
  exact setPathS_sub_atomic _ arch (appendL_atomic _) rfl ks s e h

/-- **Refusal leaves the manifest untouched** — every mapping, all arguments -/
theorem C12_extra_refusal (s : PyVal) (a : ExtraArgs) (e : Err) (h : (ExtraFiles.add s a).2 = .error e) :
    (ExtraFiles.add s a).1 = s := by
  rw [ExtraFiles.add_eq] at h ⊢
  cases hc : extraCheck a with
  | error e' => rfl
  | ok r => rw [hc] at h; exact extraSet_atomic _ _ _ s e h

/-- **Frame** — after any call only `[variant][arch]` can read differently -/
theorem C12_extra_frame (s : PyVal) (a : ExtraArgs) (r : PyVal) (hc : extraCheck a = .ok r) (path : List Str)
    (h : Off (OtherKey a.arch) path [a.variant]) :
    getPath (ExtraFiles.add s a).1 path = getPath s path := by
  rw [ExtraFiles.add_ok s hc, extraLeaf_eq]
  exact setPathS_sub_frame _ _ _ _ _ s path h

theorem C12_extra_frame_pointwise (s : PyVal) (a : ExtraArgs) (r : PyVal) (hc : extraCheck a = .ok r)
    (v' a' : Str) (rest : List Str) (hne : ¬ (v' = a.variant ∧ a' = a.arch)) :
    getPath (ExtraFiles.add s a).1 (v' :: a' :: rest) = getPath s (v' :: a' :: rest) := by
  refine C12_extra_frame s a r hc _ (Off.cons fun h1 => ?_)
  exact (Off_nil _ _).mpr (OtherKey.head fun h2 => hne ⟨h1, h2⟩)

theorem extend_content (k : Str) (l : List PyVal) (x : PyVal) (hok : (sub .attributeError (.list []) k (appendL l) x).2 = .ok ()) :
    ∃ old, (getPath x [k]).getD (.list []) = .list old ∧
      getPath (sub .attributeError (.list []) k (appendL l) x).1 [k] = some (.list (old ++ l)) := by
  cases x with
  | dict e =>
    simp only [sub_dict, getPath_dict_single, lookup_put_same] at hok ⊢
    generalize (lookup e k).getD (.list []) = z at hok ⊢
    cases z <;> first | exact ⟨_, rfl, rfl⟩ | cases hok
  | _ => cases hok

/-- **Content** — after an accepted call the list under `[variant][arch]` is the old list (or `[]`) with the record
`{file, size, checksums}` appended -/
theorem C12_extra_content (s : PyVal) (a : ExtraArgs) (r : PyVal) (hc : extraCheck a = .ok r)
    (hok : (ExtraFiles.add s a).2 = .ok ()) :
    ∃ l, (getPath s [a.variant, a.arch]).getD (.list []) = .list l
       ∧ getPath (ExtraFiles.add s a).1 [a.variant, a.arch] = some (.list (l ++ [extraRecord a])) := by
  have hr := extraCheck_record hc
  rw [ExtraFiles.add_ok s hc, extraLeaf_eq] at hok ⊢
  obtain ⟨x, hx, h1, hok⟩ := setPathS_ok _ _ s hok
  -- the leaf update succeeded on what `setdefault(variant, {})` returned
  obtain ⟨l, hl, hg⟩ := extend_content _ _ x hok
  refine ⟨l, ?_, (getPath_below h1 [a.arch]).trans (hr ▸ hg)⟩
  rw [← hl, hx]
  show (getPath s ([a.variant] ++ [a.arch])).getD _ = _
  rw [getPath_append]
  cases getPath s [a.variant] <;> rfl

theorem lstrip_spec (s : Str) :
    ∃ n, s = List.replicate n '/' ++ Str.lstripChars ['/'] s ∧ (Str.lstripChars ['/'] s).head? ≠ some '/' := by
  induction s with
  | nil => exact ⟨0, rfl, by simp [Str.lstripChars]⟩
  | cons c cs ih =>
    by_cases hc : c = '/'
    · subst hc
      obtain ⟨n, h1, h2⟩ := ih
      refine ⟨n + 1, ?_, ?_⟩
      · simp only [Str.lstripChars, List.contains_cons, beq_self_eq_true, Bool.true_or, ↓reduceIte, List.replicate_succ,
          List.cons_append]
        rw [← h1]
      · simpa [Str.lstripChars] using h2
    · refine ⟨0, ?_, ?_⟩
      · simp [Str.lstripChars, hc]
      · simp [Str.lstripChars, hc]

theorem rstrip_spec (b : Str) :
    ∃ n, b = Str.rstripChars ['/'] b ++ List.replicate n '/' ∧ (Str.rstripChars ['/'] b).getLast? ≠ some '/' := by
  obtain ⟨n, h1, h2⟩ := lstrip_spec b.reverse
  refine ⟨n, ?_, ?_⟩
  · have := congrArg List.reverse h1
    simpa [Str.rstripChars] using this
  · simpa [Str.rstripChars, List.getLast?_reverse] using h2

/-- **`_relative_to` strips the root only on a path-component boundary** (complete characterisation): with
`b' = root` minus its trailing slashes, the result is `rest` when `path = b' ++ "/" ++ rest`, and `path` itself
in every other case -/
theorem C12_relative (path root : Str) :
    (∃ rest, path = Str.rstripChars ['/'] root ++ '/' :: rest ∧ relativeTo path root = rest)
    ∨ ((¬ ∃ rest, path = Str.rstripChars ['/'] root ++ '/' :: rest) ∧ relativeTo path root = path) := by
  unfold relativeTo rootDir
  by_cases h : Str.startsWith path (Str.rstripChars ['/'] root ++ ['/']) = true
  · left
    simp only [Str.startsWith] at h
    rw [List.isPrefixOf_iff_prefix] at h
    obtain ⟨rest, hrest⟩ := h
    refine ⟨rest, by simpa using hrest.symm, ?_⟩
    simp only [Str.startsWith, List.isPrefixOf_iff_prefix.mpr ⟨rest, hrest⟩, ↓reduceIte]
    rw [← hrest]
    simp
  · right
    refine ⟨?_, by simp [h]⟩
    rintro ⟨rest, hrest⟩
    apply h
    simp only [Str.startsWith]
    rw [List.isPrefixOf_iff_prefix]
    exact ⟨rest, by simpa using hrest.symm⟩

/-- a root that prefixes the path only textually (the next character is not `/`) is not stripped -/
theorem C12_relative_textual_prefix (root rest : Str) (c : Char) (hc : c ≠ '/') :
    relativeTo (Str.rstripChars ['/'] root ++ c :: rest) root = Str.rstripChars ['/'] root ++ c :: rest := by
  rcases C12_relative (Str.rstripChars ['/'] root ++ c :: rest) root with ⟨r, h, _⟩ | ⟨_, h⟩
  · have := List.append_cancel_left h
    simp only [List.cons.injEq] at this
    exact absurd this.1 hc
  · exact h

/-- any number of trailing slashes on the root makes no difference -/
theorem C12_relative_trailing_slashes (path root : Str) (n : Nat) (h : (root.getLast? ≠ some '/')) :
    relativeTo path (root ++ List.replicate n '/') = relativeTo path root := by
  have key : ∀ (r : Str) (m : Nat), r.getLast? ≠ some '/' → Str.rstripChars ['/'] (r ++ List.replicate m '/') = r := by
    intro r m hr
    simp only [Str.rstripChars, List.reverse_append, List.reverse_replicate]
    have : ∀ (m : Nat) (t : Str), t.head? ≠ some '/' → Str.lstripChars ['/'] (List.replicate m '/' ++ t) = t := by
      intro m
      induction m with
      | zero =>
        intro t ht
        cases t with
        | nil => rfl
        | cons x xs =>
          have : x ≠ '/' := by simpa using ht
          simp [Str.lstripChars, this]
      | succ m ih => intro t ht; simp [List.replicate_succ, Str.lstripChars, ih t ht]
    rw [this m r.reverse (by simpa [List.head?_reverse] using hr)]
    simp
  unfold relativeTo rootDir
  rw [key root n h]
  have := key root 0 h
  simp only [List.replicate_zero, List.append_nil] at this
  rw [this]

theorem C12_rpms_reachable (h : List RpmsArgs) : RpmsShape (runRpms empty h) :=
  List.foldlRecOn (motive := RpmsShape) h _ rfl fun s hs a _ => (rpms_shape_step s a hs).1

theorem C12_modules_reachable (h : List ModulesArgs) : ModulesShape (runModules empty h) :=
  List.foldlRecOn (motive := ModulesShape) h _ rfl fun s hs a _ => (modules_shape_step s a hs).1

theorem C12_extra_reachable (h : List ExtraArgs) : ExtraShape (runExtra empty h) :=
  List.foldlRecOn (motive := ExtraShape) h _ rfl fun s hs a _ => (extra_shape_step s a hs).1

/-- on a mapping built by `Rpms.add`, the outcome of a call is decided by the precondition checks alone -/
theorem C12_rpms_outcome (s : PyVal) (hs : RpmsShape s) (a : RpmsArgs) :
    (Rpms.add s a).2 = (rpmsCheck a).map (fun _ => ()) := (rpms_shape_step s a hs).2

theorem C12_modules_outcome (s : PyVal) (hs : ModulesShape s) (a : ModulesArgs) :
    (Modules.add s a).2 = (modulesCheck a).map (fun _ => ()) := (modules_shape_step s a hs).2

theorem C12_extra_outcome (s : PyVal) (hs : ExtraShape s) (a : ExtraArgs) :
    (ExtraFiles.add s a).2 = (extraCheck a).map (fun _ => ()) := (extra_shape_step s a hs).2

/-- **Error class, any history**: after any history of `Rpms.add` calls, whatever a further call raises is a
`ValueError`, and (by `C12_rpms_refusal`) the mapping is unchanged -/
theorem C12_rpms_error_class (h : List RpmsArgs) (a : RpmsArgs) (e : Err)
    (he : (Rpms.add (runRpms empty h) a).2 = .error e) :
    e = .valueError ∧ (Rpms.add (runRpms empty h) a).1 = runRpms empty h :=
  ⟨rpmsCheck_error_class a e (error_of_map_error (C12_rpms_outcome _ (C12_rpms_reachable h) a ▸ he)),
   C12_rpms_refusal _ a e he⟩

/-- **Refusal and error class, any history** for `Modules.add`: on a mapping built by `Modules.add` the hypothesis of
`C12_modules_refusal` holds -/
theorem C12_modules_error_class (h : List ModulesArgs) (a : ModulesArgs) (e : Err)
    (he : (Modules.add (runModules empty h) a).2 = .error e) :
    e = .valueError ∧ (Modules.add (runModules empty h) a).1 = runModules empty h := by
  have hc := error_of_map_error (C12_modules_outcome _ (C12_modules_reachable h) a ▸ he)
  refine ⟨modulesCheck_error_class a e hc, ?_⟩
  rw [Modules.add_eq, hc]

theorem C12_extra_error_class (h : List ExtraArgs) (a : ExtraArgs) (e : Err)
    (he : (ExtraFiles.add (runExtra empty h) a).2 = .error e) :
    (e = .valueError ∨ e = .typeError) ∧ (ExtraFiles.add (runExtra empty h) a).1 = runExtra empty h :=
  ⟨extraCheck_error_class a e (error_of_map_error (C12_extra_outcome _ (C12_extra_reachable h) a ▸ he)),
   C12_extra_refusal _ a e he⟩

/-- the hypotheses of `C12_modules_content` hold on every mapping built by `Modules.add` -/
theorem C12_modules_content_applies (h : List ModulesArgs) (a : ModulesArgs) (p : ModulesPlan) :
    (∀ x, getPath (runModules empty h) [a.variant, a.arch, p.uid] = some x → EntryOK x)
    ∧ leafArg [a.variant, a.arch, p.uid] (runModules empty h) ≠ none := by
  obtain ⟨x, hx, hd⟩ := shape_leaf entryOK (by decide) [a.variant, a.arch, p.uid] _ (C12_modules_reachable h)
  refine ⟨fun y hy => ?_, by rw [hx]; simp⟩
  have hxy : x = y := by rw [(setPathS_leaf (modulesLeaf p) _ _ x hx).1, hy]; rfl
  exact hxy ▸ EntryOK_of_entryOK x hd

/-- one entry of the per-tree file: the stored record with the base path stripped from `file` -/
def stripItem (b : Str) : PyVal → PyVal
  | .dict r =>
    match lookup r (lit "file") with
    | some (.str f) =>
      .dict [(lit "file", .str (relativeTo f b)), (lit "size", (lookup r (lit "size")).getD .none),
             (lit "checksums", (lookup r (lit "checksums")).getD .none)]
    | _ => .none
  | _ => .none

def treeDoc (data : List PyVal) : PyVal :=
  .dict [(lit "header", .dict [(lit "version", .str (lit "1.0"))]), (lit "data", .list data)]

theorem treeItem_rec (b : Str) (item : PyVal) (h : isExtraRec item = true) : treeItem b item = .ok (stripItem b item) := by
  cases item with
  | dict r =>
    simp only [isExtraRec, Bool.and_eq_true] at h
    obtain ⟨⟨h1, h2⟩, h3⟩ := h
    cases hf : lookup r (lit "file") with
    | none => rw [hf] at h1; cases h1
    | some fv =>
      rw [hf] at h1
      cases fv with
      | str f =>
        obtain ⟨sz, hsz⟩ := Option.isSome_iff_exists.mp h2
        obtain ⟨cs, hcs⟩ := Option.isSome_iff_exists.mp h3
        simp [treeItem, getItem, stripItem, hf, hsz, hcs]
      | _ => cases h1
  | _ => cases h

theorem mapExcept_recs (b : Str) (l : List PyVal) (h : l.all isExtraRec = true) :
    mapExcept (treeItem b) l = .ok (l.map (stripItem b)) := by
  induction l with
  | nil => rfl
  | cons x xs ih =>
    simp only [List.all_cons, Bool.and_eq_true] at h
    simp [mapExcept, treeItem_rec b x h.1, ih h.2]

theorem C12_dump_for_tree_aux (top : Kvs) (v a b : Str) (hs : top.all (fun kv => allVals isRecList kv.2) = true) :
    (∀ l, getPath (.dict top) [v, a] = some (.list l) →
        dumpForTreeDoc (.dict top) v a b = .ok (treeDoc (l.map (stripItem b))))
    ∧ (getPath (.dict top) [v, a] = none → dumpForTreeDoc (.dict top) v a b = .error .keyError)
    ∧ (∀ x, getPath (.dict top) [v, a] = some x → ∃ l, x = .list l) := by
  -- the lookup `[v][a]` is decided once; the three statements are read off in each case
  cases hlk : lookup top v with
  | none =>
    have hg : getPath (.dict top) [v, a] = none := by simp only [getPath_dict_cons, hlk, Option.bind_none]
    rw [hg]
    exact ⟨fun _ h => (nomatch h), fun _ => by simp [dumpForTreeDoc, getItem, hlk], fun _ h => nomatch h⟩
  | some av =>
    obtain ⟨am, rfl, hav⟩ := allVals_inv (all_of_lookup (allVals isRecList) top v av hs hlk)
    cases hla : lookup am a with
    | none =>
      have hg : getPath (.dict top) [v, a] = none := by
        simp only [getPath_dict_cons, hlk, hla, Option.bind_some, Option.bind_none]
      rw [hg]
      exact ⟨fun _ h => (nomatch h), fun _ => by simp [dumpForTreeDoc, getItem, hlk, hla], fun _ h => nomatch h⟩
    | some z =>
      have hg : getPath (.dict top) [v, a] = some z := by
        simp only [getPath_dict_cons, hlk, hla, Option.bind_some, getPath_nil]
      rw [hg]
      obtain ⟨l, rfl, hrec⟩ := isRecList_inv (all_of_lookup isRecList am a z hav hla)
      refine ⟨fun l' h => ?_, fun h => (nomatch h), fun x h => ⟨l, (Option.some.inj h).symm⟩⟩
      cases h
      simp only [dumpForTreeDoc, getItem, hlk, hla, mapExcept_recs b l hrec]
      rfl

/-- **`dump_for_tree`** on any manifest built by `ExtraFiles.add`: for a variant/arch that has files the document
is `{"header": {"version": "1.0"}, "data": [...]}` with one entry per stored record, in order, each with the base
path stripped from `file` by `_relative_to` (see `C12_relative`) and `size`/`checksums` unchanged; for a
variant/arch without files the call raises `KeyError`. -/
theorem C12_dump_for_tree (h : List ExtraArgs) (v a b : Str) :
    (∀ l, getPath (runExtra empty h) [v, a] = some (.list l) →
        dumpForTreeDoc (runExtra empty h) v a b = .ok (treeDoc (l.map (stripItem b))))
    ∧ (getPath (runExtra empty h) [v, a] = none → dumpForTreeDoc (runExtra empty h) v a b = .error .keyError)
    ∧ (∀ x, getPath (runExtra empty h) [v, a] = some x → ∃ l, x = .list l) := by
  have hs := C12_extra_reachable h
  generalize runExtra empty h = s at hs
  obtain ⟨top, rfl, hs⟩ := allVals_inv hs
  exact C12_dump_for_tree_aux top v a b hs

/-- obligation on the generated fact (tools/gen_builders.py): the loop of `dump_for_tree` appends a FRESH dict per
entry; a loop that rewrites the stored record (`item["file"] = …; append(item)`) is recognised as `.inPlace`, gets
the mutating semantics in the model, and breaks this -/
theorem C12_dump_for_tree_mode : Gen.dump_for_tree_mode = .copy := by decide

/-- **`dump_for_tree` is an export, not an edit** — for every manifest (built or loaded, well-shaped or not), every
variant, arch and base path, whether the base matches, does not match or only textually prefixes the stored paths,
whether the call succeeds or raises: the manifest afterwards is identical, and the text is the documented one
(`C12_dump_for_tree`).  Hence any sequence of exports with any bases, interleaved with adds, files and exports
exactly what the adds alone determine. -/
theorem C12_dump_for_tree_pure (s : PyVal) (v a b : Str) :
    (ExtraFiles.dumpForTreeS s v a b).1 = s ∧ (ExtraFiles.dumpForTreeS s v a b).2 = dumpForTree s v a b := by
  unfold ExtraFiles.dumpForTreeS
  rw [C12_dump_for_tree_mode]
  exact ⟨rfl, rfl⟩

/-- a second export, with another base, sees the same manifest as the first -/
theorem C12_dump_for_tree_twice (s : PyVal) (v a b v' a' b' : Str) :
    (ExtraFiles.dumpForTreeS (ExtraFiles.dumpForTreeS s v a b).1 v' a' b').2 = dumpForTree s v' a' b' := by
  rw [(C12_dump_for_tree_pure s v a b).1]
  exact (C12_dump_for_tree_pure s v' a' b').2

/-- `obj[variant]` and `dumps()` do not touch the mapping or the compose section (`dumps` sets the header version to
the current one: the documented mutation) -/
theorem C12_readonly_pure (k : Kind) (m : Manifest) (v : Str) :
    (getVariant m.payload v).1 = m.payload
    ∧ (dumps k m).1.payload = m.payload ∧ (dumps k m).1.compose = m.compose
    ∧ ((dumps k m).1.version = m.version ∨ (dumps k m).1.version = .str currentVersion) := by
  refine ⟨rfl, ?_, ?_, ?_⟩
  all_goals
    unfold dumps dumpDoc
    cases validateClass k.className [] <;> simp [serialize]

/-! The executable model interprets whatever statement list the source contains.  For EVERY list that consists of non-inserting
statements followed by the insertion block — any refusals, in any order, known kinds or not — a call that raises returns the identical
mapping: there is no raise after the first mutation.  (What `C12_scripts` adds is *which* refusals there are.)  For `Rpms.add` and
`ExtraFiles.add` only: the insertion block of `Modules.add` is three statements and can raise after the first of them on an ill-shaped
entry (`modulesLeaf_atomic`), so there the statement would need the hypothesis of `C12_modules_refusal`. -/

theorem rpmsInsert_atomic (a : RpmsArgs) (s : PyVal) (env : REnv) (e : Err) (h : (rpmsInsert a s env).2 = .error e) :
    (rpmsInsert a s env).1 = s := by
  unfold rpmsInsert at h ⊢
  cases hs : env.srpm with
  | none => rfl
  | some k => rw [hs] at h; exact rpmsSet_atomic _ _ _ s e h

theorem C12_rpms_refusal_any_script (a : RpmsArgs) :
    ∀ (checks : List BStep), (∀ st ∈ checks, st ≠ .insert) → ∀ (s : PyVal) (env : REnv) (e : Err),
      (rpmsRun a (checks ++ [.insert]) s env).2 = .error e → (rpmsRun a (checks ++ [.insert]) s env).1 = s := by
  intro checks
  induction checks with
  | nil =>
    intro _ s env e h
    have hrun : rpmsRun a [.insert] s env = rpmsInsert a s env := by
      simp only [rpmsRun, ↓reduceIte]
      exact out_eta _
    rw [List.nil_append, hrun] at h ⊢
    exact rpmsInsert_atomic a s env e h
  | cons st rest ih =>
    intro hne s env e h
    have hst : st ≠ .insert := hne st (List.mem_cons_self)
    simp only [List.cons_append, rpmsRun, hst, ↓reduceIte] at h ⊢
    cases hp : rpmsPure a st env with
    | error e' => rfl
    | ok env' =>
      rw [hp] at h
      exact ih (fun x hx => hne x (List.mem_cons_of_mem _ hx)) s env' e h

theorem C12_extra_refusal_any_script (a : ExtraArgs) :
    ∀ (checks : List BStep), (∀ st ∈ checks, st ≠ .insert) → ∀ (s : PyVal) (e : Err),
      (extraRun a (checks ++ [.insert]) s).2 = .error e → (extraRun a (checks ++ [.insert]) s).1 = s := by
  intro checks
  induction checks with
  | nil =>
    intro _ s e h
    have hrun : extraRun a [.insert] s = setPathS (extraLeaf a.arch (extraRecord a)) [a.variant] s := by
      simp only [extraRun, ↓reduceIte]
      exact out_eta _
    rw [List.nil_append, hrun] at h ⊢
    exact extraSet_atomic _ _ _ s e h
  | cons st rest ih =>
    intro hne s e h
    have hst : st ≠ .insert := hne st (List.mem_cons_self)
    simp only [List.cons_append, extraRun, hst, ↓reduceIte] at h ⊢
    cases hp : extraPure a st with
    | error e' => rfl
    | ok u =>
      rw [hp] at h
      exact ih (fun x hx => hne x (List.mem_cons_of_mem _ hx)) s e h

/-- **C12 for `Rpms.add`** — after ANY history of calls, a further call with ANY arguments either is refused
(`ValueError`, exactly when one of the precondition checks fails, mapping identical) or is accepted, and then:
the arguments passed every check and determine the keys (`RpmsAccepted`: canonical N-E:V-R.A of the RPM and of its
source package, lower-cased signing key), the record sits at `[variant][arch][srpm key][rpm key]`, and every lookup
path that does not lead to that record reads what it read before. -/
theorem C12_rpms_history (h : List RpmsArgs) (a : RpmsArgs) :
    (∃ e, rpmsCheck a = .error e ∧ e = .valueError ∧ Rpms.add (runRpms empty h) a = (runRpms empty h, .error e))
    ∨ (∃ p, rpmsCheck a = .ok p ∧ RpmsAccepted a p ∧ (Rpms.add (runRpms empty h) a).2 = .ok ()
        ∧ getPath (Rpms.add (runRpms empty h) a).1 [a.variant, a.arch, p.srpmKey, p.key] = some p.record
        ∧ ∀ path, Off (OtherKey p.key) path [a.variant, a.arch, p.srpmKey] →
            getPath (Rpms.add (runRpms empty h) a).1 path = getPath (runRpms empty h) path) := by
  have hout := C12_rpms_outcome _ (C12_rpms_reachable h) a
  cases hc : rpmsCheck a with
  | error e =>
    left
    refine ⟨e, rfl, rpmsCheck_error_class a e hc, ?_⟩
    rw [Rpms.add_eq, hc]
  | ok p =>
    right
    rw [hc] at hout
    have hok : (Rpms.add (runRpms empty h) a).2 = .ok () := hout
    exact ⟨p, rfl, C12_rpms_plan a p hc, hok, C12_rpms_content _ a p hc hok, fun path hp => C12_rpms_frame _ a p hc path hp⟩

/-- **C12 for `Modules.add`** — any history, any further call: refused with `ValueError` and the identical mapping
exactly when a precondition check fails; otherwise accepted, `[variant][arch][canonical uid]` holds the metadata
record, the category's modulemd path (other categories kept) and the RPM list extended, and every lookup path that
leaves that entry reads what it read before. -/
theorem C12_modules_history (h : List ModulesArgs) (a : ModulesArgs) :
    (∃ e, modulesCheck a = .error e ∧ e = .valueError ∧ Modules.add (runModules empty h) a = (runModules empty h, .error e))
    ∨ (∃ p, modulesCheck a = .ok p ∧ ModulesAccepted a p ∧ (Modules.add (runModules empty h) a).2 = .ok ()
        ∧ (∃ e mp l,
            (getPath (runModules empty h) [a.variant, a.arch, p.uid]).getD (.dict []) = .dict e
            ∧ (lookup e (lit "modulemd_path")).getD (.dict []) = .dict mp
            ∧ (lookup e (lit "rpms")).getD (.list []) = .list l
            ∧ getPath (Modules.add (runModules empty h) a).1 [a.variant, a.arch, p.uid, lit "metadata"] = some p.metadata
            ∧ getPath (Modules.add (runModules empty h) a).1 [a.variant, a.arch, p.uid, lit "modulemd_path", p.category]
                = some (.str p.path)
            ∧ (∀ c', c' ≠ p.category →
                getPath (Modules.add (runModules empty h) a).1 [a.variant, a.arch, p.uid, lit "modulemd_path", c'] = lookup mp c')
            ∧ getPath (Modules.add (runModules empty h) a).1 [a.variant, a.arch, p.uid, lit "rpms"] = some (.list (l ++ p.rpms)))
        ∧ ∀ path, Off (fun _ => False) path [a.variant, a.arch, p.uid] →
            getPath (Modules.add (runModules empty h) a).1 path = getPath (runModules empty h) path) := by
  cases hc : modulesCheck a with
  | error e =>
    left
    refine ⟨e, rfl, modulesCheck_error_class a e hc, ?_⟩
    rw [Modules.add_eq, hc]
  | ok p =>
    right
    obtain ⟨hs, hnav⟩ := C12_modules_content_applies h a p
    obtain ⟨e, mp, l, h1, h2, h3, h4, h5, h6, h7, h8⟩ := C12_modules_content _ a p hc hs hnav
    exact ⟨p, rfl, C12_modules_plan a p hc, h4, ⟨e, mp, l, h1, h2, h3, h5, h6, h7, h8⟩,
      fun path hp => C12_modules_frame _ a p hc path hp⟩

/-- **C12 for `ExtraFiles.add`** — any history, any further call: refused (`ValueError`, or `TypeError` for checksums
that are not a dict) with the identical mapping exactly when a precondition check fails; otherwise the record
`{file, size, checksums}` is appended to the list under `[variant][arch]` and nothing else changes. -/
theorem C12_extra_history (h : List ExtraArgs) (a : ExtraArgs) :
    (∃ e, extraCheck a = .error e ∧ (e = .valueError ∨ e = .typeError)
        ∧ ExtraFiles.add (runExtra empty h) a = (runExtra empty h, .error e))
    ∨ (extraCheck a = .ok (extraRecord a) ∧ (ExtraFiles.add (runExtra empty h) a).2 = .ok ()
        ∧ (∃ l, (getPath (runExtra empty h) [a.variant, a.arch]).getD (.list []) = .list l
              ∧ getPath (ExtraFiles.add (runExtra empty h) a).1 [a.variant, a.arch] = some (.list (l ++ [extraRecord a])))
        ∧ ∀ path, Off (OtherKey a.arch) path [a.variant] →
            getPath (ExtraFiles.add (runExtra empty h) a).1 path = getPath (runExtra empty h) path) := by
  have hout := C12_extra_outcome _ (C12_extra_reachable h) a
  cases hc : extraCheck a with
  | error e =>
    left
    refine ⟨e, rfl, extraCheck_error_class a e hc, ?_⟩
    rw [ExtraFiles.add_eq, hc]
  | ok r =>
    right
    rw [hc] at hout
    have hok : (ExtraFiles.add (runExtra empty h) a).2 = .ok () := hout
    have hr := extraCheck_record hc
    subst hr
    exact ⟨rfl, hok, C12_extra_content _ a _ hc hok, fun path hp => C12_extra_frame _ a _ hc path hp⟩

def Out.raises (o : Out) (e : Err) : Bool :=
  match o with
  | .error e' => e' == e
  | .ok _ => false

/-- a binary RPM with directory prefix, `.rpm` suffix, epoch 1 and a mixed-case key is filed under its source
package's canonical name, with the key lower-cased -/
theorem C12_rpms_example :
    let r := Rpms.add empty
      { variant := lit "Server", arch := lit "x86_64", nevra := lit "Packages/f/foo-bar-1:2.0-3.el7.x86_64.rpm",
        path := lit "os/Packages/f/foo-bar-2.0-3.el7.x86_64.rpm", sigkey := some (lit "FD431D51"),
        category := lit "binary", srpm := some (lit "foo-01:2.0-3.el7.src.rpm") }
    r.2.isOk = true ∧
    PyVal.beq r.1 (.dict [(lit "Server", .dict [(lit "x86_64", .dict [(lit "foo-1:2.0-3.el7.src",
            .dict [(lit "foo-bar-1:2.0-3.el7.x86_64",
              rpmRecord (some (lit "fd431d51")) (lit "os/Packages/f/foo-bar-2.0-3.el7.x86_64.rpm") (lit "binary"))])])])]) = true := by
  decide +kernel

/-- a module UID with a directory prefix is filed under its canonical UID; a tuple of RPMs is stored as list
elements -/
theorem C12_modules_example :
    let r := Modules.add empty
      { variant := lit "Server", arch := lit "x86_64", uid := .str (lit "dir/httpd:2.4:2018:6c81f848"),
        kojiTag := lit "module-httpd", modulemdPath := lit "repodata/m.yaml", category := lit "binary",
        rpms := .tuple [.str (lit "a"), .str (lit "b")] }
    r.2.isOk = true ∧
    PyVal.beq r.1 (.dict [(lit "Server", .dict [(lit "x86_64", .dict [(lit "httpd:2.4:2018:6c81f848",
          .dict [(lit "metadata", moduleMetadata (lit "httpd:2.4:2018:6c81f848")
                                  ⟨lit "httpd", lit "2.4", lit "2018", lit "6c81f848"⟩ (lit "module-httpd")),
                 (lit "modulemd_path", .dict [(lit "binary", .str (lit "repodata/m.yaml"))]),
                 (lit "rpms", .list [.str (lit "a"), .str (lit "b")])])])])]) = true := by
  decide +kernel

/-- obligation on the generated facts (tools/gen_builders.py): the compose arches refused by `Rpms.add` are exactly
the arches that make an RPM a source RPM, and both are `src`, `nosrc` (known arches) -/
theorem C12_source_arches :
    srcArches = [lit "src", lit "nosrc"] ∧ nevraSrcArches = srcArches ∧ ∀ x ∈ srcArches, x ∈ Gen.RPM_ARCHES := by
  decide

/-- the documented set of categories is exactly the generated table (both inclusions: an entry added to or removed from
`SUPPORTED_CATEGORIES` breaks this) -/
theorem C12_categories : Gen.SUPPORTED_CATEGORIES = [lit "binary", lit "debug", lit "source"] := by decide

/-- F5: an unparsable name is a `ValueError` -/
theorem C12_unparsable_is_valueError :
    (Rpms.add empty { variant := lit "S", arch := lit "x86_64", nevra := lit "foo:bar", path := lit "p", sigkey := none,
                      category := lit "binary", srpm := some (lit "foo-0:1-1.src") }).2.raises .valueError = true := by
  decide +kernel

/-- F30: an empty path is refused by all three builders, with `ValueError` and the manifest untouched — the statement's
"absolute or empty path" is covered for `Rpms.add` (the `emptyPath` statement of its list), `Modules.add` (modulemd path) and
`ExtraFiles.add` alike. -/
theorem C12_empty_path_refused (s : PyVal) :
    Rpms.add s { variant := lit "S", arch := lit "x86_64", nevra := lit "foo-0:1-1.src", path := [], sigkey := none,
                 category := lit "source" } = (s, .error .valueError)
    ∧ Modules.add s { variant := lit "S", arch := lit "x86_64", uid := .str (lit "m:1"), kojiTag := lit "t",
                      modulemdPath := [], category := lit "binary", rpms := .list [] } = (s, .error .valueError)
    ∧ ExtraFiles.add s { variant := lit "S", arch := lit "x86_64", path := [], size := .int 1, checksums := .dict [] }
        = (s, .error .valueError) := by
  refine ⟨C12_rpms_refuses s _ (Or.inr (Or.inr (Or.inr (Or.inl rfl)))), C12_modules_refuses s _ ?_, ?_⟩
  · right; right; right; right; right; right; right; left; rfl
  · rw [ExtraFiles.add_eq]
    rfl

/-- **Every refused add raises ValueError or TypeError** (F42), in the words of the property: the three `_error_class` theorems
in one statement, those for `Rpms.add` and `Modules.add` weakened from `ValueError` to "`ValueError` or `TypeError`" (`TypeError`
is possible only for `ExtraFiles.add`'s checksums test in the model's argument types).  On the real side the type tests that the model's
typed arguments cannot express — `sigkey` neither `None` nor a string (a `TypeError`), a falsy non-string
`modulemd_path` (the `ValueError` of the emptiness loop, which runs before `.startswith`) — are exercised by the
complete falsy stream of the check; `C12_scripts` fixes the statement shapes that matter for it and their order
(`sigkeyTyped`; `paramsLoop` before `absoluteMdPath`). -/
theorem C12_errclass_full :
    (∀ (h : List RpmsArgs) (a : RpmsArgs) (e : Err), (Rpms.add (runRpms empty h) a).2 = .error e →
        (e = .valueError ∨ e = .typeError) ∧ (Rpms.add (runRpms empty h) a).1 = runRpms empty h)
    ∧ (∀ (h : List ModulesArgs) (a : ModulesArgs) (e : Err), (Modules.add (runModules empty h) a).2 = .error e →
        (e = .valueError ∨ e = .typeError) ∧ (Modules.add (runModules empty h) a).1 = runModules empty h)
    ∧ (∀ (h : List ExtraArgs) (a : ExtraArgs) (e : Err), (ExtraFiles.add (runExtra empty h) a).2 = .error e →
        (e = .valueError ∨ e = .typeError) ∧ (ExtraFiles.add (runExtra empty h) a).1 = runExtra empty h) := by
  refine ⟨fun h a e he => ?_, fun h a e he => ?_, fun h a e he => C12_extra_error_class h a e he⟩
  · exact ⟨Or.inl (C12_rpms_error_class h a e he).1, (C12_rpms_error_class h a e he).2⟩
  · exact ⟨Or.inl (C12_modules_error_class h a e he).1, (C12_modules_error_class h a e he).2⟩

/-- F42: in `Modules.add` the emptiness loop over variant / koji_tag / modulemd_path precedes the first
attribute access on `modulemd_path`, and `Rpms.add` tests the type of a signing key before lower-casing it
(with `absoluteMdPath` before `paramsLoop`, or `sigkeyLower` in place of `sigkeyTyped`, `Modules().add(…, modulemd_path=None, …)`
and `Rpms().add(…, sigkey=0, …)` raise `AttributeError`). -/
theorem C12_type_tests_first :
    Gen.modules_add_script.idxOf BStep.paramsLoop < Gen.modules_add_script.idxOf BStep.absoluteMdPath
    ∧ BStep.sigkeyTyped ∈ Gen.rpms_add_script ∧ BStep.sigkeyLower ∉ Gen.rpms_add_script := by decide

/-- the statement lists the model interprets are the documented ones (obligation on the generated file; a refusal
removed, added or reordered in the source breaks it — and changes the executable model at the same time) -/
theorem C12_scripts :
    Gen.rpms_add_script = specRpmsScript ∧ Gen.modules_add_script = specModulesScript
    ∧ Gen.extra_add_script = specExtraScript := ⟨rpms_script_eq, modules_script_eq, extra_script_eq⟩

/-- known finding F31: the missing-epoch test is `":" in nevra`; a `:` in the directory prefix lets an
N-V-R.A without epoch through, filed with epoch 0 -/
theorem C12_rpms_missing_epoch_witness :
    (checkNevra (lit "a:b/foo-1.0-1.src")).toOption.map (·.1) = some (lit "foo-0:1.0-1.src")
    ∧ (checkNevra (lit "foo-1.0-1.src")).toOption.map (·.1) = none := by
  decide +kernel

/-- `a/b` only textually prefixes `a/bc/x` -/
theorem C12_relative_example :
    relativeTo (lit "a/bc/x") (lit "a/b") = lit "a/bc/x" ∧ relativeTo (lit "a/b/x") (lit "a/b//") = lit "x" := by
  decide +kernel

end PM.Mf
