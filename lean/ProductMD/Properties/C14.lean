import ProductMD.Proofs.C14RoundTrip
/-!
# C14 — release identifiers round-trip; the validity predicates accept exactly the documented names

Model: `Model/ReleaseId.lean` (`isValidRelease*`, `createReleaseId`, `parseReleaseId`, `parseReleaseIdPart` — the
code of `productmd/common.py` statement by statement, on the generated patterns and the generated table of known
release types).  Specification: `Spec/ReleaseNames.lean` (`SpecShort`, `SpecType`, `SpecVersion`: plain
predicates on `List Char`, built from `split` at the separator — no regular expression).

All theorems are for strings of any length.  Two parts of the property are false of the code and are stated with
the failing region as an explicit hypothesis plus a witness:

* F15 — CPython's `$` also matches before a final line feed, and `.` does not match a line feed:
  the predicates agree with the documented languages exactly on strings without `'\n'` (`_partial`), and the
  `_exact` theorems say what they accept on *all* strings;
* F9 — `create_release_id("my-prod", "1.0", "ga")` cannot be parsed back (`C14_F9_witness`); no decoder could,
  because creation is not injective there (`C14_not_injective`).
-/
namespace PM
open PM.Str PM.Spec PM.C14

/-- obligation on the generated file: the three patterns are (up to group marks) the ones analysed -/
theorem C14_patterns :
    Gen.re_common_RELEASE_SHORT_RE.strip = shortRe ∧ Gen.re_common_RELEASE_TYPE_RE.strip = shortRe
    ∧ Gen.re_common_RELEASE_VERSION_RE.strip = versionRe :=
  ⟨short_pattern, type_pattern, version_pattern⟩

/-- exact behaviour of `is_valid_release_short`, for every string -/
theorem C14_short_exact (s : Str) :
    isValidReleaseShort s = true ↔ SpecShort s ∨ ∃ t, s = t ++ ['\n'] ∧ SpecShort t := by
  rw [isValidReleaseShort_eq]; exact pyMatches_shortRe s

/-- exact behaviour of `is_valid_release_type`, for every string -/
theorem C14_type_exact (s : Str) :
    isValidReleaseType s = true ↔ SpecType s ∨ ∃ t, s = t ++ ['\n'] ∧ SpecType t := by
  rw [isValidReleaseType_eq]; exact pyMatches_shortRe s

/-- exact behaviour of `is_valid_release_version`, for every string; `VersionLine b` is
`SpecNumeric b ∨ (SpecFree b ∧ '\n' ∉ b.tail)` -/
theorem C14_version_exact (s : Str) :
    isValidReleaseVersion s = true ↔ VersionLine s ∨ ∃ t, s = t ++ ['\n'] ∧ VersionLine t := by
  rw [isValidReleaseVersion_eq]; exact pyMatches_versionRe s

/- Full statement (false of the code, F15):  ∀ s, isValidReleaseShort s = true ↔ SpecShort s. -/
/-- the property for short names, outside the F15 region -/
theorem C14_short_partial (s : Str) (h : '\n' ∉ s) : isValidReleaseShort s = true ↔ SpecShort s := by
  rw [C14_short_exact, or_nl_iff h]

/-- the property for release types, outside the F15 region -/
theorem C14_type_partial (s : Str) (h : '\n' ∉ s) : isValidReleaseType s = true ↔ SpecType s := by
  rw [C14_type_exact, or_nl_iff h]

/- Full statement (false of the code, F15):  ∀ s, isValidReleaseVersion s = true ↔ SpecVersion s. -/
/-- the property for versions, outside the F15 region -/
theorem C14_version_partial (s : Str) (h : '\n' ∉ s) : isValidReleaseVersion s = true ↔ SpecVersion s := by
  have hl : VersionLine s ↔ SpecVersion s := by
    unfold VersionLine SpecVersion
    have : '\n' ∉ s.tail := fun hm => h (List.mem_of_mem_tail hm)
    simp [this]
  rw [C14_version_exact, or_nl_iff h, hl]

/-- F15 (the harness replays the same inputs on the real code): accepted although not in the documented language -/
theorem C14_short_newline_witness :
    isValidReleaseShort "f\n".toList = true ∧ ¬ SpecShort "f\n".toList := by decide +kernel
theorem C14_type_newline_witness :
    isValidReleaseType "ga\n".toList = true ∧ ¬ SpecType "ga\n".toList := by decide +kernel
/-- F15 for versions, both directions: `"1\n"` is accepted but not documented; `"a\nb"` is documented
("any non-empty string not starting with a digit") but refused -/
theorem C14_version_newline_witness :
    (isValidReleaseVersion "1\n".toList = true ∧ ¬ SpecVersion "1\n".toList)
    ∧ (isValidReleaseVersion "a\nb".toList = false ∧ SpecVersion "a\nb".toList) := by decide +kernel

/-- without base product: the error is always `ValueError`, raised iff one of the three predicates refuses its
argument; otherwise the result is `short-version[-type]` with `ga` left out -/
theorem C14_create_value (s v t : Str) :
    createReleaseId s v t none none none =
      if isValidReleaseShort s = true ∧ isValidReleaseVersion v = true ∧ isValidReleaseType t = true
      then .ok (if t = GA then s ++ '-' :: v else s ++ '-' :: v ++ '-' :: t)
      else .error .valueError := by
  rw [createReleaseId_nobp, createPart_eq]

/-- `create_release_id` refuses precisely what the predicates refuse -/
theorem C14_create_refuses (s v t : Str) :
    (∃ e, createReleaseId s v t none none none = .error e) ↔
      ¬ (isValidReleaseShort s = true ∧ isValidReleaseVersion v = true ∧ isValidReleaseType t = true) := by
  rw [C14_create_value]
  split
  · rename_i hok
    exact ⟨fun ⟨e, he⟩ => (by cases he), fun h => absurd hok h⟩
  · rename_i hbad
    exact ⟨fun _ => hbad, fun _ => ⟨_, rfl⟩⟩

/-- with a base product (`bp_short` truthy): success iff all six arguments are accepted; a `None` version or type
of the base product is refused (with `TypeError`, see `createPartO`) -/
theorem C14_create_refuses_bp (s v t b : Str) (bv bt : Option Str) (hb : b ≠ []) :
    (∃ id, createReleaseId s v t (some b) bv bt = .ok id) ↔
      (isValidReleaseShort s = true ∧ isValidReleaseVersion v = true ∧ isValidReleaseType t = true)
      ∧ isValidReleaseShort b = true ∧ (∃ x, bv = some x ∧ isValidReleaseVersion x = true)
      ∧ (∃ y, bt = some y ∧ isValidReleaseType y = true) := by
  rw [createReleaseId_bp_ok_iff s v t b bv bt hb, createPartO_ok_iff, createPart_ok_iff]

/-- in terms of the documented languages, outside the F15 region: `create_release_id` accepts exactly the
documented names -/
theorem C14_create_accepts_spec_partial (s v t : Str) (hs : '\n' ∉ s) (hv : '\n' ∉ v) (ht : '\n' ∉ t) :
    (∃ id, createReleaseId s v t none none none = .ok id) ↔ SpecShort s ∧ SpecVersion v ∧ SpecType t := by
  rw [createReleaseId_nobp, createPart_ok_iff, C14_short_partial s hs, C14_version_partial v hv, C14_type_partial t ht]

/-- an absent or empty `bp_short` means "no base product" (`if bp_short:`), whatever the other two are -/
theorem C14_create_bp_falsy (s v t : Str) (bv bt : Option Str) :
    createReleaseId s v t none bv bt = createReleaseId s v t none none none
    ∧ createReleaseId s v t (some []) bv bt = createReleaseId s v t none none none := by
  unfold createReleaseId
  cases createPart s v t <;> simp

/-- obligation on the generated table: what the parser's first-match loop over `RELEASE_TYPES` needs.
For entries `u` before `t`: `u` is not a suffix of `t`, and `u` does not end in `"-" ++ t`.
The order-independent `SuffixAntichain` of `C14_reorder_harmless` is stronger (a `-t` at the end of `u` is a `t` at the end of `u`);
`"testing"` beside `"updates-testing"` breaks it in either order. -/
theorem C14_types_suffix_free : FirstMatchOK Gen.RELEASE_TYPES := by decide +kernel

/-- obligation on the generated table and patterns: each of the nine DOCUMENTED release types is in the table the
parser consults and is accepted by `create_release_id`, so `C14_roundtrip_partial` covers all nine (in particular
the dashed `updates-testing`, which only parses back because it is in the table, and `e4s` with its digit).
The converse inclusion is deliberately not an obligation: an extra table entry is harmless for this property as long
as `C14_types_suffix_free` holds, and the harness generates from the union of both lists. -/
theorem C14_types_documented :
    ∀ t ∈ Spec.knownTypes, t ∈ Gen.RELEASE_TYPES ∧ isValidReleaseType t = true := by decide +kernel

/-- Reordering the table is harmless as long as no entry is a suffix of a different entry: the parser, with the table as a
parameter (`parsePartWith Gen.RELEASE_TYPES` is `parseReleaseIdPart` by `rfl`), gives the same result on EVERY identifier for
every permutation.  `h` is a hypothesis and not an obligation on the generated table, since the round trip needs `FirstMatchOK`
only; the first example below decides it for a literal copy of the nine entries of the present table. -/
theorem C14_reorder_harmless (l : List Str) (hp : Gen.RELEASE_TYPES.Perm l)
    (h : SuffixAntichain Gen.RELEASE_TYPES) (rid : Str) :
    parsePartWith l rid = parseReleaseIdPart rid := by
  rw [← parsePartWith_gen, parsePartWith_perm h hp rid]

example : SuffixAntichain ["fast".toList, "ga".toList, "updates".toList, "updates-testing".toList, "eus".toList,
    "aus".toList, "els".toList, "tus".toList, "e4s".toList] := by decide +kernel
example : ¬ SuffixAntichain ["updates-testing".toList, "testing".toList] := by decide +kernel

/-- `C14.PartOK` (Spec/StrWords.lean), for a release or a base product -/
abbrev Rel.Valid (r : Rel) : Prop := PartOK r

/- Full statement (false of the code, F9): the same without the field `ga` of `Rel.Valid`. -/
/-- `parse_release_id(create_release_id(...))` returns exactly the parts (`ga` implicit), with or without a base
product, for parts of any length.  Excluded: a dashed short name with type `ga` (F9); the other hypotheses
(version free of `-`/`@`, known type) are the quantifier of the property. -/
theorem C14_roundtrip_partial (r : Rel) (bp : Option Rel)
    (hr : r.Valid) (hbp : ∀ b, bp = some b → b.Valid) :
    createRel r bp >>= parseReleaseId = .ok (r, bp) :=
  roundtrip C14_types_suffix_free r bp hr hbp

/-- hence: every documented type, release and base product alike, with plain parts -/
theorem C14_roundtrip_all_documented_types :
    ∀ t ∈ Spec.knownTypes, ∀ u ∈ Spec.knownTypes,
      createRel ⟨"f".toList, "23".toList, t⟩ (some ⟨"rhel".toList, "7.1".toList, u⟩) >>= parseReleaseId
        = .ok (⟨"f".toList, "23".toList, t⟩, some ⟨"rhel".toList, "7.1".toList, u⟩) := by
  intro t ht u hu
  have h1 := C14_types_documented t ht
  have h2 := C14_types_documented u hu
  have a1 : isValidReleaseShort "f".toList = true := by decide +kernel
  have a2 : isValidReleaseVersion "23".toList = true := by decide +kernel
  have a3 : '-' ∉ "23".toList ∧ '@' ∉ "23".toList ∧ '-' ∉ "f".toList := by decide
  have b1 : isValidReleaseShort "rhel".toList = true := by decide +kernel
  have b2 : isValidReleaseVersion "7.1".toList = true := by decide +kernel
  have b3 : '-' ∉ "7.1".toList ∧ '@' ∉ "7.1".toList ∧ '-' ∉ "rhel".toList := by decide
  refine C14_roundtrip_partial _ _ ⟨a1, a2, h1.2, h1.1, a3.1, a3.2.1, fun _ => a3.2.2⟩ ?_
  intro b hb
  cases hb
  exact ⟨b1, b2, h2.2, h2.1, b3.1, b3.2.1, fun _ => b3.2.2⟩

/-- on the domain of the round trip `create_release_id` is injective (it has a left inverse there) -/
theorem C14_create_injective (r r' : Rel) (bp bp' : Option Rel)
    (hr : r.Valid) (hbp : ∀ b, bp = some b → b.Valid) (hr' : r'.Valid) (hbp' : ∀ b, bp' = some b → b.Valid)
    (h : createRel r bp = createRel r' bp') : r = r' ∧ bp = bp' := by
  have h1 := C14_roundtrip_partial r bp hr hbp
  have h2 := C14_roundtrip_partial r' bp' hr' hbp'
  rw [h, h2] at h1
  simpa using h1.symm

/-- the identifier itself -/
theorem C14_create_format (r : Rel) (bp : Option Rel) (hr : r.Valid) (hbp : ∀ b, bp = some b → b.Valid) :
    createRel r bp = .ok (match bp with | none => partStr r | some b => partStr r ++ '@' :: partStr b) := by
  cases bp with
  | none => exact createRel_none hr
  | some b => exact createRel_some hr (hbp b rfl)

/-- F9 (the harness replays the same input on the real code) -/
theorem C14_F9_witness :
    createRel ⟨"my-prod".toList, "1.0".toList, GA⟩ none >>= parseReleaseId
      = .ok (⟨"my".toList, "prod".toList, "1.0".toList⟩, none) := by decide +kernel

/-- why F9 cannot be repaired by any decoder: two different accepted inputs give the same identifier -/
theorem C14_not_injective :
    createRel ⟨"my-prod".toList, "eus".toList, GA⟩ none = createRel ⟨"my".toList, "prod".toList, "eus".toList⟩ none
    ∧ createRel ⟨"my-prod".toList, "eus".toList, GA⟩ none = .ok "my-prod-eus".toList := by decide +kernel

/-- F9 is the whole region, not a few unlucky inputs: for ANY release whose short name contains a dash and whose
type is `ga` (no validity assumption at all), creating and parsing does not give the parts back -/
theorem C14_F9_region (r : Rel) (hs : '-' ∈ r.short) (ht : r.type = GA) :
    createRel r none >>= parseReleaseId ≠ .ok (r, none) := by
  have hc : createRel r none = createPart r.short r.version r.type := createReleaseId_nobp _ _ _
  rw [hc, createPart_eq, if_pos ht]
  split
  · exact fun h => parsePart_dashed_ga r hs (parseReleaseId_nobp.mp h).2
  · intro h; cases h

/-- the same for a base product in the F9 region, whatever the release part is -/
theorem C14_F9_region_bp (r b : Rel) (hs : '-' ∈ b.short) (ht : b.type = GA) :
    createRel r (some b) >>= parseReleaseId ≠ .ok (r, some b) := by
  have hbe : b.short.isEmpty = false := List.isEmpty_eq_false_iff.mpr (List.ne_nil_of_mem hs)
  have hcb : createPartO b.short (some b.version) (some b.type) = createPart b.short b.version b.type := rfl
  unfold createRel createReleaseId
  cases createPart r.short r.version r.type with
  | error e => intro h; cases h
  | ok x =>
    simp only [Option.map_some, hbe, Bool.false_eq_true, if_false, hcb]
    rw [createPart_eq]
    by_cases hv : isValidReleaseShort b.short = true ∧ isValidReleaseVersion b.version = true
        ∧ isValidReleaseType b.type = true
    · rw [if_pos hv, if_pos ht]
      exact parse_bp_dashed_ga r b hs
    · rw [if_neg hv]; intro h; cases h

/-- hence, on what the code accepts (known type, version free of `-` and `@`), the round trip holds exactly
outside the F9 region -/
theorem C14_roundtrip_iff (r : Rel) (h1 : isValidReleaseShort r.short = true)
    (h2 : isValidReleaseVersion r.version = true) (h3 : isValidReleaseType r.type = true)
    (h4 : r.type ∈ Gen.RELEASE_TYPES) (h5 : '-' ∉ r.version) (h6 : '@' ∉ r.version) :
    createRel r none >>= parseReleaseId = .ok (r, none) ↔ (r.type = GA → '-' ∉ r.short) := by
  constructor
  · intro h ht hs
    exact C14_F9_region r hs ht h
  · intro hga
    exact roundtrip C14_types_suffix_free r none ⟨h1, h2, h3, h4, h5, h6, hga⟩ (by intro b hb; cases hb)

/-- the other two hypotheses are forced as well: a dash or an `@` inside an accepted (free-form) version -/
theorem C14_version_dash_witness :
    createRel ⟨"f".toList, "a-b".toList, GA⟩ none >>= parseReleaseId
      = .ok (⟨"f".toList, "a".toList, "b".toList⟩, none)
    ∧ createRel ⟨"f".toList, "x@y".toList, GA⟩ none >>= parseReleaseId = .error .valueError := by decide +kernel

example : Rel.Valid ⟨"f".toList, "23".toList, GA⟩ := by
  constructor <;> decide +kernel
example : Rel.Valid ⟨"my-prod".toList, "Rawhide".toList, "updates-testing".toList⟩ := by
  constructor <;> decide +kernel
/-- a version that ends in a known type, a short name that is a known type: no extra hypothesis is needed -/
example : Rel.Valid ⟨"fast".toList, "eus".toList, GA⟩ ∧ Rel.Valid ⟨"a-ga".toList, "updates".toList, "eus".toList⟩ := by
  constructor <;> constructor <;> decide +kernel
example : createRel ⟨"rhel-x".toList, "7.1".toList, "updates".toList⟩ (some ⟨"rhel".toList, "7".toList, GA⟩)
    = .ok "rhel-x-7.1-updates@rhel-7".toList := by decide +kernel
example : ¬ isValidReleaseShort "Fedora".toList = true := by decide +kernel
example : SpecShort "fedora-23a".toList ∧ '\n' ∉ "fedora-23a".toList := by decide

end PM
