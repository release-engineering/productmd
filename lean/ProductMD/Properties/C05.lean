import ProductMD.Properties.C01
import ProductMD.Properties.C02
import ProductMD.Properties.C03
import ProductMD.Properties.C04
import ProductMD.Properties.C09
import ProductMD.Properties.C10
import ProductMD.Proofs.C05Images
import ProductMD.Proofs.C05Rpms
import ProductMD.Proofs.C05CI
import ProductMD.Proofs.C05CIDownEx
import ProductMD.Proofs.C05TreeInfo
import ProductMD.Proofs.C05TreeInfoIdem
import ProductMD.Proofs.C05WitnessTI
import ProductMD.Proofs.FactsTreeInfo
/-!
# C05 — older format versions are upgraded faithfully and idempotently

Models: the legacy-aware readers `Model/ImagesLegacy.lean`, `Model/RpmsLegacy.lean`, `Model/ComposeInfoLegacy.lean`,
`Model/TreeInfoLegacy.lean` on top of the C01–C04 writer/reader models (for composeinfo the dependency runs the other way in
the proofs: `C01_readback` is the down-conversion theorem at the current format, `Proofs/C05CIDown.lean`).  Every branch is
selected by the version gate regenerated from the source (`Gen.gate_*`); the gate theorems below state each gate as a
comparison of PAIRS OF NATURALS for every version `v`, so the boundary versions (0.2/0.3/0.4, 0.9/1.0, 1.0/1.1/1.2, 2.0) are
covered by the statement and a flipped operator or moved bound stops the file from compiling.

Per format: `…_loaded_is_normal` (what ANY successful load of ANY version has built: valid parts, current header; `_partial`
for composeinfo - it need not be in C01's normal form, `C05_ci_loaded_not_normal_witness` - and for treeinfo - the variants
below the container are not covered), `…_idempotent` (corollary with C01–C04: written as a current-version document, re-read
by the CURRENT reader as the same object), `…_faithful_…` (the documented mapping / loss of the old version).

Versions are compared by the function the model file at hand uses: `PM.verLe` / `PM.verLt` (Model/Gate.lean; `CI.verLt` is a second
copy, hence the qualified `PM.verLt` below), `CI.vLe` (Model/ComposeInfoDown.lean), `TI.tupleLe` (Model/TreeInfo.lean) - one
order on pairs of naturals, and the lemmas of `Proofs/GateLemmas.lean` about `PM.verLe` / `PM.verLt` apply to all of them as they
stand (e.g. `verLt_of_verLe_false` to a `tupleLe` hypothesis in `C05_ti_header_only`).
-/
namespace PM

/-! The JSON witnesses of all three formats come first, each section with the closed facts its theorems and examples quote: the
facts are evaluated in ONE declaration (`c05_facts`), so every witness has to be defined before it. -/

section ImagesWitnesses
open PM.Img PM.PyOps PM.Spec

/-- a 1.0 document (no subvariants) with two images of equal type/format/arch/disc number and different checksums -/
def wF11doc : PyVal :=
  let img (p c : String) : PyVal := .dict [(L "path", .str (L p)), (L "mtime", .int 1), (L "size", .int 1), (L "volume_id", .none),
    (L "type", .str (L "dvd")), (L "format", .str (L "iso")), (L "arch", .str (L "x86_64")), (L "disc_number", .int 1),
    (L "disc_count", .int 1), (L "checksums", .dict [(L "md5", .str (L c))]), (L "implant_md5", .none), (L "bootable", .bool false)]
  .dict [(L "header", .dict [(L "version", .str (L "1.0"))]),
    (L "payload", .dict [(L "compose", .dict [(L "id", .str (L "F-22-20150522.0")), (L "type", .str (L "production")),
        (L "date", .str (L "20150522")), (L "respin", .int 0)]),
      (L "images", .dict [(L "Server", .dict [(L "x86_64", .list [img "a.iso" "a", img "b.iso" "b"])])])])]

/-- a 0.2 document (compose section without date / respin) with a `src` cell and no subvariants -/
def wOldDoc : PyVal :=
  let img (p a : String) (n : Int) : PyVal := .dict [(L "path", .str (L p)), (L "mtime", .int 1), (L "size", .int 1), (L "volume_id", .none),
    (L "type", .str (L "dvd")), (L "format", .str (L "iso")), (L "arch", .str (L a)), (L "disc_number", .int n),
    (L "disc_count", .int 2), (L "checksums", .dict [(L "md5", .str (L p))]), (L "implant_md5", .none), (L "bootable", .bool false)]
  .dict [(L "header", .dict [(L "version", .str (L "0.2"))]),
    (L "payload", .dict [(L "compose", .dict [(L "id", .str (L "F-22-20150522.n.3")), (L "type", .str (L "x"))]),
      (L "images", .dict [(L "Server", .dict [(L "x86_64", .list [img "a.iso" "x86_64" 1]), (L "i386", .list [img "b.iso" "i386" 1]),
        (L "src", .list [img "s.iso" "src" 2])])])])]

/-- an image dictionary of the 1.0 format (no `subvariant`) -/
def wImg10 (p a : String) : PyVal := .dict [(L "path", .str (L p)), (L "mtime", .int 1), (L "size", .int 1), (L "volume_id", .none),
    (L "type", .str (L "dvd")), (L "format", .str (L "iso")), (L "arch", .str (L a)), (L "disc_number", .int 1),
    (L "disc_count", .int 1), (L "checksums", .dict [(L "md5", .str (L p))]), (L "implant_md5", .none), (L "bootable", .bool false)]
/-- the image table of `wDoc10` (`OutCells`: variant → arch → image dictionaries), the `O` of `C05_images_faithful_old_doc` -/
def wTable10 : OutCells := [(L "Server", [(L "i386", [wImg10 "b.iso" "i386"]), (L "src", [wImg10 "s.iso" "src"]), (L "x86_64", [wImg10 "a.iso" "x86_64"])])]
/-- a 1.0 document for `C05_images_faithful_old_doc`: no `subvariant` anywhere, a `src` cell -/
def wDoc10 : PyVal :=
  .dict [(L "header", .dict [(L "version", .str (L "1.0"))]),
    (L "payload", .dict [(L "compose", .dict [(L "id", .str (L "F-22-20150522.n.3")), (L "type", .str (L "nightly")),
        (L "date", .str (L "20150522")), (L "respin", .int 3)]),
      (L "images", wTable10.toPy)])]

/-- Closed facts about the images witnesses, one field per witness theorem or example of the images section below
(DESIGN.md §3, closed facts). -/
structure C05ImagesFacts : Prop where
  subvariant_hyps :
    versionTuple (.str (L "1.0")) = .ok (.nums (1, 0)) ∧ verLe (1, 0) (1, 0) = true
    ∧ versionTuple (.str (L "0.2")) = .ok (.nums (0, 2)) ∧ verLe (0, 2) (1, 0) = true
    ∧ ([(L "path", PyVal.str (L "a.iso"))] : List (Str × PyVal)).find? (·.1 == L "subvariant") = none
  from_1_1_hyps :
    versionTuple (.str (L "1.1")) = .ok (.nums (1, 1)) ∧ verLe (1, 1) (1, 0) = false
    ∧ versionTuple (.str (L "2.0")) = .ok (.nums (2, 0)) ∧ verLe (2, 0) (1, 0) = false
  F11 :
    errIs (match deserializeL wF11doc with
      | .ok s => (match (serialize s).2 with | .ok d => deserializeL d | .error _ => .ok default)
      | .error _ => .ok default) .valueError = true
  old_cycle :
    (match upgradeCycle wOldDoc with
    | .ok (s, d1, s2, d2) => s.cells.all.length == 4 && PyVal.beq (PyVal.canon d1) (PyVal.canon d2)
        && pyEq s.compose.date (.str (L "20150522")) && pyEq s.compose.type (.str (L "nightly")) && pyEq s.compose.respin (.int 3)
    | .error _ => false) = true
  doc10_loads : (Img.deserialize wDoc10).toBool = true
  doc10_filings : (match Img.deserialize wDoc10 with | .ok s => (entries s.cells).length | .error _ => 0) = 4

end ImagesWitnesses

section RpmsWitnesses
open PM.Mf

/-- a 0.2 manifest: compose without date/respin, `manifest` section, a `src` table, type `package`, upper-case sigkey -/
def wRpms02 : PyVal :=
  let e (p : String) (k : PyVal) (t : Option String) : PyVal :=
    .dict ([(lit "path", .str (lit p)), (lit "sigkey", k)] ++ match t with | some t => [(lit "type", .str (lit t))] | none => [])
  .dict [(lit "header", .dict [(lit "version", .str (lit "0.2"))]),
    (lit "payload", .dict [(lit "compose", .dict [(lit "id", .str (lit "F-22-20150522.t.1")), (lit "type", .str (lit "?"))]),
      (lit "manifest", .dict [(lit "Server", .dict [
        (lit "src", .dict [(lit "bash-0:4.3-1.src", e "S/source/bash-4.3-1.src.rpm" (.str (lit "AB12")) none)]),
        (lit "x86_64", .dict [(lit "bash-0:4.3-1.src", .dict [
          (lit "bash-0:4.3-1.x86_64.rpm", e "S/x86_64/bash-4.3-1.x86_64.rpm" .none (some "package")),
          (lit "bash-debuginfo-0:4.3-1.x86_64", e "S/x86_64/bash-debuginfo-4.3-1.x86_64.rpm" (.str (lit "cd")) (some "debug"))])])])])])]

/-- Closed facts about `wRpms02`. -/
structure C05RpmsFacts : Prop where
  faithful :
    (match deserializeL .rpms wRpms02 with
     | .ok m =>
       PyVal.beq (PyVal.canon m.payload) (PyVal.canon (.dict [(lit "Server", .dict [(lit "x86_64", .dict [(lit "bash-0:4.3-1.src", .dict [
          (lit "bash-0:4.3-1.x86_64", rpmRecord none (lit "S/x86_64/bash-4.3-1.x86_64.rpm") (lit "binary")),
          (lit "bash-0:4.3-1.src", rpmRecord (some (lit "ab12")) (lit "S/source/bash-4.3-1.src.rpm") (lit "source")),
          (lit "bash-debuginfo-0:4.3-1.x86_64", rpmRecord (some (lit "cd")) (lit "S/x86_64/bash-debuginfo-4.3-1.x86_64.rpm") (lit "debug"))])])])]))
       && m.compose == [(lit "id", .str (lit "F-22-20150522.t.1")), (lit "type", .str (lit "test")), (lit "date", .str (lit "20150522")),
                        (lit "respin", .int 1), (lit "label", .none), (lit "final", .bool false)]
     | .error _ => false) = true
  idempotent_hyps :
    jsonRep wRpms02 = true
    ∧ (match deserializeL .rpms wRpms02 with
       | .ok m => m.compose == (ComposeT.toObj ⟨lit "F-22-20150522.t.1", lit "test", lit "20150522", 1, none, false⟩)
       | .error _ => false) = true

end RpmsWitnesses

section ComposeInfoWitnesses
open PM.CI

/-- a 0.2 document: no date/respin, `product` section without `type` and with an `internal: true` the reader must ignore,
children by UID prefix only, a layered product with its own `product` section -/
def wCI02 : PyVal :=
  let paths : PyVal := .dict [(k%"os_tree", .dict [(k%"x86_64", .str k%"S/x86_64/os")])]
  let var (id uid ty : Str) (extra : List (Str × PyVal)) : PyVal :=
    .dict ([(k%"id", .str id), (k%"uid", .str uid), (k%"name", .str id), (k%"type", .str ty),
            (k%"arches", .list [.str k%"x86_64"]), (k%"paths", paths)] ++ extra)
  .dict [(k%"header", .dict [(k%"version", .str k%"0.2")]),
    (k%"payload", .dict [
      (k%"compose", .dict [(k%"id", .str k%"F-22-20150522.n.3"), (k%"type", .str k%"whatever")]),
      (k%"product", .dict [(k%"name", .str k%"Fedora"), (k%"short", .str k%"F"), (k%"version", .str k%"22"), (k%"internal", .bool true)]),
      (k%"variants", .dict [
        (k%"Server", var k%"Server" k%"Server" k%"variant" []),
        (k%"Server-optional", var k%"optional" k%"Server-optional" k%"optional" []),
        (k%"Server-LP", var k%"LP" k%"Server-LP" k%"layered-product"
            [(k%"product", .dict [(k%"name", .str k%"L"), (k%"short", .str k%"l"), (k%"version", .str k%"1"), (k%"type", .str k%"EUS")])]),
        (k%"Client-X", var k%"ClientX" k%"Client-X" k%"variant" [])])])]

/-- Closed facts about `wCI02`, `exDown`, `exDeep` and the two documents written out in the last two fields. -/
structure C05CIFacts : Prop where
  domain_needed :
    (WellKeyed exDeep ∧ ¬ LegacyDomain (0, 9) exDeep
     ∧ (match down k%"0.9" (0, 9) false exDeep with
        | .ok j => (match Legacy.deserialize j with | .error .valueError => true | _ => false)
        | .error _ => false) = true)
    ∧ (let ci := { exDown with compose := { exDown.compose with date := k%"20150521" } }
       (match down k%"0.2" (0, 2) false ci with
        | .ok j => (match Legacy.deserialize j with | .ok x => x.compose.date == k%"20150522" | .error _ => false)
        | .error _ => false) = true)
  upgrade :
    (match Legacy.upgradeCycle wCI02 with
     | .ok (x, d1, x2, d2) =>
       x.compose.date == k%"20150522" && x.compose.type == k%"nightly" && x.compose.respin == 3
       && x.release.type == k%"ga" && x.release.internal == false
       && x.variants.map Variant.uid == [k%"Client-X", k%"Server"]
       && (x.variants.map fun v => v.kids.map Variant.uid) == [[], [k%"Server-optional", k%"Server-LP"]]
       && (x.variants.flatMap fun v => v.kids.map fun c => c.release.map (·.type)) == [none, some k%"eus"]
       && PyVal.beq (PyVal.canon d1) (PyVal.canon d2) && decide (UidsDistinct x) && decide (x2.norm.variants.length = 2)
     | .error _ => false) = true
  not_normal :
    let doc : PyVal := .dict [(k%"header", .dict [(k%"version", .str k%"1.0")]),
      (k%"payload", .dict [
        (k%"compose", .dict [(k%"id", .str k%"F-22-20150522.0"), (k%"type", .str k%"production"), (k%"date", .str k%"20150522"),
                            (k%"respin", .int 0), (k%"final", .bool true)]),
        (k%"release", .dict [(k%"name", .str k%"Fedora"), (k%"short", .str k%"F"), (k%"version", .str k%"22")]),
        (k%"variants", .dict [])])]
    (match Legacy.deserialize doc with
     | .ok x => x.compose.final && x.compose.label.isNone && !x.norm.compose.final && decide (¬ Normal x)
     | .error _ => false) = true
  depth3_refused :
    let var (id uid : Str) : PyVal :=
      .dict [(k%"id", .str id), (k%"uid", .str uid), (k%"name", .str id), (k%"type", .str k%"variant"),
             (k%"arches", .list [.str k%"x86_64"]), (k%"paths", .dict [])]
    let doc : PyVal := .dict [(k%"header", .dict [(k%"version", .str k%"0.9")]),
      (k%"payload", .dict [
        (k%"compose", .dict [(k%"id", .str k%"F-22-20150522.0"), (k%"type", .str k%"production"), (k%"date", .str k%"20150522"), (k%"respin", .int 0)]),
        (k%"release", .dict [(k%"name", .str k%"Fedora"), (k%"short", .str k%"F"), (k%"version", .str k%"22")]),
        (k%"variants", .dict [(k%"A", var k%"A" k%"A"), (k%"A-B", var k%"B" k%"A-B"), (k%"A-B-C", var k%"C" k%"A-B-C")])])]
    (match Legacy.deserialize doc with | .error .valueError => true | _ => false) = true
    ∧ Legacy.legacyHead k%"A-B-C" = some k%"A-B"

end ComposeInfoWitnesses

theorem c05_facts : C05ImagesFacts ∧ C05RpmsFacts ∧ C05CIFacts := by
  -- the fields of the three structures as one conjunction, which `decide` can evaluate
  suffices h : (_ ∧ _ ∧ _ ∧ _ ∧ _ ∧ _) ∧ (_ ∧ _) ∧ (_ ∧ _ ∧ _ ∧ _) by
    obtain ⟨⟨i1, i2, i3, i4, i5, i6⟩, ⟨r1, r2⟩, c1, c2, c3, c4⟩ := h
    exact ⟨⟨i1, i2, i3, i4, i5, i6⟩, ⟨r1, r2⟩, ⟨c1, c2, c3, c4⟩⟩
  decide +kernel

theorem c05_images_facts : C05ImagesFacts := c05_facts.1
theorem c05_rpms_facts : C05RpmsFacts := c05_facts.2.1
theorem c05_ci_facts : C05CIFacts := c05_facts.2.2

section Images
open PM.Img PM.PyOps PM.Spec

/-- the four gates an images document meets, as comparisons of pairs of naturals (for every version) -/
theorem C05_images_gates (v : Nat × Nat) :
    gateEval Gen.gate_images_Image_deserialize_0 (.nums v) = .ok (verLe v (1, 0))
    ∧ gateEval Gen.gate_images_Images_deserialize_0 (.nums v) = .ok (verLe v (1, 1))
    ∧ gateEval Gen.gate_images_Images_add_0 (.nums v) = .ok (verLe (1, 1) v)
    ∧ gateEval Gen.gate_composeinfo_Compose_deserialize_0 (.nums v) = .ok (verLt v (0, 3)) :=
  ⟨rfl, rfl, rfl, rfl⟩

/-- the legacy-aware reader extends the C02 reader: same answer wherever that one answers -/
theorem C05_images_extends_C02 (doc : PyVal) (s : ImgState) (h : deserialize doc = .ok s) : deserializeL doc = .ok s := by
  -- the two readers differ in the compose reader only
  unfold deserialize at h
  obtain ⟨ver, hver, h⟩ := bind_ok h
  obtain ⟨payload, hp, h⟩ := bind_ok h
  obtain ⟨comp, hcomp, h⟩ := bind_ok h
  exact Returns.bind hver <| Returns.bind hp <| Returns.bind (compose_deserializeL_of_deserialize ver payload comp hcomp) h

/-- **loaded is normal** — whatever version the document had: the object carries the current header version, its
compose section validates, every filed image validates with proper integer attributes, every arch key is one that
`Images.add` accepts (in `RPM_ARCHES`, not `src`/`nosrc`: source images of ≤ 1.1 documents have been re-filed). -/
theorem C05_images_loaded_is_normal (doc : PyVal) (s : ImgState) (h : deserializeL doc = .ok s) :
    s.version = .str currentVersion ∧ s.compose.validate = .ok ()
    ∧ (∀ i ∈ s.cells.all, i.validate = .ok () ∧ ProperInts i)
    ∧ (∀ t ∈ triples s.cells, Gen.RPM_ARCHES.contains t.2.1 = true ∧ refusedArches.contains t.2.1 = false) := by
  obtain ⟨hv, hc, hg⟩ := deserializeL_good doc s h
  refine ⟨hv, hc, ?_, ?_⟩
  · intro i hi
    rw [all_eq_entries] at hi
    obtain ⟨e, he, rfl⟩ := List.mem_map.mp hi
    exact (hg e he).1
  · intro t ht
    obtain ⟨e, he, rfl⟩ := List.mem_map.mp ht
    exact (hg e he).2

/-- from 1.1 on (the generated gate of the identity scan) a loaded manifest is collision-free -/
theorem C05_images_uniq_from_1_1 (doc : PyVal) (s : ImgState) (ver : PyVal) (hver : headerDeserialize doc = .ok ver)
    (hv : Enforces ver) (h : deserializeL doc = .ok s) : Uniq s.cells :=
  readWith_uniq hver hv h

/--
**idempotent (partial: hypothesis `Uniq`).**  A manifest loaded from a document of any version is written as a
current-version document which the *current* reader (no legacy branch involved: conversion happens exactly once) reads
back as the same multiset of (variant, arch, 15-attribute record) filings, the same compose section up to the documented
normalisation, and the current header version; and the object read back satisfies all of this again.
`Uniq` holds automatically from 1.1 on (`C05_images_uniq_from_1_1`); for ≤ 1.0 documents it is a real restriction:
`C05_images_F11_witness`.
-/
theorem C05_images_idempotent_partial (doc : PyVal) (s : ImgState) (h : deserializeL doc = .ok s) (hu : Uniq s.cells) :
    ∃ doc' s', (serialize s).2 = .ok doc' ∧ deserialize doc' = .ok s' ∧ deserializeL doc' = .ok s'
      ∧ (triples s'.cells).Perm (triples s.cells) ∧ s'.compose = composeNorm s.compose
      ∧ s'.version = .str currentVersion ∧ Uniq s'.cells ∧ composeNorm s'.compose = s'.compose := by
  obtain ⟨_, hc, hi, ha⟩ := C05_images_loaded_is_normal doc s h
  have hi : ∀ i ∈ s.cells.all, i.validate = .ok () := fun i h => (hi i h).1
  obtain ⟨doc', s', h1, h2, h3, h4, h5⟩ := C02_readback_partial s hc hi ha hu
  obtain ⟨_, _, _, hu', hn⟩ := C02_cycle_closed s s' hc hi ha hu h3 h4
  exact ⟨doc', s', h1, h2, C05_images_extends_C02 doc' s' h2, h3, h4, h5, hu', hn⟩

/-- **faithful, documented loss of ≤ 1.0** (generated gate, every version `v ≤ (1, 0)`): an image dictionary without
`subvariant` is read exactly as the current reader reads the same dictionary with `"subvariant": ""` — all other
fourteen attributes by the same rules, the subvariant `""`. -/
theorem C05_images_faithful_subvariant (ver : PyVal) (v : Nat × Nat) (hvt : versionTuple ver = .ok (.nums v))
    (hold : verLe v (1, 0) = true) (kvs : List (Str × PyVal)) (hno : kvs.find? (·.1 == L "subvariant") = none) :
    Image.deserialize ver (.dict kvs)
      = Image.deserialize (.str currentVersion) (.dict (kvs ++ [(L "subvariant", .str [])])) := by
  have hs : item (.dict (kvs ++ [(L "subvariant", .str [])])) (L "subvariant") = .ok (.str []) := by
    simp only [item, subscript]
    rw [List.find?_append, hno]
    rfl
  have hg : getD (.dict kvs) (L "subvariant") (.str []) = .ok (.str []) := by
    simp only [getD, hno]
  -- the other fourteen keys differ from `subvariant`, so their lookups do not see the appended pair
  have hk : ∀ k ∈ [L "path", L "mtime", L "size", L "volume_id", L "type", L "format", L "arch", L "disc_number", L "disc_count",
      L "checksums", L "implant_md5", L "bootable", L "unified", L "additional_variants"], (L "subvariant" == k) = false := by
    decide +kernel
  have hi := fun k hm => item_snoc_ne kvs (L "subvariant", PyVal.str []) k (hk k hm)
  have hd := fun k hm d => getD_snoc_ne kvs (L "subvariant", PyVal.str []) k d (hk k hm)
  simp only [List.forall_mem_cons, List.not_mem_nil, false_imp_iff, implies_true, and_true] at hi hd
  unfold Image.deserialize
  simp only [hi, hd, hvt, cur_vt, ok_bind, (C05_images_gates v).1, hold, cur_not_old_image, hs, hg, ↓reduceIte, Bool.false_eq_true]

/-- the hypotheses are satisfiable: header "1.0" (and "0.2"), a dictionary without `subvariant` -/
example : versionTuple (.str (L "1.0")) = .ok (.nums (1, 0)) ∧ verLe (1, 0) (1, 0) = true
    ∧ versionTuple (.str (L "0.2")) = .ok (.nums (0, 2)) ∧ verLe (0, 2) (1, 0) = true
    ∧ ([(L "path", PyVal.str (L "a.iso"))] : List (Str × PyVal)).find? (·.1 == L "subvariant") = none :=
  c05_images_facts.subvariant_hyps

open PM.Img.C10 in
/-- **faithful, a whole ≤ 1.0 images document** (general: any number of variants, arches and images; composition of
`C10_images_refile` — the exact filing of a ≤ 1.1 document incl. the `src` re-filing — with `C05_images_faithful_subvariant`):
for a document of a version `v ≤ (1, 0)` whose image table is `O` and whose image dictionaries carry no `subvariant`, the
filings of the loaded manifest are exactly: the object the CURRENT reader makes of the k-th dictionary with
`"subvariant": ""` added, under `(variant, b)` for every `b` the dictionary's place `(variant, a)` stands for (all arch keys of
the variant but `src` when `a = src`, `a` itself otherwise).  Nothing else is filed, nothing is lost.  (The load `h` is one
of the C02 reader `Img.deserialize`, which answers a header below 0.3 with `Err.other`: the versions covered are 0.3 … 1.0,
where `deserializeL` is that reader, `C05_images_extends_C02`; the 0.2 document `wOldDoc` is outside.) -/
theorem C05_images_faithful_old_doc (doc : PyVal) (s : ImgState) (h : Img.deserialize doc = .ok s)
    (ver : PyVal) (hver : Img.headerDeserialize doc = .ok ver) (v : Nat × Nat) (hvt : Img.versionTuple ver = .ok (.nums v))
    (hold : verLe v (1, 0) = true)
    (payload : PyVal) (hp : PyOps.item doc (L "payload") = .ok payload) (O : OutCells) (hO : OutNodup O)
    (himg : PyOps.item payload (L "images") = .ok O.toPy)
    (hsub : ∀ x ∈ outTriples O, ∃ kvs, x.2.2 = .dict kvs ∧ kvs.find? (·.1 == L "subvariant") = none) :
    ∀ vr b k img, (vr, b, k, img) ∈ entries s.cells ↔
      ∃ a kvs as, (outTriples O)[k]? = some (vr, a, .dict kvs)
        ∧ Image.deserialize (.str currentVersion) (.dict (kvs ++ [(L "subvariant", .str [])])) = .ok img
        ∧ (vr, as) ∈ O ∧ b ∈ targets (as.map (·.1)) a := by
  have hold11 : gateEval Gen.gate_images_Images_deserialize_0 (.nums v) = .ok true := by
    rw [(C05_images_gates v).2.1, verLe_trans hold (by decide)]
  intro vr b k img
  rw [C10_images_refile doc s h ver hver (.nums v) hvt hold11 payload hp O hO himg]
  constructor
  · rintro ⟨a, d, as, hk, hd, hv, hb⟩
    obtain ⟨kvs, hkv, hno⟩ := hsub _ (List.mem_of_getElem? hk)
    subst hkv
    rw [C05_images_faithful_subvariant ver v hvt hold kvs hno] at hd
    exact ⟨a, kvs, as, hk, hd, hv, hb⟩
  · rintro ⟨a, kvs, as, hk, hd, hv, hb⟩
    obtain ⟨kvs', hkv, hno⟩ := hsub _ (List.mem_of_getElem? hk)
    injection hkv with hkv
    subst hkv
    rw [← C05_images_faithful_subvariant ver v hvt hold kvs hno] at hd
    exact ⟨a, .dict kvs, as, hk, hd, hv, hb⟩

/-- **faithful, 1.1 and later** (every version `v` with `¬ v ≤ (1, 0)`): the image reader does not depend on the version —
nothing is defaulted, a document without `subvariant` is refused as by the current reader -/
theorem C05_images_faithful_from_1_1 (ver : PyVal) (v : Nat × Nat) (hvt : versionTuple ver = .ok (.nums v))
    (hnew : verLe v (1, 0) = false) (d : PyVal) :
    Image.deserialize ver d = Image.deserialize (.str currentVersion) d := by
  unfold Image.deserialize
  simp only [hvt, cur_vt, ok_bind, (C05_images_gates v).1, hnew, cur_not_old_image]

example : versionTuple (.str (L "1.1")) = .ok (.nums (1, 1)) ∧ verLe (1, 1) (1, 0) = false
    ∧ versionTuple (.str (L "2.0")) = .ok (.nums (2, 0)) ∧ verLe (2, 0) (1, 0) = false := c05_images_facts.from_1_1_hyps

/-- **F11 through the legacy reader**: `wF11doc` is accepted, written as a current-version document, and that document is
refused -/
theorem C05_images_F11_witness :
    errIs (match deserializeL wF11doc with
      | .ok s => (match (serialize s).2 with | .ok d => deserializeL d | .error _ => .ok default)
      | .error _ => .ok default) .valueError = true := c05_images_facts.F11

/-- non-vacuity: `wOldDoc` goes through the whole upgrade cycle in the model, the second document equals the first -/
example : (match upgradeCycle wOldDoc with
    | .ok (s, d1, s2, d2) => s.cells.all.length == 4 && PyVal.beq (PyVal.canon d1) (PyVal.canon d2)
        && pyEq s.compose.date (.str (L "20150522")) && pyEq s.compose.type (.str (L "nightly")) && pyEq s.compose.respin (.int 3)
    | .error _ => false) = true := c05_images_facts.old_cycle

/-- the hypotheses of `C05_images_faithful_old_doc` hold of `wDoc10`: it loads, header 1.0 ≤ (1, 0), unique keys, no
`subvariant`; and the source image is filed under both binary arches (4 filings from 3 dictionaries) -/
example : (Img.deserialize wDoc10).toBool = true ∧ Img.headerDeserialize wDoc10 = .ok (.str (L "1.0"))
    ∧ Img.versionTuple (.str (L "1.0")) = .ok (.nums (1, 0)) ∧ OutNodup wTable10
    ∧ (∀ x ∈ outTriples wTable10, ∃ kvs, x.2.2 = .dict kvs ∧ kvs.find? (·.1 == L "subvariant") = none)
    ∧ (match Img.deserialize wDoc10 with | .ok s => (entries s.cells).length | .error _ => 0) = 4 := by
  refine ⟨c05_images_facts.doc10_loads, rfl, c05_images_facts.subvariant_hyps.1, ⟨by decide, by decide⟩, ?_,
    c05_images_facts.doc10_filings⟩
  intro x hx
  have : outTriples wTable10 = [(L "Server", L "i386", wImg10 "b.iso" "i386"), (L "Server", L "src", wImg10 "s.iso" "src"),
      (L "Server", L "x86_64", wImg10 "a.iso" "x86_64")] := rfl
  rw [this] at hx
  simp only [List.mem_cons, List.not_mem_nil, or_false] at hx
  rcases hx with rfl | rfl | rfl <;> exact ⟨_, rfl, by decide⟩

end Images

section Rpms
open PM.Mf

/-- the gates an rpms document meets, as comparisons of pairs of naturals (for every version) -/
theorem C05_rpms_gates (v : Nat × Nat) :
    gateHolds Gen.gate_rpms_Rpms_deserialize_0 v = verLe v (0, 3)
    ∧ gateHolds Gen.gate_composeinfo_Compose_deserialize_0 v = verLt v (0, 3)
    ∧ gateHolds Gen.gate_common_Header_deserialize_0 v = verLe (1, 1) v :=
  ⟨rfl, rfl, rfl⟩

/-- the legacy-aware reader extends the C03 reader: same answer wherever that one answers -/
theorem C05_rpms_extends_C03 (doc : PyVal) (m : Manifest) (h : Mf.deserialize .rpms doc = .ok m) :
    deserializeL .rpms doc = .ok m := by
  unfold Mf.deserialize at h
  unfold deserializeL
  cases hhd : headerDeserialize .rpms doc with
  | error e =>
    rw [hhd] at h
    cases h
  | ok vt =>
  obtain ⟨ver, t⟩ := vt
  rw [hhd] at h
  cases t with
  | text =>
    simp only [Bool.false_eq_true, if_false] at h
    obtain ⟨pl, _, h⟩ := matchV_ok h
    -- a header version that is not a tuple of numbers: the compose reader refuses
    cases h
  | nums l =>
    simp only at h ⊢
    by_cases g : gateHolds Gen.gate_rpms_Rpms_deserialize_0 l = true
    · -- a manifest ≤ 0.3: the C03 reader answers `Err.other`
      rw [if_pos g] at h
      cases h
    rw [if_neg g] at h
    obtain ⟨pl, hpl, h⟩ := matchV_ok h
    rw [hpl]
    simp only [if_neg g]
    cases hc : composeDeserialize (.nums l) pl with
    | error e =>
      rw [hc] at h
      cases h
    | ok c =>
      rw [composeDeserializeL_of _ pl c hc]
      rw [hc] at h
      exact h

/-- **loaded is normal** — whatever version the document had (manifests ≤ 0.3 are replayed through `Rpms.add`, later ones
are stored verbatim): the object carries the current header version, its compose section validates, and the mapping is
JSON-representable (string keys bound once, no foreign values) whenever the document was.  (For a manifest ≤ 0.3 it is so
whatever the document held, every entry having gone through `Rpms.add` from the empty mapping: `Mf.manifest03_jsonRep`.) -/
theorem C05_rpms_loaded_is_normal (doc : PyVal) (m : Manifest) (h : deserializeL .rpms doc = .ok m) :
    m.version = .str Mf.currentVersion ∧ composeValidate m.compose = .ok ()
    ∧ (jsonRep doc = true → jsonRep m.payload = true) := (deserializeL_rpms_good doc).elim h

/--
**idempotent.**  A manifest loaded from a JSON-representable document of any version (`hd`: what `json.load` returns always
is), with a compose section of the documented field types (`hc`: an assumption on the loaded object - the reader keeps the
section's values as read and validates them, and nothing here derives the typed form from that
validation; the witness `wRpms02` satisfies it, example below), is written as a current-version document; the *current*
reader (`Mf.deserialize`) reads back the same mapping (key-sorted,
Python-equal), the compose section up to the documented normalisation, the current header version; the second text equals
the first, byte for byte.
-/
theorem C05_rpms_idempotent (doc : PyVal) (m : Manifest) (c : ComposeT) (h : deserializeL .rpms doc = .ok m)
    (hd : jsonRep doc = true) (hc : m.compose = c.toObj) :
    ∃ rt, roundtrip .rpms m = .ok rt
      ∧ rt.reloaded.payload = PyVal.canon m.payload ∧ PyVal.pyEq rt.reloaded.payload m.payload = true
      ∧ rt.reloaded.compose = c.norm.toObj ∧ rt.reloaded.version = .str Mf.currentVersion ∧ rt.text2 = rt.text1 := by
  obtain ⟨_, hv, hp⟩ := C05_rpms_loaded_is_normal doc m h
  obtain ⟨version, compose, payload⟩ := m
  simp only at hc hv hp ⊢
  subst hc
  exact C03_roundtrip_payload .rpms version c payload (hp hd) hv

/-- **faithful, on a witness** (the general re-filing statement is C10's): type `package` becomes category `binary`, the
source RPM of the `src` table is filed next to its binaries with category `source` and its own path and lower-cased key,
the `src` arch is gone, `.rpm` is dropped from the key; date/type/respin come from the id -/
theorem C05_rpms_faithful_witness :
    (match deserializeL .rpms wRpms02 with
     | .ok m =>
       PyVal.beq (PyVal.canon m.payload) (PyVal.canon (.dict [(lit "Server", .dict [(lit "x86_64", .dict [(lit "bash-0:4.3-1.src", .dict [
          (lit "bash-0:4.3-1.x86_64", rpmRecord none (lit "S/x86_64/bash-4.3-1.x86_64.rpm") (lit "binary")),
          (lit "bash-0:4.3-1.src", rpmRecord (some (lit "ab12")) (lit "S/source/bash-4.3-1.src.rpm") (lit "source")),
          (lit "bash-debuginfo-0:4.3-1.x86_64", rpmRecord (some (lit "cd")) (lit "S/x86_64/bash-debuginfo-4.3-1.x86_64.rpm") (lit "debug"))])])])]))
       && m.compose == [(lit "id", .str (lit "F-22-20150522.t.1")), (lit "type", .str (lit "test")), (lit "date", .str (lit "20150522")),
                        (lit "respin", .int 1), (lit "label", .none), (lit "final", .bool false)]
     | .error _ => false) = true := c05_rpms_facts.faithful

/-- the hypotheses of `C05_rpms_idempotent` hold of the witness: the document is JSON-representable and the compose section
read from the id has the documented field types -/
example : jsonRep wRpms02 = true
    ∧ (match deserializeL .rpms wRpms02 with
       | .ok m => m.compose == (ComposeT.toObj ⟨lit "F-22-20150522.t.1", lit "test", lit "20150522", 1, none, false⟩)
       | .error _ => false) = true := c05_rpms_facts.idempotent_hyps

end Rpms

section ComposeInfo
open PM.CI

/-- the four composeinfo gates (`Legacy.Gates`) as comparisons of pairs of naturals, for every version: `Compose.deserialize_0_3`
below 0.3, `Release.deserialize_0_3` (`product` section) up to 0.3, and below 1.0 the UID-prefix forest, asked for twice - by
`Variants.deserialize` for the top level and by `Variant.deserialize` for the children -/
theorem C05_ci_gates (v : Nat × Nat) :
    Legacy.gatesOf v = .ok ⟨PM.verLt v (0, 3), PM.verLe v (0, 3), PM.verLt v (1, 0), PM.verLt v (1, 0)⟩ := rfl

/-- `C05_ci_gates` at the boundary versions -/
theorem C05_ci_gates_at_boundaries :
    Legacy.gatesOf (0, 2) = .ok ⟨true, true, true, true⟩ ∧ Legacy.gatesOf (0, 3) = .ok ⟨false, true, true, true⟩
    ∧ Legacy.gatesOf (0, 4) = .ok ⟨false, false, true, true⟩ ∧ Legacy.gatesOf (0, 9) = .ok ⟨false, false, true, true⟩
    ∧ Legacy.gatesOf (1, 0) = .ok Legacy.Gates.current ∧ Legacy.gatesOf (1, 1) = .ok Legacy.Gates.current
    ∧ Legacy.gatesOf (2, 0) = .ok Legacy.Gates.current := by
  decide

/-- the legacy-aware reader extends the C01 reader: same answer wherever that one answers (formats >= 1.0) -/
theorem C05_ci_extends_C01 (doc : PyVal) (ci : ComposeInfo) (h : CI.deserialize doc = .ok ci) :
    Legacy.deserialize doc = .ok ci := by
  -- `CI.deserialize` answers only from format 1.0 on, and from there the two readers are one (`Legacy.deserialize_eq_legacy`)
  obtain ⟨ver, _, hh, _, _, _, _, hv⟩ := CI.deserialize_iff.mp h
  rwa [← Legacy.deserialize_eq_legacy hh (Legacy.ver_ge_1_0_of_variantsDe hv)]

/-- **loaded is normal (partial: validity and key structure; `Normal` of C01 is false of the code)** — whatever version the
document had, at any depth, for explicit child lists and for the UID-prefix forest below 1.0 alike:
* the compose and release sections validate; a layered release has a base product that validates, a non-layered one none;
* every variant passes the generated `Variant` validators AGAINST ITS PARENT (`ValidVs`: id syntax, UID aligned with the
  parent's UID — with the id at top level —, name, type, arches non-empty and within the parent's, container keys), and the
  release of a layered-product variant validates;
* every container is keyed by id with no key twice (`WellKeyed`, the hypothesis of C01).
The header is not part of the typed object: the writer always emits the current version (C01).
The statement aimed at (DESIGN.md §7, C05) is `deserialize_v d = ok x → Valid x ∧ Normal x ∧ header x = current`.  `Normal`
(C01: `final` only with a label, children in sorted order) does NOT hold of what the reader returns — `final` is kept without a label until the first write, children of the prefix scan
come in document order: `C05_ci_loaded_not_normal_witness`; both are settled by the first write (`C05_ci_idempotent`).
The boundary of the prefix forest is F32 (depth ≥ 3 refused: `C05_ci_legacy_depth3_refused_witness`). -/
theorem C05_ci_loaded_is_normal_partial (doc : PyVal) (ci : ComposeInfo) (h : Legacy.deserialize doc = .ok ci) :
    validateClass "composeinfo.Compose" (composeObj ci.compose) = .ok ()
    ∧ validateClass "composeinfo.Release" (releaseObj ci.release) = .ok ()
    ∧ (ci.release.isLayered = true → ∃ b, ci.base = some b ∧ validateClass "composeinfo.BaseProduct" (baseObj (some b)) = .ok ())
    ∧ (ci.release.isLayered = false → ci.base = none)
    ∧ Legacy.ValidVs none ci.variants
    ∧ WellKeyed ci :=
  ⟨(Legacy.deserialize_sections_valid doc ci h).1, (Legacy.deserialize_sections_valid doc ci h).2,
   (Legacy.deserialize_forest_valid doc ci h).2.1, (Legacy.deserialize_forest_valid doc ci h).2.2,
   (Legacy.deserialize_forest_valid doc ci h).1, Legacy.deserialize_wellKeyed doc ci h⟩

/--
**idempotent.**  A compose description loaded from a document of any version, once the current writer has written it as
document `j` (`hs`: the dump succeeded): the *current* reader (`CI.deserialize`) — and therefore also the legacy-aware one —
reads `j` back as the normal form of the loaded object (children in sorted order, `final` only with a label; nothing else
changes: `C01_norm_*`), and writing that again gives the very same document.
Nothing but the load and the successful dump is assumed: the loaded object is well keyed (`C05_ci_loaded_is_normal_partial`)
and a successful write of a well-keyed forest has distinct UIDs (`C01_written_uids_distinct`).
-/
theorem C05_ci_idempotent (doc j : PyVal) (x : ComposeInfo) (h : Legacy.deserialize doc = .ok x)
    (hs : serialize x = .ok j) :
    CI.deserialize j = .ok x.norm ∧ Legacy.deserialize j = .ok x.norm ∧ serialize x.norm = .ok j := by
  have hk := Legacy.deserialize_wellKeyed doc x h
  have h1 := C01_readback x j hk hs
  exact ⟨h1, C05_ci_extends_C01 j _ h1, C01_fixpoint x j hk hs⟩

/-- through the text as well: with `parse` standing for `json.load` (that it inverts the printer on the written document is the
explicit hypothesis `hjson` of `C01_bytes`; CPython's parser does not satisfy it - it returns dicts in the order of the text,
which is sorted: `C01_hjson_witness`; the statement for the modelled parser is `C05_ci_idempotent_bytes_parsed`), the text of
the first dump is re-loaded and dumped to the same text -/
theorem C05_ci_idempotent_bytes (parse : Str → Except Err PyVal) (doc : PyVal) (x : ComposeInfo) (t : Str)
    (h : Legacy.deserialize doc = .ok x)
    (hjson : ∀ j, serialize x = .ok j → parse (JsonText.dumps j) = .ok j) (hd : dumps x = .ok t) :
    reloadDump parse t = .ok t :=
  C01_bytes parse x t (Legacy.deserialize_wellKeyed doc x h) hjson hd

/-- `C05_ci_idempotent_bytes` with `parse := JsonParse.parseWith lim`, the model of CPython's `json.loads` (Model/JsonParse.lean): that the written
document is representable and that the reader does not depend on key order are theorems of `Properties/C01.lean`; what is left is
that `int()` accepts the digits of the respin under the digit limit `lim` -/
theorem C05_ci_idempotent_bytes_parsed (lim : Nat) (doc : PyVal) (x : ComposeInfo) (t : Str)
    (h : Legacy.deserialize doc = .ok x)
    (hnum : JsonParse.intFits lim x.compose.respin = true)
    (hd : dumps x = .ok t) :
    reloadDump (JsonParse.parseWith lim) t = .ok t :=
  C01_bytes_parsed lim x t (Legacy.deserialize_wellKeyed doc x h) hnum hd

/-- **faithful, `product` section (≤ 0.3)**: what is read has `internal = False`, whatever the section says -/
theorem C05_ci_faithful_product_not_internal (holder : PyVal) (r : Release) (h : Legacy.releaseDe03 holder = .ok r) :
    r.internal = false := (Legacy.releaseDe03_valid holder r h).2

/-- **faithful, forest below 1.0 — top level** (any number of variants, any depth): detecting the top level from UID prefixes
(`rsplit("-", 1)` head not a key) selects exactly the keys the explicit child lists leave unreferenced, *iff-condition*
stated on the table: a key is referenced as a child exactly when the part before its last dash is a key.  (Violated by a
dashed top-level UID beside its prefix, `Client-X` beside `Client`: prefixes cannot say that both are top level.) -/
theorem C05_ci_faithful_tops (keys cs : List Str)
    (h : ∀ u ∈ keys, cs.contains u = true ↔ ∃ hd, Legacy.legacyHead u = some hd ∧ keys.contains hd = true) :
    keys.filter (Legacy.isLegacyTop keys) = keys.filter (fun u => !cs.contains u) :=
  Legacy.tops_legacy_eq keys cs h

/-- **faithful, forest below 1.0 — children** (any number of children): for an entry whose `variants` list was removed by the
down-conversion, the legacy reader (gate `< (1, 0)`) looks its children up under exactly the keys, in exactly the order, the
current reader uses for the entry with the list — given a table in sorted key order (what `sort_keys=True` writes), every
listed child present, and nothing else under the prefix `uid-`.  The last condition is what fails from depth 3 on (a
grandchild `uid-c-g` also starts with `uid-`): F32, `C05_ci_legacy_depth3_refused_witness`.  The assembly of these two facts
through `buildL` into the whole reader is `C05_ci_faithful_down`. -/
theorem C05_ci_faithful_children (g : Legacy.Gates) (hg : g.variant = true) (full data data' : PyVal) (vuid : Str) (ids : List Str)
    (hd : data.get? k%"variants" = some (strList ids)) (hd' : data'.get? k%"variants" = none)
    (hs : SSorted full.keys)
    (hex : ∀ k ∈ full.keys, Str.startsWith k (vuid ++ ['-']) = true ↔ ∃ i ∈ ids, k = vuid ++ '-' :: i)
    (hin : ∀ i ∈ ids, vuid ++ '-' :: i ∈ full.keys) :
    Legacy.kidKeysL g full data' vuid vuid = Legacy.kidKeysL Legacy.Gates.current full data vuid vuid := by
  unfold Legacy.kidKeysL kidIdsOf
  simp only [hd, hd', hg, if_true, asStrList_strList]
  rw [Legacy.kids_legacy_eq full vuid ids hs hex hin]

/-- the hypotheses are satisfiable: the table of `wCI02` in sorted order, `Server` with its two children -/
example :
    let keys : List Str := [k%"Client-X", k%"Server", k%"Server-LP", k%"Server-optional"]
    let cs : List Str := [k%"Server-LP", k%"Server-optional"]
    (∀ u ∈ keys, cs.contains u = true ↔ ∃ hd, Legacy.legacyHead u = some hd ∧ keys.contains hd = true)
    ∧ SSorted keys
    ∧ (∀ k ∈ keys, Str.startsWith k (k%"Server" ++ ['-']) = true ↔ ∃ i ∈ [k%"LP", k%"optional"], k = k%"Server" ++ '-' :: i)
    ∧ (∀ i ∈ [k%"LP", k%"optional"], k%"Server" ++ '-' :: i ∈ keys) := by
  refine ⟨?_, by unfold SSorted; decide, ?_, by decide⟩
  · intro u hu
    simp only [List.mem_cons, List.not_mem_nil, or_false] at hu
    rcases hu with rfl | rfl | rfl | rfl <;> decide
  · intro k hk
    simp only [List.mem_cons, List.not_mem_nil, or_false] at hk
    rcases hk with rfl | rfl | rfl | rfl <;> decide

/-! ### the general down-conversion theorem

`CI.down vs ver keep ci` (Model/ComposeInfoDown.lean) is the document a writer of format `ver` would have written for `ci`, from
the format documentation; `CI.expected ver keep ci` the documented result of loading it: the normal form of `ci` (what the
current format gives back, C01) with the losses of that format — release / base-product / per-variant release `type` → "ga"
below 1.1, `internal` → False where the format has no such field (always in a `product` section).  Both are compared with the
harness's spec-side `legacy.ci_down` / `ci_expect` on every generated case (driver ops `c05_ci_down`, `c05_ci_expected`). -/

/--
**faithful, every version, every forest in the domain.**  For every description `ci` keyed the way `add()` keys it, every
version `ver` whose text `vs` the header accepts (`hval`, `hvt`: facts about the text alone) and every choice of the optional
`internal`: the legacy-aware reader loads the format-`ver` document of `ci` as exactly `expected ver keep ci` — every section,
every variant at any depth with fields, arches, paths, release and children.  Side conditions, both decidable, each shown
necessary on a witness:

* `hid` (only below 0.3, where the compose section has no `date` / `respin`): the id decoder finds the description's own date,
  type and respin in its id (`IdDerivable`; necessity: second half of `C05_ci_down_domain_needed`, and F10 is an id where it does not);
* `hdom` (only below 1.0, where children are related by UID prefix only), on the uid-keyed table `d` the writer builds:
  `KidsExact d` — nothing but the listed children of an entry lies under its prefix `uid-` — and `TopsExact d` — a key is
  somebody's child exactly when the part before its last dash is a key.  A forest of depth ≤ 2 whose top-level UIDs are not
  dash-extensions of one another satisfies it (ids carry no dash), a forest of depth 3 does not (F32) - neither is a theorem here;
  `exDown` is inside at 0.2 and 0.9 (`C05_ci_down_nonvacuous`), the three-level `exDeep` outside (`C05_ci_down_domain_needed`).  From 1.0 on there is no condition (`C05_ci_faithful_down_from_1_0`).
-/
theorem C05_ci_faithful_down (vs : Str) (ver : Nat × Nat) (keep : Bool) (ci : ComposeInfo) (j : PyVal)
    (hdown : down vs ver keep ci = .ok j) (hk : WellKeyed ci)
    (hval : validateClass "common.Header" (headerObj (.str vs)) = .ok ()) (hvt : versionTuple vs = .ok ver)
    (hid : vLe (0, 3) ver = false → IdDerivable ci.compose)
    (hdom : LegacyDomain ver ci) :
    Legacy.deserialize j = .ok (expected ver keep ci) :=
  deserialize_down vs ver keep ci j hdown hk (headerOK_of vs ver keep hval hvt) hid hdom

/-- from 1.0 on (explicit child lists, full compose section): no side condition, any depth, any UIDs -/
theorem C05_ci_faithful_down_from_1_0 (vs : Str) (ver : Nat × Nat) (keep : Bool) (ci : ComposeInfo) (j : PyVal)
    (h10 : vLe (1, 0) ver = true)
    (hdown : down vs ver keep ci = .ok j) (hk : WellKeyed ci)
    (hval : validateClass "common.Header" (headerObj (.str vs)) = .ok ()) (hvt : versionTuple vs = .ok ver) :
    Legacy.deserialize j = .ok (expected ver keep ci) := by
  -- from 1.0 on the version is not below 0.3: nothing is asked of the id
  have hid : vLe (0, 3) ver = false → IdDerivable ci.compose := by
    intro h
    rw [vLe_0_3_of_1_0 ver h10] at h
    cases h
  exact C05_ci_faithful_down vs ver keep ci j hdown hk hval hvt hid (legacyDomain_from_1_0 ver ci h10)

/-- a format that has every field (≥ 1.1 and `internal` written: any ≥ 1.2, or a 1.1 writer that already knew it) loses
nothing: the result is the normal form itself, i.e. what the current format reads back (C01_readback) -/
theorem C05_ci_faithful_down_lossless (ver : Nat × Nat) (keep : Bool) (ci : ComposeInfo)
    (h11 : vLe (1, 1) ver = true) (hi : keep = true ∨ vLe (1, 2) ver = true) :
    expected ver keep ci = ci.norm :=
  expected_lossless ver keep ci (lossless_of ver keep h11 hi)

/-- **then idempotent**: the object loaded from the format-`ver` document, once the current writer has written it as `j'`
(a current-version document), is re-read by the current reader as its normal form, and writing that again gives `j'`;
through the text with the modelled `json.loads` as well (C01_bytes_parsed; `hnum`: `int()` accepts the respin's digits) -/
theorem C05_ci_down_then_idempotent (lim : Nat) (vs : Str) (ver : Nat × Nat) (keep : Bool) (ci : ComposeInfo) (j j' : PyVal) (t : Str)
    (hdown : down vs ver keep ci = .ok j) (hk : WellKeyed ci)
    (hval : validateClass "common.Header" (headerObj (.str vs)) = .ok ()) (hvt : versionTuple vs = .ok ver)
    (hid : vLe (0, 3) ver = false → IdDerivable ci.compose) (hdom : LegacyDomain ver ci)
    (hs : serialize (expected ver keep ci) = .ok j')
    (hnum : JsonParse.intFits lim ci.compose.respin = true) (hd : dumps (expected ver keep ci) = .ok t) :
    CI.deserialize j' = .ok (expected ver keep ci).norm ∧ serialize (expected ver keep ci).norm = .ok j'
    ∧ reloadDump (JsonParse.parseWith lim) t = .ok t := by
  have h := C05_ci_faithful_down vs ver keep ci j hdown hk hval hvt hid hdom
  have hi := C05_ci_idempotent j j' _ h hs
  have hkx := Legacy.deserialize_wellKeyed j _ h
  -- `expected` takes the compose section of the normal form as it is (the losses are in the release sections and the variants)
  have hr : (expected ver keep ci).compose.respin = ci.compose.respin :=
    show ci.norm.compose.respin = ci.compose.respin from (C01_norm_sections ci).2.2.2.1
  rw [← hr] at hnum
  exact ⟨hi.1, hi.2.2, C01_bytes_parsed lim _ t hkx hnum hd⟩

/-- the theorems are not vacuous: on `exDown` (depth 2, layered release with base product, label, dashed top-level UID, a
layered-product child with its own release) every hypothesis holds at 0.2 (every loss at once) and at 0.9, the documents
exist, and the object loaded at 0.2 is the stated one (`exDown_expected_0_2`: both release types and the base product's are
"ga", every `internal` False, nothing else differs from the normal form); at 1.1 with `internal` written it is the normal form -/
theorem C05_ci_down_nonvacuous :
    (∃ j, down k%"0.2" (0, 2) false exDown = .ok j ∧ Legacy.deserialize j = .ok (expected (0, 2) false exDown))
    ∧ (∃ j, down k%"0.9" (0, 9) false exDown = .ok j ∧ Legacy.deserialize j = .ok (expected (0, 9) false exDown))
    ∧ (∃ j, down k%"1.1" (1, 1) true exDown = .ok j ∧ Legacy.deserialize j = .ok exDown.norm) := by
  obtain ⟨hk, hd2, hd9, ho2, ho9, ho11⟩ := exDown_hyps
  obtain ⟨j2, h2⟩ := CI.ok_of_isOk ho2
  obtain ⟨j9, h9⟩ := CI.ok_of_isOk ho9
  obtain ⟨j11, h11⟩ := CI.ok_of_isOk ho11
  -- the two evaluations in each case: the header accepts the version text, and its tuple
  refine ⟨⟨j2, h2, ?_⟩, ⟨j9, h9, ?_⟩, j11, h11, ?_⟩
  · -- 0.2 is below 0.3: date, type and respin have to come from the id
    exact C05_ci_faithful_down _ _ _ _ j2 h2 hk (by decide +kernel) (by decide +kernel) (fun _ => exDown_idDerivable) hd2
  · -- 0.9 is not: nothing is asked of the id
    exact C05_ci_faithful_down _ _ _ _ j9 h9 hk (by decide +kernel) (by decide +kernel) nofun hd9
  · rw [← C05_ci_faithful_down_lossless (1, 1) true exDown rfl (Or.inl rfl)]
    exact C05_ci_faithful_down_from_1_0 _ _ _ _ j11 rfl h11 hk (by decide +kernel) (by decide +kernel)

/-- **the domain is needed (F32)**: the three-level description `A` → `A-B` → `A-B-C` is well keyed, outside `LegacyDomain`
at 0.9, its 0.9 document exists and the reader refuses it (ValueError); and below 0.3 a date that is not the id's is not
recovered (`IdDerivable`) -/
theorem C05_ci_down_domain_needed :
    (WellKeyed exDeep ∧ ¬ LegacyDomain (0, 9) exDeep
     ∧ (match down k%"0.9" (0, 9) false exDeep with
        | .ok j => (match Legacy.deserialize j with | .error .valueError => true | _ => false)
        | .error _ => false) = true)
    ∧ (let ci := { exDown with compose := { exDown.compose with date := k%"20150521" } }
       (match down k%"0.2" (0, 2) false ci with
        | .ok j => (match Legacy.deserialize j with | .ok x => x.compose.date == k%"20150522" | .error _ => false)
        | .error _ => false) = true) := c05_ci_facts.domain_needed

/-- **faithful and idempotent, on a witness** (the model performs the whole upgrade): date/type/respin from the id, type
`ga`, not internal, forest rebuilt from the prefixes (two children under `Server` in document order, the dashed `Client-X` stays top level),
the layered product's own release lower-cased; second document identical to the first -/
theorem C05_ci_upgrade_witness :
    (match Legacy.upgradeCycle wCI02 with
     | .ok (x, d1, x2, d2) =>
       x.compose.date == k%"20150522" && x.compose.type == k%"nightly" && x.compose.respin == 3
       && x.release.type == k%"ga" && x.release.internal == false
       && x.variants.map Variant.uid == [k%"Client-X", k%"Server"]
       && (x.variants.map fun v => v.kids.map Variant.uid) == [[], [k%"Server-optional", k%"Server-LP"]]
       && (x.variants.flatMap fun v => v.kids.map fun c => c.release.map (·.type)) == [none, some k%"eus"]
       && PyVal.beq (PyVal.canon d1) (PyVal.canon d2) && decide (UidsDistinct x) && decide (x2.norm.variants.length = 2)
     | .error _ => false) = true := c05_ci_facts.upgrade

/-- what the reader returns is not `Normal` in C01's sense: a 1.0 document with `final: true` and no label loads with
`final = True` (dropped by the first write), and `norm` is not the identity on it -/
theorem C05_ci_loaded_not_normal_witness :
    let doc : PyVal := .dict [(k%"header", .dict [(k%"version", .str k%"1.0")]),
      (k%"payload", .dict [
        (k%"compose", .dict [(k%"id", .str k%"F-22-20150522.0"), (k%"type", .str k%"production"), (k%"date", .str k%"20150522"),
                            (k%"respin", .int 0), (k%"final", .bool true)]),
        (k%"release", .dict [(k%"name", .str k%"Fedora"), (k%"short", .str k%"F"), (k%"version", .str k%"22")]),
        (k%"variants", .dict [])])]
    (match Legacy.deserialize doc with
     | .ok x => x.compose.final && x.compose.label.isNone && !x.norm.compose.final && decide (¬ Normal x)
     | .error _ => false) = true := c05_ci_facts.not_normal

/-- **F32 witness**: a three-level forest related only by UID prefixes is refused (the grandchild is also taken for a
child of the top-level variant and fails the UID alignment), although `rsplit` names its parent unambiguously -/
theorem C05_ci_legacy_depth3_refused_witness :
    let var (id uid : Str) : PyVal :=
      .dict [(k%"id", .str id), (k%"uid", .str uid), (k%"name", .str id), (k%"type", .str k%"variant"),
             (k%"arches", .list [.str k%"x86_64"]), (k%"paths", .dict [])]
    let doc : PyVal := .dict [(k%"header", .dict [(k%"version", .str k%"0.9")]),
      (k%"payload", .dict [
        (k%"compose", .dict [(k%"id", .str k%"F-22-20150522.0"), (k%"type", .str k%"production"), (k%"date", .str k%"20150522"), (k%"respin", .int 0)]),
        (k%"release", .dict [(k%"name", .str k%"Fedora"), (k%"short", .str k%"F"), (k%"version", .str k%"22")]),
        (k%"variants", .dict [(k%"A", var k%"A" k%"A"), (k%"A-B", var k%"B" k%"A-B"), (k%"A-B-C", var k%"C" k%"A-B-C")])])]
    (match Legacy.deserialize doc with | .error .valueError => true | _ => false) = true
    ∧ Legacy.legacyHead k%"A-B-C" = some k%"A-B" := c05_ci_facts.depth3_refused

end ComposeInfo

section TreeInfo
open PM.TI PM.Ini

/-- **which reader for which version** (generated gates; every class consults its own gate):
no header / 0.0 — every class takes its pre-productmd reader, paths are fixed up, no header type is asked for (the record is
`TI.Legacy.S00`) -/
theorem C05_ti_gates_0_0 : TI.Legacy.selsOf (0, 0) = .ok
    { headerTyped := false, release := .v00, tree00 := true, variants00 := true, paths := .v00, addonFallback := false,
      variant := .v00, fixImages := true, fixStage2 := true, fixChecksums := true, media00 := true } :=
  TI.Legacy.selsOf_0_0

/-- which reader for every version `v ≠ (0, 0)` with `v ≤ (0, 3)` (0.1, 0.2, 0.3): `[product]`, the 0.3 variant and path readers, the
current tree / media / checksum readers, no path fix-up, no header type -/
theorem C05_ti_gates_le_0_3 (v : Nat × Nat) (h0 : (v == (0, 0)) = false) (h3 : PM.verLe v (0, 3) = true) :
    TI.Legacy.selsOf v = .ok
    { headerTyped := false, release := .v03, tree00 := false, variants00 := false, paths := .v03, addonFallback := false,
      variant := .v03, fixImages := false, fixStage2 := false, fixChecksums := false, media00 := false } :=
  TI.Legacy.selsOf_le_0_3 v h0 h3

/-- the hypotheses of `C05_ti_gates_le_0_3` hold at both ends of its range, 0.1 and 0.3 -/
example : ((0, 1) == ((0, 0) : Nat × Nat)) = false ∧ PM.verLe (0, 1) (0, 3) = true ∧ ((0, 3) == ((0, 0) : Nat × Nat)) = false
    ∧ PM.verLe (0, 3) (0, 3) = true := by decide

/-- which reader for every version `v > (0, 3)` (0.4 … 0.9, 1.0, 1.1, 1.2, 2.0): the current readers throughout; the header type is
demanded exactly from 1.1 on -/
theorem C05_ti_gates_gt_0_3 (v : Nat × Nat) (h3 : PM.verLt (0, 3) v = true) :
    TI.Legacy.selsOf v = .ok { TI.Legacy.Sels.current with headerTyped := PM.verLe (1, 1) v } := by
  have h0 : (v == (0, 0)) = false :=
    beq_false_of_ne fun e => Bool.noConfusion (e ▸ h3 : PM.verLt (0, 3) (0, 0) = true)
  have hle : PM.verLe v (0, 3) = false := verLe_false_of_verLt h3
  rw [TI.Legacy.selsOf_eq, h0, h3, hle]
  rfl

/-- the hypothesis of `C05_ti_gates_gt_0_3` holds from 0.4 on, and the header type is demanded at 1.1 and not at 1.0 -/
example : PM.verLt (0, 3) (0, 4) = true ∧ PM.verLt (0, 3) (1, 0) = true ∧ PM.verLt (0, 3) (2, 0) = true
    ∧ PM.verLe (1, 1) (1, 0) = false ∧ PM.verLe (1, 1) (1, 1) = true := by decide

/-- **loaded is normal (partial: per section)** — whatever header version the file had, or none: the object carries the
current header version and its release, tree, variants container, checksums, images, stage2 and media objects passed
their (generated) validators.  Not proved in Lean: validity of every *variant* below the container against its parent
(the reader does run `add`'s validation on each; stating it needs the forest invariant). -/
theorem C05_ti_loaded_is_normal_partial (fo : FloatOracle) (d : Ini) (t : TreeInfo) (h : TI.Legacy.deserialize fo d = .ok t) :
    t.headerVersion = TI.currentVersion
    ∧ validateClass "treeinfo.Release" (releaseObj t.release t.isLayered) = .ok ()
    ∧ validateClass "treeinfo.Tree" (treeObj t.tree) = .ok ()
    ∧ validateClass "treeinfo.Variants" (variantsObj t.variants) = .ok ()
    ∧ validateClass "treeinfo.Checksums" (checksumsObj t.checksums) = .ok ()
    ∧ validateClass "treeinfo.Images" (imagesObj t.images t.tree.platforms) = .ok ()
    ∧ validateClass "treeinfo.Stage2" (stage2Obj t.mainimage t.instimage) = .ok ()
    ∧ validateClass "treeinfo.Media" (mediaObj t.discnum t.totaldiscs) = .ok () := by
  -- the load, reader by reader: version text, tuple and selectors; then header, release, base product, tree, variants,
  -- checksums, images, stage2, media, the class validator
  obtain ⟨_, _, _, _, _, _, hh, hrel, _, htree, htops, hcs, him, hst, hme, _⟩ := TI.Legacy.deserialize_iff.mp h
  -- named one by one: as arguments of one tuple the unifier unfolds the validators to match the postconditions
  have h1 := (Legacy.deReleaseL_valid _ _).elim hrel
  have h2 := ((Legacy.deTreeL_post _ _ _).elim htree).2
  have h3 := ((Legacy.deTopsL_post _ _ _).elim htops).2
  have h4 := ((Legacy.deChecksumsL_post _ _).elim hcs).2
  have h5 := ((Legacy.deImagesL_post _ _ _).elim him).2
  have h6 := (Legacy.deStage2L_valid _ _).elim hst
  have h7 := (Legacy.deMediaL_valid _ _).elim hme
  exact ⟨hh, h1, h2, h3, h4, h5, h6, h7⟩

/--
**idempotent, treeinfo (every header version, 0.0 included).**  A tree loaded from a file of ANY version by the legacy-aware
reader, once the current writer has written it as `text`: the *current* reader (`TI.loads`, i.e. `IniParse.parse` and
`TI.deserialize`) reads `text` back as the normal form of the loaded
tree (dictionaries in `SortedDict` order, the tree arch among the platforms; nothing else changes: `TI.norm`), and writing
that again gives the same bytes.  Corollary of `C04_tree_bytes`; from the load itself follow: the timestamp is an integer,
top-level variants are filed under their UID (no F8 through a load: the readers call `add(v, variant_id=v.uid)`), the
checksum table satisfies `ChecksumsOK` (both value syntaxes of the reader give a type and a value free of `:`), image names
are dictionary keys, no main variant is requested.  Carried, each decidable and each with a real failing region behind it:
* `hfl`   — the integer timestamp survives `int(float(str n))` (F17: beyond 2^53);
* `hplat`, `huok`, `hnd` — platform names / UIDs non-empty and comma-free, UIDs distinct (file syntax; a pre-productmd section
  may carry anything);
* `htop`  — no top-level variant of type `addon` (F24, `C04_F24_witness`; a pre-productmd file whose `[variant-X]` section says
  `type = addon` loads to one: known finding);
* `hF25`  — no platform with images called `<x>-<tree arch>` (F25);
* `hv`    — the normal form passes the validators the reader runs (`ReadValid`; automatic when the loaded tree is normal);
* `htext`, `hck`, `himn` — what is written can travel as text (`TextOK`: `C04_textOK_criterion`), names not comment-like;
* `hsp`, `hh`, `hs`  — of the parser's whitespace predicate `sp` (any; CPython's is `Str.isPySpace`): blank and line feed are space, the
  five characters of the syntax `[ ] = # ;` are not.
-/
theorem C05_ti_idempotent (sp : Char → Bool) (hsp : IniParse.SpOK sp) (hh : sp '#' = false) (hs : sp ';' = false)
    (fo : FloatOracle) (d0 : Ini) (t : TreeInfo) (text : Str)
    (hload : TI.Legacy.deserialize fo d0 = .ok t)
    (h : dumps t none = .ok text)
    (htext : ∀ d, serialize t none = .ok d → TextOK sp d)
    (hck : ∀ c ∈ t.checksums, nc c.1 = true) (himn : ∀ p ∈ t.images, ∀ kv ∈ p.2, nc kv.1 = true)
    (hfl : ∀ n, t.tree.ts = .int n → fo.intOfFloatStr (Str.intStr n) = .ok n)
    (hplat : PlatformsOK t.tree) (huok : UidsOK t.variants) (hnd : UidsNodup t.variants)
    (htop : TopNotAddon t.variants) (hF25 : ∀ p ∈ t.images, platformOf t.tree.arch (pImages ++ p.1) = p.1)
    (hv : ReadValid (norm t)) :
    loads sp fo text = .ok (norm t) ∧ (loads sp fo text).bind (dumps · none) = .ok text := by
  obtain ⟨⟨n, hts⟩, hkeys⟩ := TI.Legacy.deserialize_tree_tops fo d0 t hload
  obtain ⟨hcs, hin⟩ := TI.Legacy.deserialize_cs_images fo d0 t hload
  have hk : TopKeyedByUid t.variants := by
    intro v hv'
    have hne : v.uid ≠ [] := (huok (none, v) (self_mem_subVs none t.variants v hv')).1
    have := hkeys v hv'
    cases hu : v.uid with
    | nil => exact absurd hu hne
    | cons c cs =>
      rw [hu] at this
      simpa using this
  exact C04_tree_bytes sp hsp hh hs fo t none text n h htext hck himn hts (hfl n hts) hplat huok hnd htop hcs ⟨hin, hF25⟩ hv hk
    (fun m hm => by cases hm)

/-! ### the general down-conversion theorem, treeinfo

`TI.down vs ver ck t` (Model/TreeInfoDown.lean) is the file a writer of format `ver` would have written for the tree `t`: the
current file with the documented differences applied.  0.1 – 1.2 carry the same facts, so the documented result of loading it
is the normal form itself (`TI.norm`, what the current format gives back: C04): **no loss**.  `TI.down` is compared with the
harness's `legacy.ti_sections` on every generated case (driver op `c05_ti_down`). -/

/-- the reader side of the down-conversion above 0.3, for any file: **a file that differs from one the current reader accepts only in its `[header]`** —
a version text above 0.3 that the header accepts — is read by the legacy-aware reader as the same object. -/
theorem C05_ti_header_only (fo : FloatOracle) (d d' : Ini) (x : TreeInfo) (vs : Str) (ver : Nat × Nat)
    (h : TI.deserialize fo d = .ok x)
    (hh : TI.Legacy.deHeaderL d' = .ok vs) (hvt : TI.versionTuple vs = .ok ver) (hnew : tupleLe ver (0, 3) = false)
    (hsame : ∀ s, s ≠ sHeader → d'.lookup s = d.lookup s) (hnames : d'.map (·.1) = d.map (·.1)) :
    TI.Legacy.deserialize fo d' = .ok x := by
  -- of the current reader's run on `d` (`TI.deserialize_iff`): what the release reader and the forest reader returned
  obtain ⟨v, vt, _, _, _, hr, _, _, hto, _⟩ := TI.deserialize_iff.mp h
  have hg := deRelease_gate hr
  rw [hg] at hr hto
  -- `[header]` is none of the sections the other readers look at: not `[DEFAULT]`, not a variant section (`headAV s`: `s`
  -- starts with `a` or `v`, as `addon-…` / `variant-…` do), not one of the fixed names, not an `images-…` section
  have h0 : d'.lookup DEFAULT = d.lookup DEFAULT := hsame _ (by decide)
  have hav : ∀ s, headAV s → d'.lookup s = d.lookup s := by
    intro s hs
    apply hsame
    rintro rfl
    exact not_headAV_of (c := 'h') rfl (by decide) (by decide) hs
  have hfixed : ∀ s ∈ [sBase, sTree, sGeneral, sChecksums, sStage2, sMedia, DEFAULT], d'.lookup s = d.lookup s := by
    intro s hs
    apply hsame
    rintro rfl
    exact absurd hs (by decide)
  have himg : ∀ s, isImg s = true → d'.lookup s = d.lookup s :=
    fun s hs => hsame s (ne_of_pred hs (by decide))
  have hlen : d'.length = d.length := by
    have := congrArg List.length hnames
    simpa using this
  -- above 0.3 every section reader but the header's is the current one, and none of them reads `[header]`; what
  -- `legacy_of_sections` leaves open is that the release and forest readers return what they returned on `d`
  refine legacy_of_sections h hh hvt (C05_ti_gates_gt_0_3 ver (verLt_of_verLe_false hnew)) ⟨rfl, rfl, rfl, rfl, rfl⟩
    hfixed himg (sections_img_of_names (by rw [hnames])) ?_ ?_
  · show Legacy.deReleaseL .v10 d' = .ok (x.release, x.isLayered)
    simp only [Legacy.deReleaseL, deRelease_congr (hsame sRelease (by decide)) h0, hr]
  · rw [deTopsL_current _ _ d' rfl rfl rfl rfl, deTops_congr hav (hsame sTree (by decide)) h0 hlen]
    exact hto

/-- the down-conversion above 0.3 (0.4 … 1.0, 1.1, 1.2, any later version the header accepts): nothing beyond C04's hypotheses -/
theorem C05_ti_faithful_down_above_0_3 (fo : FloatOracle) (vs : Str) (ver : Nat × Nat) (ck : Str) (t : TreeInfo) (d' : Ini) (n : Int)
    (hdown : TI.down vs ver ck t = .ok d') (hnew : tupleLe ver (0, 3) = false)
    (hval : validateClass "treeinfo.Header" (TI.headerObj vs) = .ok ()) (hvt : TI.versionTuple vs = .ok ver)
    (hts : t.tree.ts = .int n) (hfl : fo.intOfFloatStr (Str.intStr n) = .ok n)
    (hplat : PlatformsOK t.tree) (huok : UidsOK t.variants) (hnd : UidsNodup t.variants)
    (htop : TopNotAddon t.variants) (hcs : ChecksumsOK t.checksums) (himg : ImagesOK t.tree.arch t.images)
    (hv : ReadValid (norm t)) :
    TI.Legacy.deserialize fo d' = .ok (norm t) := by
  -- the down-converted file is the written file `d` with every section mapped (`downSec`); above 0.3 only `[header]` changes
  obtain ⟨d, hser, rfl⟩ := down_ok hdown
  have hcur := C04_tree_readback fo t none d n hser hts hfl hplat huok hnd htop hcs himg hv
  have hD : (tdown ver).old = false := hnew
  have hsame : ∀ s, s ≠ sHeader → (d.map (downSec (tdown ver) vs (t.tree.arch == "src".toList) ck)).lookup s = d.lookup s := by
    intro s hs
    refine down_lookup_same _ _ _ _ s hs (fun ho => ?_) d
    rw [hD] at ho
    cases ho
  have hhdr : (d.map (downSec (tdown ver) vs (t.tree.arch == "src".toList) ck)).lookup sHeader
      = some (downHeaderOpts (tdown ver) vs) := by
    rw [down_lookup_header, header_written hser]
    rfl
  have hh := deHeaderL_down (d.map (downSec (tdown ver) vs (t.tree.arch == "src".toList) ck)) (tdown ver) vs ver hhdr hval hvt rfl
  refine C05_ti_header_only fo d _ (norm t) vs ver hcur hh hvt hnew hsame ?_
  rw [down_names, renameSec_new _ hD]

/--
**faithful, every header version but 0.0, forests of any size and depth.**  The legacy-aware reader loads the format-`ver`
file of `t` as exactly `norm t`: release (from `[product]` for ≤ 0.3), base product, tree, every variant at any depth with its
fields, type, paths and children, checksums, images, stage2, media.  Hypotheses: `hval`, `hvt` — the header accepts the version
text (facts about the text alone); `hts` … `hv` — exactly those of `C04_tree_readback` (the same file syntax: comma-free
non-empty names, distinct UIDs, F17, F24, F25); and only for ≤ 0.3 (`hold`), each decidable, the last two shown necessary on a
witness (`C05_ti_down_conditions_needed`):
* `ck` is one of the two spellings of the child list the ≤ 0.3 reader knows;
* `ChainOK` — the `option_lookup` chain of a variant (`variant-UID`, `variant-ID`, `addon-UID`, `addon-ID`: the old format
  allowed sections named by the bare id) meets no OTHER variant's section; otherwise the variant inherits that variant's paths
  (a child with id `B` beside a top-level `B`);
* `SrcRepresentable` — on a source tree (`arch = src`) no variant has `packages` / `repository`: the ≤ 0.3 format keeps the
  source paths there and has no other place for binary ones.
-/
theorem C05_ti_faithful_down (fo : FloatOracle) (vs : Str) (ver : Nat × Nat) (ck : Str) (t : TreeInfo) (d' : Ini) (n : Int)
    (hdown : TI.down vs ver ck t = .ok d') (hne0 : (ver == (0, 0)) = false)
    (hval : validateClass "treeinfo.Header" (TI.headerObj vs) = .ok ()) (hvt : TI.versionTuple vs = .ok ver)
    (hts : t.tree.ts = .int n) (hfl : fo.intOfFloatStr (Str.intStr n) = .ok n)
    (hplat : PlatformsOK t.tree) (huok : UidsOK t.variants) (hnd : UidsNodup t.variants)
    (htop : TopNotAddon t.variants) (hcs : ChecksumsOK t.checksums) (himg : ImagesOK t.tree.arch t.images)
    (hv : ReadValid (norm t))
    (hold : tupleLe ver (0, 3) = true → (ck = kAddons ∨ ck = kVariants) ∧ ChainOK t.variants
      ∧ ∀ x ∈ subVs none t.variants, SrcRepresentable (t.tree.arch == "src".toList) x.2.paths) :
    TI.Legacy.deserialize fo d' = .ok (norm t) := by
  cases ho : tupleLe ver (0, 3) with
  | false => exact C05_ti_faithful_down_above_0_3 fo vs ver ck t d' n hdown ho hval hvt hts hfl hplat huok hnd htop hcs himg hv
  | true =>
    obtain ⟨hck, CH, SR⟩ := hold ho
    obtain ⟨d, hser, rfl⟩ := down_ok hdown
    obtain ⟨n0, key, chosen, w⟩ := serialize_spec hser
    have hD : (tdown ver).old = true := ho
    have O := oldDoc_of_written w (tdown ver) hD vs (t.tree.arch == "src".toList) ck
    -- `legacy_of_oldDoc` is about any ≤ 0.3 file; what it needs of the down-converted one is left open here, in its order
    refine legacy_of_oldDoc fo vs ver ck t d _ hser ?_ ?_ hvt ho hne0 hck huok hnd htop hv CH SR O ?_ ?_ ?_ ?_
    · -- what the current reader makes of the written file `d` (C04)
      exact C04_tree_readback fo t none d n hser hts hfl hplat huok hnd htop hcs himg hv
    · -- the header
      refine deHeaderL_down _ (tdown ver) vs ver ?_ hval hvt rfl
      rw [down_lookup_header, header_written hser]
      rfl
    · -- `[release]` is found under `[product]`
      refine down_lookup_product _ _ _ _ hD d ?_
      rw [w.look]
      exact product_absent
    · -- every other section is as written
      exact fun s a b c e => down_lookup_same _ _ _ _ s a (fun _ => ⟨b, c, e⟩) d
    · -- the same image sections
      exact sections_img_down ..
    · -- the same number of sections
      simp

/-- **then idempotent**: for a tree in normal form the loaded object is the tree itself; the current writer's file for it is
read back by the *current* reader as the same tree, and dumping that gives the same document (C04_tree_fixpoint) -/
theorem C05_ti_down_then_idempotent (fo : FloatOracle) (vs : Str) (ver : Nat × Nat) (ck : Str) (t : TreeInfo) (d' : Ini) (n : Int)
    (hdown : TI.down vs ver ck t = .ok d') (hne0 : (ver == (0, 0)) = false) (hnorm : norm t = t)
    (hval : validateClass "treeinfo.Header" (TI.headerObj vs) = .ok ()) (hvt : TI.versionTuple vs = .ok ver)
    (hts : t.tree.ts = .int n) (hfl : fo.intOfFloatStr (Str.intStr n) = .ok n)
    (hplat : PlatformsOK t.tree) (huok : UidsOK t.variants) (hnd : UidsNodup t.variants)
    (htop : TopNotAddon t.variants) (hcs : ChecksumsOK t.checksums) (himg : ImagesOK t.tree.arch t.images)
    (hold : tupleLe ver (0, 3) = true → (ck = kAddons ∨ ck = kVariants) ∧ ChainOK t.variants
      ∧ ∀ x ∈ subVs none t.variants, SrcRepresentable (t.tree.arch == "src".toList) x.2.paths) :
    TI.Legacy.deserialize fo d' = .ok t
    ∧ ∃ d, serialize t none = .ok d ∧ TI.deserialize fo d = .ok t ∧ (TI.deserialize fo d).bind (serialize · none) = .ok d := by
  cases hser : serialize t none with
  | error e => unfold TI.down at hdown; rw [hser] at hdown; cases hdown
  | ok d =>
    have hv : ReadValid (norm t) := by
      rw [hnorm]
      exact readValid_of_normal (serialize_valid hser) hnorm
    have h1 := C05_ti_faithful_down fo vs ver ck t d' n hdown hne0 hval hvt hts hfl hplat huok hnd htop hcs himg hv hold
    rw [hnorm] at h1
    obtain ⟨h2, h3⟩ := C04_tree_fixpoint fo t none d n hser hnorm hts hfl hplat huok hnd htop hcs himg
    exact ⟨h1, d, rfl, h2, h3⟩

/-- the theorems are not vacuous and their conclusions evaluate: C04's example tree (three levels, an addon with a variant
below it, paths, layered release, checksums, images, stage2, media) as 0.3 with `variants`, as 1.0 and as 1.1, and a source
tree as 0.2 with `addons` (its file keeps the source paths under `packages` / `repository`: `ex_src_file`); every hypothesis
holds of them (`TI.ex_facts.old_hyps`, and the C04 examples) -/
theorem C05_ti_down_nonvacuous :
    ((TI.down "0.3".toList (0, 3) kVariants C04_exTree0).toOption.map (TI.Legacy.deserialize C04_fo)) = some (.ok (norm C04_exTree0))
    ∧ ((TI.down "0.2".toList (0, 2) kAddons exSrcTree).toOption.map (TI.Legacy.deserialize C04_fo)) = some (.ok (norm exSrcTree))
    ∧ ((TI.down "1.0".toList (1, 0) kAddons C04_exTree0).toOption.map (TI.Legacy.deserialize C04_fo)) = some (.ok (norm C04_exTree0))
    ∧ ((TI.down "1.1".toList (1, 1) kAddons C04_exTree0).toOption.map (TI.Legacy.deserialize C04_fo)) = some (.ok (norm C04_exTree0))
    ∧ ChainOK C04_exTree0.variants ∧ ChainOK exSrcTree.variants
    ∧ (∀ x ∈ subVs none exSrcTree.variants, SrcRepresentable (exSrcTree.tree.arch == "src".toList) x.2.paths) := by
  obtain ⟨h03, h02, h10, h11⟩ := TI.ex_facts.down_evaluated
  -- `old_hyps` holds more than is quoted here: `SrcRepresentable` of the binary tree, the C04 hypotheses of `exSrcTree`
  obtain ⟨hchain, _, hchainSrc, hsrc, _⟩ := TI.ex_facts.old_hyps
  exact ⟨h03, h02, h10, h11, hchain, hchainSrc, hsrc⟩

/-- **both ≤ 0.3 conditions are needed**: a child with id `B` beside a top-level `B` violates `ChainOK`, its 0.3 file loads and
the child has inherited `B`'s `packages` path; a source tree with a binary `packages` path is not `SrcRepresentable`, and the
binary path comes back as the source path -/
theorem C05_ti_down_conditions_needed :
    (¬ ChainOK exChainTree.variants
     ∧ ((TI.down "0.3".toList (0, 3) kAddons exChainTree).toOption.map fun d =>
        match TI.Legacy.deserialize C04_fo d with
        | .ok t' => t'.variants.flatMap fun v => v.kids.map fun k => (k.uid, k.paths)
        | .error _ => []) = some [("A-B".toList, [("packages".toList, "B/Packages".toList)])])
    ∧ (let t := { exSrcTree with variants := [.mk "S".toList "S".toList "S".toList "S".toList "variant".toList
                 [("packages".toList, "bin".toList), ("source_packages".toList, "src".toList)] []] }
       ¬ (∀ x ∈ subVs none t.variants, SrcRepresentable (t.tree.arch == "src".toList) x.2.paths)
       ∧ ((TI.down "0.3".toList (0, 3) kAddons t).toOption.map fun d =>
          match TI.Legacy.deserialize C04_fo d with
          | .ok t' => t'.variants.map fun v => v.paths
          | .error _ => []) = some [[("source_packages".toList, "bin".toList)]]) :=
  ⟨TI.ex_facts.chain_needed, TI.ex_facts.src_needed⟩

/-! ### pre-productmd files (0.0): what each reader recovers, from ANY file

No `TI.down` is claimed for 0.0: the layout loses facts (short name outside the family table, layered release and base product,
variant name / type, every path kind but `packages` / `repository` / `identity`) and the readers are heuristics.  What CAN be
stated without restating the code is stated per section, for every file (not only written ones; the hypotheses are facts about
the options present): the result of each 0.0 reader in closed form, given (`hv`) that this result passes the validators the
reader ends with.  The literal tables (family → name / short, RHEL 5 addons, RHEL 3 – 6 and Fedora path rules) are the harness's
explicit mapping-table oracle (`general_mirror` with `release00` / `expect00_table`, harness/props/c05.py) and the witness
`C05_ti_upgrade_0_0_witness`.  The `[general]` the CURRENT writer emits, read through these lemmas, is C17's
subject: the lemmas are stated on options that `General.serialize` writes (family, version, arch, timestamp, variant,
packagedir, repository). -/

/-- **0.0, tree**: arch and timestamp come from `[general]` (`int(float(timestamp))`); the platforms are the arch and the
platform of every `images-*` section (`platforms00`; a section named after the arch would add its `platforms`) -/
theorem C05_ti_00_tree (fo : FloatOracle) (d : Ini) (arch ts : Str) (n : Int)
    (ha : Ini.get d sGeneral kArch = .ok arch) (hnos : (Ini.sections d).contains arch = false)
    (ho : Ini.hasOption d sGeneral kTimestamp = true) (ht : Ini.get d sGeneral kTimestamp = .ok ts) (hn : fo.intOfFloatStr ts = .ok n)
    (hv : validateClass "treeinfo.Tree" (treeObj ⟨arch, .int n, platforms00 arch (Ini.sections d)⟩) = .ok ()) :
    TI.Legacy.deTreeL fo true d = .ok ⟨arch, .int n, platforms00 arch (Ini.sections d)⟩ :=
  deTreeL_00 fo d arch ts n ha hnos ho ht hn hv

/-- `C05_ti_00_tree` without a `timestamp` option: the build timestamp is -1 -/
theorem C05_ti_00_tree_no_timestamp (fo : FloatOracle) (d : Ini) (arch : Str)
    (ha : Ini.get d sGeneral kArch = .ok arch) (hnos : (Ini.sections d).contains arch = false)
    (ho : Ini.hasOption d sGeneral kTimestamp = false)
    (hv : validateClass "treeinfo.Tree" (treeObj ⟨arch, .int (-1), platforms00 arch (Ini.sections d)⟩) = .ok ()) :
    TI.Legacy.deTreeL fo true d = .ok ⟨arch, .int (-1), platforms00 arch (Ini.sections d)⟩ := by
  -- the reader step by step, as in `deTreeL_00`: the 0.0 branch, the arch, no section of its own, no timestamp option, the validator
  exact Returns.ite_neg Bool.false_ne_true <| Returns.bind ha <| Returns.ite_bind (Returns.ite_neg (hnos ▸ Bool.false_ne_true) rfl) <|
    Returns.ite_bind (Returns.ite_neg (ho ▸ Bool.false_ne_true) rfl) <| Returns.validated hv

/-- **0.0, release**: name and short name by the family table (`releaseShort00`: the literal table of
`Release.deserialize_0_0`; outside it the family itself and the EMPTY short name: second conjunct), the version by `version00` (the
last dash/underscore-separated part that looks like a version), never layered -/
theorem C05_ti_00_release (d : Ini) (family version v' : Str)
    (hf : Ini.get d sGeneral TI.Legacy.kFamilyS = .ok family) (hver : Ini.get d sGeneral kVersion = .ok version)
    (hv' : TI.Legacy.version00 version = .ok v')
    (hv : validateClass "treeinfo.Release"
      (releaseObj ⟨(TI.Legacy.releaseShort00 family).1, (TI.Legacy.releaseShort00 family).2, v'⟩ false) = .ok ()) :
    TI.Legacy.deReleaseL .v00 d = .ok (⟨(TI.Legacy.releaseShort00 family).1, (TI.Legacy.releaseShort00 family).2, v'⟩, false)
    ∧ (TI.Legacy.releaseShort00 family = (family, []) → TI.Legacy.deReleaseL .v00 d = .ok (⟨family, [], v'⟩, false)) := by
  have h := deReleaseL_00 d family version v' hf hver hv' hv
  -- the second conjunct is the first at a family outside the table
  refine ⟨h, fun hplain => ?_⟩
  rw [hplain] at h
  exact h

/-- **0.0, media**: `discnum` / `totaldiscs` of `[general]`; a missing disc number is 1, a missing total is the disc number -/
theorem C05_ti_00_media (d : Ini) (a b : Option Int)
    (hr : (match Ini.hasOption d sGeneral kDiscnum, Ini.hasOption d sGeneral kTotaldiscs with
      | false, false => a = none ∧ b = none
      | true, false => ∃ x, (Ini.get d sGeneral kDiscnum).bind Str.pyInt = .ok x ∧ a = some x ∧ b = some x
      | false, true => ∃ y, (Ini.get d sGeneral kTotaldiscs).bind Str.pyInt = .ok y ∧ a = some 1 ∧ b = some y
      | true, true => ∃ x y, (Ini.get d sGeneral kDiscnum).bind Str.pyInt = .ok x ∧ (Ini.get d sGeneral kTotaldiscs).bind Str.pyInt = .ok y
          ∧ a = some x ∧ b = some y))
    (hv : validateClass "treeinfo.Media" (mediaObj a b) = .ok ()) :
    TI.Legacy.deMediaL true d = .ok (a, b) :=
  deMediaL_00 d a b hr hv

/-- **0.0, images / stage2 / checksums**: with relative paths the 0.0 readers ARE the current ones (C04); an absolute path is
cut after its first `/os/`, else loses its leading slashes (`fixPath`) -/
theorem C05_ti_00_relative_paths (d : Ini) (tree : Tree)
    (himg : ∀ s ∈ Ini.sections d, isImg s = true → ∀ its, Ini.items d s = .ok its → ∀ kv ∈ its, relative kv.2 = true)
    (hm : ∀ p, Ini.get d sStage2 kMainimage = .ok p → relative p = true)
    (hi : ∀ p, Ini.get d sStage2 kInstimage = .ok p → relative p = true)
    (hcs : ∀ its, Ini.items d sChecksums = .ok its → ∀ kv ∈ its, relative kv.1 = true) :
    TI.Legacy.deImagesL true d tree = deImages d tree ∧ TI.Legacy.deStage2L true d = deStage2 d
    ∧ TI.Legacy.deChecksumsL true d = deChecksums d :=
  ⟨Legacy.deImagesL_eq true d tree fun s hs hi its hit kv hkv => fixPath_rel true _ (himg s hs hi its hit kv hkv),
   Legacy.deStage2L_eq true d (fun p h => fixPath_rel true p (hm p h)) (fun p h => fixPath_rel true p (hi p h)),
   Legacy.deChecksumsL_eq true d fun its h kv hkv => fixPath_rel true _ (hcs its h kv hkv)⟩

/-- **0.0, top level**: a non-empty `variant` in `[general]` names the one top-level variant -/
theorem C05_ti_00_top_variant (c : TI.Legacy.VCtx) (d : Ini) (v : Str) (ho : Ini.hasOption d sGeneral tVariant = true)
    (hg : Ini.get d sGeneral tVariant = .ok v) (hne : v ≠ []) : TI.Legacy.topIds00 c d = .ok [v] :=
  topIds00_variant c d v ho hg hne

/-- **0.0, a variant known from `[general]` only** (none of `addon-UID`, `addon-ID`, `variant-UID`, `variant-ID` is a section,
no `addons` in `[general]`, not RHEL 5): id = the last dash-separated part of the UID, name = id, type `variant` (`addon` when
read as a child), no children — name and type of the written variant are NOT recovered -/
theorem C05_ti_00_general_variant (S : TI.Legacy.Sels) (hS1 : S.variant = .v00) (hS2 : S.addonFallback = false)
    (c : TI.Legacy.VCtx) (d : Ini) (f : Nat) (addon : Bool) (uid : Str)
    (hne : uid ≠ []) (h0 : d.lookup Ini.DEFAULT = none)
    (hnosec : ∀ s ∈ [pAddon ++ uid, pAddon ++ (Str.splitOn '-' uid).getLastD [], pVariant ++ uid,
      pVariant ++ (Str.splitOn '-' uid).getLastD []], d.lookup s = none)
    (hnoadd : Ini.hasOption d sGeneral kAddons = false) (hnot5 : TI.Legacy.isRhelMajor c ["5".toList] = false) :
    TI.Legacy.readVariant S c d (f + 1) addon uid =
      (TI.Legacy.dePathsL S.paths c d ((Str.splitOn '-' uid).getLastD []) uid (if addon then tAddon else tVariant)).map fun paths =>
        .mk [] ((Str.splitOn '-' uid).getLastD []) uid ((Str.splitOn '-' uid).getLastD []) (if addon then tAddon else tVariant) paths [] := by
  have hr5 : TI.Legacy.rhel5Addons c uid [] = [] := by
    unfold Legacy.rhel5Addons
    rw [hnot5]
    rfl
  exact readVariant_00 S hS1 hS2 c d f addon uid hne h0 hnosec hnoadd hr5

/-- **0.0, its paths**: for clean values (no trailing slash, not empty, not `.`, the repository not ending in `/repodata`),
outside RHEL and source trees, `packagedir` of `[general]` is the `packages` path and `repository` the repository; no other
path kind is recovered.  (What differs inside RHEL 3 – 6, for Fedora with `.`, with `/repodata` and for missing options is the
literal rule list of `VariantPaths.deserialize_0_0`: the harness's table oracle.) -/
theorem C05_ti_00_general_paths (c : TI.Legacy.VCtx) (d : Ini) (id uid type r p : Str) (h0 : d.lookup Ini.DEFAULT = none)
    (hnosec : ∀ s ∈ [pAddon ++ uid, pAddon ++ id, pVariant ++ uid, pVariant ++ id], d.lookup s = none)
    (hr : Ini.hasOption d sGeneral kRepository = true) (gr : Ini.get d sGeneral kRepository = .ok r)
    (hnp : Ini.hasOption d sGeneral TI.Legacy.kPackages = false)
    (hp : Ini.hasOption d sGeneral kPackagedir = true) (gp : Ini.get d sGeneral kPackagedir = .ok p)
    (hid : Ini.hasOption d sGeneral TI.Legacy.kIdentity = false)
    (r1 : TI.Legacy.rstripSlash r = r) (r2 : r ≠ []) (r3 : r ≠ ".".toList) (r4 : Str.endsWith r "/repodata".toList = false)
    (p1 : TI.Legacy.rstripSlash p = p) (p2 : p ≠ []) (p3 : p ≠ ".".toList)
    (hrhel : (c.relShort == TI.Legacy.sRHEL) = false) (hsrc : (c.arch == TI.Legacy.sSrc) = false) :
    TI.Legacy.dePathsL .v00 c d id uid type = .ok [("packages".toList, p), ("repository".toList, r)] := by
  have hv := pathVals00_general c d id uid h0 hnosec (some r) (some p)
    (fun _ => by simp only [optionLookup, hr, gr, if_true, Except.map, orOpt])
    (fun _ => by simp only [optionLookup, hnp, hp, gp, Bool.false_eq_true, if_false, if_true, Except.map, orOpt])
    (by simp only [optionLookup, hid, Bool.false_eq_true, if_false])
  have hpl := legacyPaths_plain c id r p (by simpa using hrhel) (fun _ => p3) ⟨r2, r1, r4⟩ p1 p2
  rw [hsrc] at hpl
  unfold Legacy.dePathsL
  simp only [hv, Except.map, hpl, ok_bind, TI.closed_facts.variantPaths]
  rfl

/-- the hypotheses are satisfiable and the lemmas fit together: a `[general]`-only file (plain family, two image sections,
stage2, checksums, a disc number) — every hypothesis holds of it (`ex00_hyps`) and the whole reader returns exactly the facts
named above -/
theorem C05_ti_00_nonvacuous :
    TI.Legacy.deserialize C04_fo ex00 = .ok
      { headerVersion := currentVersion, release := ⟨"Foo Linux".toList, [], "7.2".toList⟩, isLayered := false, baseProduct := none,
        tree := ⟨"x86_64".toList, .int 1417653911, ["x86_64".toList, "xen".toList]⟩,
        variants := [.mk "Everything".toList "Everything".toList "Everything".toList "Everything".toList "variant".toList
          [("packages".toList, "Packages".toList), ("repository".toList, "repo".toList)] []],
        checksums := [("images/boot.iso".toList, "sha256".toList, "ab".toList)],
        images := [("x86_64".toList, [("kernel".toList, "images/vmlinuz".toList)]), ("xen".toList, [("kernel".toList, "images/xen/vmlinuz".toList)])],
        mainimage := some "LiveOS/squashfs.img".toList, instimage := none, discnum := some 2, totaldiscs := some 2 } :=
  TI.ex_facts.loaded00

/-- **faithful and idempotent on a 0.3 witness** (`wTI03`, `tiUpgrade03Check`: `Proofs/C05WitnessTI.lean`): `[product]`
becomes the release, the child listed under `variants` is found in its `addon-` section, the `src` tree's paths become
`source_packages` / `source_repository`; the written file is parsed, re-read and written again to the same document -/
theorem C05_ti_upgrade_0_3_witness : tiUpgrade03Check = true := wT03_facts.upgrade

/-- **the pre-productmd heuristics on a witness, and idempotence** (`wTI00`, `tiUpgrade00Check`: `Proofs/C05WitnessTI.lean`; for 0.0
nothing more general is claimed about the mapping: it is the code): family prefix → name / short `RHEL`, variant `Server` from
the family, the RHEL 5 addon table for i386, repository named after the variant, `/os/` and leading slashes cut from image
paths, disc number defaulting to 1 -/
theorem C05_ti_upgrade_0_0_witness : tiUpgrade00Check = true := wT00_facts.upgrade

/-- **F12 witness**: the shipped `opensuse` fixture in miniature — a 1.0 file without `[tree]` and without variants —
loads, and the writer then fails with IndexError (`variants[0]` of an empty list in `General.serialize`).  `tiF12Check`:
`Proofs/C05WitnessTI.lean`; evaluated in one declaration with the 0.3 witness (the same readers run), hence `wT03_facts`. -/
theorem C05_ti_F12_witness : tiF12Check = true := wT03_facts.f12

end TreeInfo

end PM
