import ProductMD.Model.TreeInfoDown
import ProductMD.Model.TreeInfoLegacy
import ProductMD.Model.IniText
import ProductMD.Model.IniParse
import ProductMD.Spec.SameWords
/-!
The words the C04, C05, C08 and C17 statements about treeinfo files and INI text are written with: the nodes of the variant
forest, the hypotheses on a tree and on its written document.  Their theory is in `Proofs/TreeInfo*`, `Proofs/Ini*`,
`Proofs/TextOKDecide`, `Proofs/C05TI*`, `Proofs/C08TreeInfo` and `Proofs/C17General`.
-/
namespace PM
namespace TI
open Ini

mutual
/-- all variants of a subtree with the UID of their parent (`none` at top level) -/
def subV (pu : Option Str) : Variant → List (Option Str × Variant)
  | .mk key id uid name type paths kids => (pu, .mk key id uid name type paths kids) :: subVs (some uid) kids
def subVs (pu : Option Str) : List Variant → List (Option Str × Variant)
  | [] => []
  | v :: vs => subV pu v ++ subVs pu vs
end

/-- every platform name (the tree architecture included) can travel in the comma-separated `platforms` option -/
def PlatformsOK (tr : Tree) : Prop := ∀ p ∈ tr.platforms ++ [tr.arch], p ≠ [] ∧ ',' ∉ p

/-- checksum paths are dictionary keys; type and value can travel as `type:value` -/
def ChecksumsOK (cs : List (Str × Str × Str)) : Prop := (cs.map (·.1)).Nodup ∧ ∀ c ∈ cs, ':' ∉ c.2.1 ∧ ':' ∉ c.2.2

def isImg (s : Str) : Bool := Str.startsWith s pImages

/-- image names are dictionary keys; no platform with images is named `<x>-<tree arch>` (F25) -/
def ImagesOK (arch : Str) (images : List (Str × List (Str × Str))) : Prop :=
  (∀ p ∈ images, (p.2.map (·.1)).Nodup) ∧ (∀ p ∈ images, platformOf arch (pImages ++ p.1) = p.1)

/-- every UID is non-empty and free of `,`: it can travel in the comma-separated `variants` / `addons` options -/
def UidsOK (tops : List Variant) : Prop := ∀ x ∈ subVs none tops, x.2.uid ≠ [] ∧ ',' ∉ x.2.uid
def UidsNodup (tops : List Variant) : Prop := ((subVs none tops).map (·.2.uid)).Nodup

/-- no top-level variant has type `addon` (F24: the reader looks top-level variants up under `variant-UID`) -/
def TopNotAddon (tops : List Variant) : Prop := ∀ v ∈ tops, v.type ≠ tAddon

/-- not a comment-named option (`; WARNING.0`, …) -/
def nc (k : Str) : Bool := !IniText.isCommentName k

/-- the main variant, if one is requested, is the container key of a top-level variant (a UID or dashed path that
designates a child is outside the theorems that assume this: `C04_tree_bytes`, `C04_tree_second_dump`,
`C08_perm_treeinfo_top_key`) -/
def MainVariantTop (t : TreeInfo) (mv : Option Str) : Prop := ∀ m, mv = some m → ∃ v ∈ t.variants, v.key = m

/-- every top-level variant is filed under its UID (the reader files it there whatever its key was, and `[general] variants` of a
second dump lists the new keys: F8, `C04_F8_witness`) -/
def TopKeyedByUid (tops : List Variant) : Prop := ∀ v ∈ tops, v.key = v.uid

/-- model domain: these containers are Python dicts, their keys are pairwise distinct -/
structure DictKeys (t : TreeInfo) : Prop where
  tops : (t.variants.map Variant.key).Nodup
  checksums : (t.checksums.map (·.1)).Nodup
  images : ∀ p ∈ t.images, (p.2.map (·.1)).Nodup

/-- How a requested name designates a variant: a container key; else (with a dash) a UID of the level; else a dashed path
`<key>-<rest>` into the children.  A relation read off `VariantBase.__getitem__` (`getItem`): every successful lookup is an
instance (`getItem_designates`); that `getItem` splits at the first dash and takes the first variant with a matching key is
not recorded, so the relation is weaker than the function. -/
inductive Designates : List Variant → Str → Variant → Prop where
  | key {vs name v} : v ∈ vs → v.key = name → Designates vs name v
  | uid {vs name v} : name.contains '-' = true → (∀ w ∈ vs, w.key ≠ name) → v ∈ vs → v.uid = name → Designates vs name v
  | path {vs name head tail p v} : name = head ++ '-' :: tail → (∀ w ∈ vs, w.key ≠ name) → (∀ w ∈ vs, w.uid ≠ name) →
      p ∈ vs → p.key = head → Designates p.kids tail v → Designates vs name v

/-- the platform set of a pre-productmd file without a section named after its arch: the arch, then the platform of every
`images-*` section (`images-<platform>`, a trailing `-<arch>` dropped), first occurrence kept -/
def platforms00 (arch : Str) (secs : List Str) : List Str :=
  ([arch] ++ Legacy.imagePlatforms arch secs).foldl (fun acc p => if acc.contains p then acc else acc ++ [p]) []

/-- the paths `_fix_path` of 0.0 leaves alone; `RelPath` is the same condition as a `Prop` -/
def relative (p : Str) : Bool := !Str.startsWith p ['/']

/-- not an absolute path: what `_fix_path` of 0.0 leaves alone (`relative` is the same as a `Bool`) -/
def RelPath (p : Str) : Prop := Str.startsWith p ['/'] = false

open Legacy in
/-- a path the 0.0 reader takes as it stands: not empty, no trailing `/`, not ending in `/repodata` -/
structure CleanPath (p : Str) : Prop where
  ne : p ≠ []
  noslash : rstripSlash p = p
  norepodata : Str.endsWith p "/repodata".toList = false

/-- on a source tree the ≤ 0.3 format has no place for binary package paths -/
def SrcRepresentable (src : Bool) (paths : List (Str × Str)) : Prop :=
  src = true → paths.lookup kPackages' = none ∧ paths.lookup kRepository = none

/-- the `option_lookup` chain of ≤ 0.3 (`variant-UID`, `variant-ID`, `addon-UID`, `addon-ID`) meets no other variant's
section: a candidate name that is the section of a variant is that variant's own -/
def ChainOK (tops : List Variant) : Prop :=
  ∀ x ∈ subVs none tops, ∀ y ∈ subVs none tops,
    ∀ c ∈ [pVariant ++ x.2.uid, pVariant ++ x.2.id, pAddon ++ x.2.uid, pAddon ++ x.2.id], secName y.2.type y.2.uid = c → y = x

end TI

namespace IniParse

/-- what is needed of the whitespace predicate -/
structure SpOK (sp : Char → Bool) : Prop where
  space : sp ' ' = true
  nl : sp '\n' = true
  lb : sp '[' = false
  rb : sp ']' = false
  eq : sp '=' = false

def StartsOk (sp : Char → Bool) (s : Str) : Prop := ∀ c t, s = c :: t → sp c = false
def EndsOk (sp : Char → Bool) (s : Str) : Prop := ∀ i c, s = i ++ [c] → sp c = false

def KeyOk (sp : Char → Bool) (k : Str) : Prop :=
  k ≠ [] ∧ '\n' ∉ k ∧ (∀ c ∈ k, isDelim c = false) ∧ StartsOk sp k ∧ EndsOk sp k ∧
    (∀ c t, k = c :: t → c ≠ '#' ∧ c ≠ ';' ∧ c ≠ '[')
def ValOk (sp : Char → Bool) (v : Str) : Prop := '\n' ∉ v ∧ StartsOk sp v ∧ EndsOk sp v
def NameOk (n : Str) : Prop := n ≠ [] ∧ '\n' ∉ n ∧ n ≠ "DEFAULT".toList
def SecOk (sp : Char → Bool) (s : Str × List (Str × Str)) : Prop :=
  NameOk s.1 ∧ (∀ kv ∈ s.2, KeyOk sp kv.1 ∧ ValOk sp kv.2) ∧ (s.2.map (·.1)).Nodup
/-- single-line values and option names without outer blanks; option names free of `=`/`:`, not starting with
`#`, `;`, `[`; no duplicate names; no `[DEFAULT]`.  The driver evaluates the Boolean `IniText.Representable d`, which gives this
one, at CPython's blanks, of the document the reader is to return for `d` (`TI.textOK_of_representable`). -/
def Representable (sp : Char → Bool) (d : Doc) : Prop := (∀ s ∈ d, SecOk sp s) ∧ (d.map (·.1)).Nodup

def NoNewlines (d : Doc) : Prop := ∀ s ∈ d, '\n' ∉ s.1 ∧ ∀ kv ∈ s.2, '\n' ∉ kv.1 ∧ '\n' ∉ kv.2

end IniParse

namespace IniText
open Ini

/-- a dict of dicts: section names distinct, option names distinct inside every section -/
structure DistinctKeys (d : Ini) : Prop where
  secs : (d.map (·.1)).Nodup
  opts : ∀ s ∈ d, (s.2.map (·.1)).Nodup

/-- the same section: same name, the options a rearrangement of each other -/
def SecEq (s s' : Str × IniSec) : Prop := s.1 = s'.1 ∧ s.2.Perm s'.2

/-- the same document: the sections a rearrangement of each other, each the same section -/
def IniEq (d d' : Ini) : Prop := PermR SecEq d d'

end IniText

namespace TI
open Ini

/-- the document the text reader returns for the rendering of `d` -/
def readDoc (d : Ini) : Ini := IniText.dropComments (IniText.canon d)

open IniText in
/-- The written document can travel as text (hypothesis of `C04_tree_text`).  The file is the rendering of `canon d`, comment-named
options included (`render_eq_canon`): nothing in it may hold a line feed.  What the reader returns is `readDoc d`, without those
options, and only that has to be representable (`parse_render_dropComments`). -/
def TextOK (sp : Char → Bool) (d : Ini) : Prop :=
  IniParse.NoNewlines (IniText.canon d) ∧ IniParse.Representable sp (readDoc d)

end TI
end PM
