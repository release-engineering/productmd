import ProductMD.Model.Forest
import ProductMD.Model.ComposeInfoLegacy
import ProductMD.Model.ComposeInfoDown
import ProductMD.Model.ComposeInfoState
/-! The words the C01 / C05 / C08 statements about composeinfo are written with (hypothesis predicates and specification functions
over `Model/ComposeInfo*.lean`); their theory is in `Proofs/CI*.lean`, `Proofs/C05CI*.lean`, `Proofs/C08CI*.lean`. -/
namespace PM.CI
open PM

/-- strictly ascending: the key order of a table written with sorted keys (hypothesis of `C05_ci_faithful_children`) -/
def SSorted (l : List Str) : Prop := l.Pairwise (· < ·)

instance (l : List Str) : Decidable (SSorted l) := by unfold SSorted; infer_instance

section
open PM.Forest

/-- per-object data `add` does not touch -/
structure Extra where
  paths : PathTable
  release : Option Release

/-- the subtree below the dict entry `key ↦ object` (children in dict order), cut `f` levels below the entry (`State.kids` is a
function on object numbers, nothing to recurse on); the theorems hold for every `f` -/
def unfold (U : Nat → Attrs) (X : Nat → Extra) (s : State) : Nat → Str × Nat → Variant
  | 0, kv => .mk kv.1 (U kv.2).id (U kv.2).uid (U kv.2).name (U kv.2).type (U kv.2).arches (X kv.2).paths (X kv.2).release []
  | f + 1, kv => .mk kv.1 (U kv.2).id (U kv.2).uid (U kv.2).name (U kv.2).type (U kv.2).arches (X kv.2).paths (X kv.2).release
      ((s.kids kv.2).map (unfold U X s f))

/-- `ComposeInfo.variants` as the writer sees it -/
def forestOf (U : Nat → Attrs) (X : Nat → Extra) (s : State) (f : Nat) : List Variant := s.top.map (unfold U X s f)

end

/-- The reader of a < 0.3 compose section takes date, type and respin from what it decodes from the id; the section is read
back as written when these agree with the fields (otherwise the id's values are loaded: `C05_ci_down_domain_needed`). -/
def IdDerivable (c : Compose) : Prop :=
  ∃ n : Nat, c.respin = (n : Int) ∧ getDateTypeRespin c.id = .ok (some (some c.date, c.type, n))

/-- below 1.0: nothing but the listed children of an entry lies under its prefix `uid-` (first half of `LegacyDomain`; a forest
of depth 3 violates it, F32) -/
def KidsExact (d : Flat) : Prop :=
  ∀ p ∈ d, ∀ k ∈ d.map (·.1), Str.startsWith k (p.2.uid ++ ['-']) = true → ∃ i ∈ p.2.kids, k = p.2.uid ++ '-' :: i

/-- the model of `child_variants`, on typed entries -/
def refs (d : Flat) : List Str := d.flatMap fun p => p.2.kids.map fun i => p.2.uid ++ '-' :: i

/-- below 1.0: a key is referenced as a child exactly when the part before its last dash is a key (second half of `LegacyDomain`) -/
def TopsExact (d : Flat) : Prop :=
  ∀ u ∈ d.map (·.1), (refs d).contains u = true ↔ ∃ hd, Legacy.legacyHead u = some hd ∧ (d.map (·.1)).contains hd = true

instance (d : Flat) : Decidable (KidsExact d) := by unfold KidsExact; infer_instance
instance (d : Flat) : Decidable (TopsExact d) := by unfold TopsExact; infer_instance

/-- The faithful domain below 1.0, on the table the writer builds: documents older than 1.0 carry no child lists, the reader
rebuilds the forest from UID prefixes, and these two conditions say that the prefixes show exactly the forest. -/
def LegacyDomain (ver : Nat × Nat) (ci : ComposeInfo) : Prop :=
  vLe (1, 0) ver = false → ∀ d, variantsSer ci.variants = .ok d → KidsExact d ∧ TopsExact d

def SameSet (a b : List Str) : Prop := ∀ x, x ∈ a ↔ x ∈ b
def SamePaths (p q : PathTable) : Prop := ∀ cat a, pathAt p cat a = pathAt q cat a

mutual
inductive VEq : Variant → Variant → Prop
  | mk (key id uid name type : Str) {a a' : List Str} {p p' : PathTable} (rel : Option Release) {k k' : List Variant} :
      SameSet a a' → SamePaths p p' → LEq k k' →
      VEq (.mk key id uid name type a p rel k) (.mk key id uid name type a' p' rel k')
/-- a rearrangement of a child dict, child by child the same content -/
inductive LEq : List Variant → List Variant → Prop
  | nil : LEq [] []
  | cons {v v' : Variant} {l l' : List Variant} : VEq v v' → LEq l l' → LEq (v :: l) (v' :: l')
  | swap (a b : Variant) (l : List Variant) : LEq (a :: b :: l) (b :: a :: l)
  | trans {l₁ l₂ l₃ : List Variant} : LEq l₁ l₂ → LEq l₂ l₃ → LEq l₁ l₃
end

/-- the release of a variant after some dumps: untouched, or (layered product) with the flag forced -/
def RelTouched (type : Str) (rel rel' : Option Release) : Prop :=
  rel' = rel ∨ (type = layeredProduct ∧ rel' = rel.map forceLayered)

mutual
inductive Touched : Variant → Variant → Prop
  | mk (key id uid name type : Str) (arches : List Str) (paths : PathTable) {rel rel' : Option Release} {kids kids' : List Variant} :
      RelTouched type rel rel' → TouchedL kids kids' →
      Touched (.mk key id uid name type arches paths rel kids) (.mk key id uid name type arches paths rel' kids')
inductive TouchedL : List Variant → List Variant → Prop
  | nil : TouchedL [] []
  | cons {v v' : Variant} {l l' : List Variant} : Touched v v' → TouchedL l l' → TouchedL (v :: l) (v' :: l')
end

/-- the object after `n` dumps in a row (each may succeed or fail) -/
def c8After : Nat → CIState → CIState
  | 0, s => s
  | n + 1, s => c8After n (dumpsSt s).1

end PM.CI
