import ProductMD.Model.Validation
import ProductMD.Spec.Rules
/-! The words the C06 / C07 statements about `validate()` are written with; their theory is in `Proofs/RulesEq.lean`,
`Proofs/Validation.lean` and `Proofs/ErrClass.lean`. -/
namespace PM

deriving instance DecidableEq for Cond
deriving instance DecidableEq for Rule

def rulesSubset (xs ys : List Rule) : Bool := xs.all fun r => ys.any fun q => decide (r = q)

end PM

namespace PM.Val
open PM

/-- some documented rule of the part's class does not hold on it -/
def Part.Violates (p : Part) : Prop := ∃ r ∈ Spec.catalogue p.cls, r.check customs2 p.obj ≠ .ok ()

/-- every documented rule of the part's class holds on it -/
def Part.Conforms (p : Part) : Prop := ∀ r ∈ Spec.catalogue p.cls, r.check customs2 p.obj = .ok ()

def Rule.customNamesIn : Rule → List Str
  | .custom n => [n]
  | .guarded _ r => Rule.customNamesIn r
  | _ => []

/-- every occurrence of `b` in the list has an `a` somewhere before it -/
def precededBy (a b : Rule) : List Rule → Bool
  | [] => true
  | r :: rs => if r = a then true else if r = b then false else precededBy a b rs

/-- `id` is a `str`: the check that has to run before the hand-bound UID rules, which format the id (`C06_id_before_uid`) -/
def idRule : Rule := .type c!"id" [.str]

def parentArchesKnown (o : Obj) : Bool := isNoneV (o.get c!"parent") || !isForeign (parentAttr o c!"arches")
def parentUidKnown (o : Obj) : Bool := isNoneV (o.get c!"parent") || (pyFormat (parentAttr o c!"uid")).isSome
def checksumsShape (o : Obj) : Bool := match o.get c!"checksums" with | .list _ | .str _ | .other _ => false | _ => true
def tablesAreDicts : List (Str × PyVal) → Bool
  | [] => true
  | (_, .dict _) :: rest => tablesAreDicts rest
  | _ :: _ => false
def imagesShape (o : Obj) : Bool := match o.get c!"images" with | .dict plats => tablesAreDicts plats | _ => true

/-- the domain condition of the hand-bound rule named `n`, on the object it is run on (`true` for the rules that need none) -/
def nameDomain (n : Str) (o : Obj) : Bool :=
  if n == Spec.cCiParentArch then parentArchesKnown o
  else if n == Spec.cCiUid || n == Spec.cTiUid then parentUidKnown o
  else if n == Spec.cTiChecksumPaths then checksumsShape o
  else if n == Spec.cTiImagePaths then imagesShape o
  else true

/-- the model knows the exception class of every hand-bound rule the part's class runs (the situations named at the head of
`Proofs/ErrClass.lean` excluded) -/
def Part.InDomain (p : Part) : Bool := ((genRules p.cls).flatMap Rule.customNamesIn).all (nameDomain · p.obj)

end PM.Val
