import ProductMD.Model.Forest
import ProductMD.Generated.Tables
/-!
The words the C11 statements about the variant forest are written with: the invariants of the forest, the hypotheses on a call of
`add`, and what lies below a container.  Their theory is in `Proofs/ForestInv.lean` and `Proofs/ForestQuery.lean`.
-/
namespace PM.Forest

/-- field checks of `validate()` that do not depend on the state -/
structure FieldsOk (a : Attrs) : Prop where
  id_nodash : '-' ∉ a.id
  id_ne : a.id ≠ []
  type_ok : a.type ∈ Gen.VARIANT_TYPES
  arches_ne : a.arches ≠ []
  name_ne : a.name ≠ []

/-- an entry `k ↦ v` of the children dict of variant `p` -/
structure EdgeOk (U : Nat → Attrs) (p : Nat) (k : Str) (v : Nat) : Prop where
  key : k = (U v).id
  uid : (U v).uid = (U p).uid ++ '-' :: (U v).id
  arches : ∀ a ∈ (U v).arches, a ∈ (U p).arches

/-- what every children dict satisfies after any history of `add` calls whatsoever -/
structure InvW (U : Nat → Attrs) (s : State) : Prop where
  edge : ∀ p k v, (k, v) ∈ s.kids p → EdgeOk U p k v
  fields : ∀ c k v, (k, v) ∈ s.kidsOf c → FieldsOk (U v)
  keys : ∀ c, ((s.kidsOf c).map (·.1)).Nodup

/-- the object is an entry of some dict of the forest -/
def Placed (s : State) (v : Nat) : Prop := ∃ c k, (k, v) ∈ s.kidsOf c

/-- hypothesis on one call `c.add(v, key)`: the object is not already filed under ANOTHER container object or key (F33: `add`
does not check that; two objects with one UID both accept the same child), and an explicit top-level key is the id or the
UID (F29).  Nothing is assumed about parent pointers, about the outcome, or about earlier refused calls. -/
structure AddOk (U : Nat → Attrs) (s : State) (c : Cont) (v : Nat) (key : Option Str) : Prop where
  elsewhere : ∀ d k', (k', v) ∈ s.kidsOf d → d = c ∧ k' = addKey U c v key
  keyOk : c = none → ∀ k, key = some k → k = [] ∨ k = (U v).id ∨ k = (U v).uid

/-- the full invariant; it holds along histories whose calls satisfy `AddOk` -/
structure Inv (U : Nat → Attrs) (s : State) : Prop where
  weak : InvW U s
  /-- parent pointers mirror the children dicts (`none` for the top-level container) -/
  parent : ∀ c k v, (k, v) ∈ s.kidsOf c → s.parent v = c
  /-- an object occurs at most once in a dict (hence, with `parent`, once in the forest) -/
  once : ∀ c, ((s.kidsOf c).map (·.2)).Nodup
  /-- a top-level variant's UID is its id up to dashes (the top-level branch of `_validate_uid`) -/
  topAligned : ∀ k v, (k, v) ∈ s.top → Str.removeChar '-' (U v).uid = (U v).id
  topKey : ∀ k v, (k, v) ∈ s.top → k = (U v).id ∨ k = (U v).uid

/-- all objects ever constructed have pairwise different UIDs, none of them made of dashes only -/
structure UidsApart (U : Nat → Attrs) : Prop where
  inj : ∀ i j, (U i).uid = (U j).uid → i = j
  solid : ∀ i, Str.removeChar '-' (U i).uid ≠ []

/-- `x` is a variant of the level below container `c` (`kid`) or of the forest below it (`deep`) -/
inductive Desc (s : State) : Cont → Nat → Prop
  | kid {c : Cont} {k : Str} {v : Nat} : (k, v) ∈ s.kidsOf c → Desc s c v
  | deep {c : Cont} {k : Str} {w v : Nat} : (k, w) ∈ s.kidsOf c → Desc s (some w) v → Desc s c v

/-- no child of an ancestor `a` of `v` carries, as its UID, the path of `v` relative to `a` (F27 otherwise) -/
def NoShadow (U : Nat → Attrs) (s : State) (v : Nat) : Prop :=
  ∀ a, Desc s (some a) v → ∀ kv ∈ s.kids a, (U a).uid ++ '-' :: (U kv.2).uid ≠ (U v).uid

/-- UIDs in the subtrees of different top-level entries differ (what F14 violates) -/
def TopApart (U : Nat → Attrs) (s : State) : Prop :=
  ∀ kv ∈ s.top, ∀ kv' ∈ s.top, kv.1 ≠ kv'.1 → ∀ x y, (x = kv.2 ∨ Desc s (some kv.2) x) →
    (y = kv'.2 ∨ Desc s (some kv'.2) y) → (U x).uid ≠ (U y).uid

end PM.Forest
