import ProductMD.Spec.Images
import ProductMD.Model.JsonRep
import ProductMD.Model.JsonParse
import ProductMD.Spec.SameWords
/-!
The words the C02 / C05 / C08 / C09 / C10 statements about images manifests are written with: the written table and its
filings, the hypotheses on an image's containers, the uniqueness gate along a run, the arch keys `Images.add` can create.
Their theory is in `Proofs/Images*`, `Proofs/C08Images`, `Proofs/C10Images*`.
-/
namespace PM.Img
open PM PM.PyOps PM.Spec

/-- the `(variant, arch, dictionary)` entries of one variant `v` of a written table, in document order (`outTriples`: those of the
whole table) -/
def archTriples (v : Str) (as : List (Str × List PyVal)) : List (Str × Str × PyVal) :=
  as.flatMap fun al => al.2.map fun d => (v, al.1, d)

def outTriples (o : OutCells) : List (Str × Str × PyVal) := o.flatMap fun va => archTriples va.1 va.2

/-- the written `payload["images"]` as dicts: distinct variant keys, distinct arch keys under each variant -/
def OutNodup (o : OutCells) : Prop := (o.map (·.1)).Nodup ∧ ∀ va ∈ o, (va.2.map (·.1)).Nodup

/-- the loops of `Images.serialize` over a list of (variant, arch, image) filings, for images whose own `serialize` succeeds -/
def outFold (ts : List (Str × Str × Image)) (out : OutCells) : OutCells :=
  ts.foldl (fun o t => outAppend o t.1 t.2.1 t.2.2.dict) out

/-- `o.get(v, {})`.  It is `valAt [] o v` (`archAt_eq`, which the proofs rewrite with at once); the name is for
`C02_empty_cells_not_written` and for `C10.keysOf` (`Proofs/C10ImagesRefile.lean`). -/
def archAt (o : OutCells) (v : Str) : List (Str × List PyVal) :=
  match o.find? (·.1 == v) with
  | Option.some va => va.2
  | Option.none => []

/-- the filings of cell `(v, a)`, in the order they are met -/
def cellFilings (ts : List (Str × Str × Image)) (v a : Str) : List (Str × Str × Image) :=
  ts.filter fun t => t.1 == v && t.2.1 == a

/-- paths are pairwise distinct inside every cell -/
def DistinctPaths (ts : List (Str × Str × Image)) : Prop :=
  ∀ v a, ((cellFilings ts v a).map fun t => pathKey t.2.2.dict).Nodup

/-- attribute by attribute the same content (dict-valued attributes - `checksums` - up to entry order) -/
structure Image.Same (i j : Image) : Prop where
  path : JEq i.path j.path
  mtime : JEq i.mtime j.mtime
  size : JEq i.size j.size
  volume_id : JEq i.volume_id j.volume_id
  type : JEq i.type j.type
  format : JEq i.format j.format
  arch : JEq i.arch j.arch
  disc_number : JEq i.disc_number j.disc_number
  disc_count : JEq i.disc_count j.disc_count
  checksums : JEq i.checksums j.checksums
  implant_md5 : JEq i.implant_md5 j.implant_md5
  bootable : JEq i.bootable j.bootable
  subvariant : JEq i.subvariant j.subvariant
  unified : JEq i.unified j.unified
  additional_variants : JEq i.additional_variants j.additional_variants

def FSame (t t' : Str × Str × Image) : Prop := t.1 = t'.1 ∧ t.2.1 = t'.2.1 ∧ Image.Same t.2.2 t'.2.2

/-- the same manifest content: equal compose section, and the same filings `(variant, arch, image content)` up to
rearrangement - this allows any order of the variant dict, of every arch dict, of every image set, and any order of the
entries of dict-valued image attributes (`checksums`).  `header.version` is NOT content: the writer overwrites it. -/
structure Same (x y : ImgState) : Prop where
  compose : x.compose = y.compose
  filings : PermR FSame (triples x.cells) (triples y.cells)

section
open PM.Mf

/-- the containers of the image hold JSON values (no foreign objects, no key bound twice — true of every Python dict) -/
def ContainersRep (i : Image) : Prop := jsonRep i.checksums = true ∧ jsonRep i.additional_variants = true

instance (i : Image) : Decidable (ContainersRep i) := by unfold ContainersRep; infer_instance

open PM.JsonParse

/-- the integers of the image and the numbers inside its containers are read back under the digit limit `lim` -/
def NumsFit (lim : Nat) (i : Image) : Prop :=
  numsOk lim i.mtime = true ∧ numsOk lim i.size = true ∧ numsOk lim i.disc_number = true ∧ numsOk lim i.disc_count = true
  ∧ numsOk lim i.checksums = true ∧ numsOk lim i.additional_variants = true

instance (lim : Nat) (i : Image) : Decidable (NumsFit lim i) := by unfold NumsFit; infer_instance

end

/-- the uniqueness scan is switched on for this header version (generated gate) -/
def Enforces (ver : PyVal) : Prop :=
  (versionTuple ver).bind (gateEval Gen.gate_images_Images_add_0) = .ok true

instance (ver : PyVal) : Decidable (Enforces ver) := by unfold Enforces; infer_instance

/-- a colliding pair: what `Uniq` forbids (same identity, different checksums) -/
def Viol (i j : Image) : Prop := SameIdentity i j ∧ ¬ PyEq i.checksums j.checksums

/-- every colliding pair of `cs'` is already a pair of `cs` -/
def NoNewPairs (cs cs' : Cells) : Prop := ∀ i ∈ cs'.all, ∀ j ∈ cs'.all, Viol i j → i ∈ cs.all ∧ j ∈ cs.all

/-- the step happens at an enforcing version: the object's header for `add`, the document's header for `loads` -/
def OpEnforced (s : ImgState) : HOp → Prop
  | .add _ => Enforces s.version
  | .loads doc _ => ∀ ver, headerDeserialize doc = .ok ver → Enforces ver
  | _ => True

/-- every `add` / `loads` of the run happens at an enforcing version (the header may change in between) -/
def EnforcedRun : ImgState → List HOp → Prop
  | _, [] => True
  | s, op :: rest => OpEnforced s op ∧ EnforcedRun (hstep s op).1 rest

/-- what the two checks of `Images.add` let through -/
def C10.Admissible (a : Str) : Prop := Gen.RPM_ARCHES.contains a = true ∧ refusedArches.contains a = false

end PM.Img

namespace PM.Img.C10
open PM PM.PyOps PM.Spec

/-- every architecture key of the manifest (one entry per (variant, arch) table, empty tables included) -/
def archKeys (cs : Cells) : List Str := cs.flatMap fun va => va.2.map (·.1)

/-- every arch key present passes the two checks of `Images.add` -/
def KeysOK (cs : Cells) : Prop := ∀ x ∈ archKeys cs, Admissible x

/-- every `insert` of the statement list comes after both checks.  `tbl` / `src`: the table check / the source-arch refusal has
already run.  A statement the translator does not know might insert anything: not guarded. -/
def archGuard : List AddStep → Bool → Bool → Bool
  | [], _, _ => true
  | .archTable :: rest, _, src => archGuard rest true src
  | .srcRefusal :: rest, tbl, _ => archGuard rest tbl true
  | .uniqScan :: rest, tbl, src => archGuard rest tbl src
  | .insert :: rest, tbl, src => tbl && src && archGuard rest tbl src
  | .unknown :: _, _, _ => false

/-- which of the two checks stand at the head of the list, before any other statement -/
def headChecks : List AddStep → Bool × Bool
  | .archTable :: rest => (true, (headChecks rest).2)
  | .srcRefusal :: rest => ((headChecks rest).1, true)
  | _ => (false, false)

/-- the arch keys under which `_add_1_1` files an image read from `(variant, a)`; `ks` = the arch keys of that variant -/
def targets (ks : List Str) (a : Str) : List Str :=
  if a = L "src" then ks.filter (fun b => b ≠ L "src") else [a]

end PM.Img.C10
