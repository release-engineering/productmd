import ProductMD.Model.ManifestIO
import ProductMD.Model.JsonRep
/-!
The words the C03, C05, C08 and C12 statements about the manifests (rpms, modules, extra files), their builders and histories of builder
calls are written with; their theory is in Proofs/Builders, Proofs/ManifestIO, Proofs/RuleCongr and Proofs/C08History.
-/
namespace PM.Mf
open PM

/-- `x = c.setdefault(k, d); <h on x>` as a state transformer: what `h` leaves of `x` is what `c[k]` holds afterwards, and `h`'s outcome
is the statement's; a `c` that is no dict raises `nd` -/
def sub (nd : Err) (d : PyVal) (k : Str) (h : PyVal → PyVal × Out) : PyVal → PyVal × Out
  | .dict e => (.dict (put e k (h ((lookup e k).getD d)).1), (h ((lookup e k).getD d)).2)
  | c => (c, .error nd)

/-- `x.extend(l)` -/
def appendL (l : List PyVal) : PyVal → PyVal × Out
  | .list old => (.list (old ++ l), .ok ())
  | x => (x, .error .attributeError)

/-- `f; g`: the next statement runs on what the first left, unless that raised -/
def seqL (f g : PyVal → PyVal × Out) (x : PyVal) : PyVal × Out :=
  match (f x).2 with
  | .ok _ => g (f x).1
  | .error e => ((f x).1, .error e)

def Out.isOk : Out → Bool
  | .ok _ => true
  | .error _ => false

/-- what an accepted call has passed, and where it files what (the documented layout) -/
structure RpmsAccepted (a : RpmsArgs) (p : RpmsPlan) : Prop where
  arch_known : a.arch ∈ Gen.RPM_ARCHES
  arch_binary : a.arch ∉ srcArches
  category_known : a.category ∈ Gen.SUPPORTED_CATEGORIES
  path_nonempty : a.path ≠ []
  path_relative : Str.startsWith a.path ['/'] = false
  has_colon : ':' ∈ a.nevra
  parsed : ∃ d, parseNvra a.nevra = .ok d ∧ p.key = canonNvra d
            ∧ ((a.category = lit "source") ↔ archIn nevraSrcArches d.arch = true)
  source_no_srpm : a.category = lit "source" → a.srpm = none ∧ p.srpmKey = p.key
  binary_srpm : a.category ≠ lit "source" →
      ∃ s, a.srpm = some s ∧ ((s = [] ∧ p.srpmKey = p.key) ∨
                               (s ≠ [] ∧ ':' ∈ s ∧ ∃ d, parseNvra s = .ok d ∧ p.srpmKey = canonNvra d))
  record : p.record = rpmRecord (a.sigkey.map Str.lowerAscii) a.path a.category

/-- what an accepted `Modules.add` has passed, and the plan it files (canonical uid, metadata, rpm list) -/
structure ModulesAccepted (a : ModulesArgs) (p : ModulesPlan) : Prop where
  variant_nonempty : a.variant ≠ []
  arch_known : a.arch ∈ Gen.RPM_ARCHES
  category_known : a.category ∈ Gen.SUPPORTED_CATEGORIES
  uid : ∃ s u, a.uid = .str s ∧ ':' ∈ s ∧ parseUid (.str s) = .ok u ∧ p.uid = u.canonical
          ∧ p.metadata = moduleMetadata u.canonical u a.kojiTag
  path_relative : Str.startsWith a.modulemdPath ['/'] = false
  path_nonempty : a.modulemdPath ≠ []
  koji_nonempty : a.kojiTag ≠ []
  rpms : a.rpms = .list p.rpms ∨ a.rpms = .tuple p.rpms
  category : p.category = a.category
  path : p.path = a.modulemdPath

/-- `p` leaves the spine `ks` at some key, or runs along all of it and continues with a `Q` path -/
def Off (Q : List Str → Prop) : List Str → List Str → Prop
  | p, [] => Q p
  | [], _ :: _ => False
  | k' :: ps, k :: ks => k' ≠ k ∨ Off Q ps ks

/-- paths into the table the leaf update writes that start at another key (another RPM of the source package, another arch of the
variant) -/
def OtherKey (key : Str) (q : List Str) : Prop := ∃ n rest, q = n :: rest ∧ n ≠ key

/-- an entry as `Modules.add` itself builds it: a dict whose `modulemd_path`, if present, is a dict and whose `rpms`,
if present, is a list -/
def EntryOK (x : PyVal) : Prop :=
  ∃ e, x = .dict e ∧ (∀ y, lookup e (lit "modulemd_path") = some y → ∃ mp, y = .dict mp)
               ∧ (∀ y, lookup e (lit "rpms") = some y → ∃ l, y = .list l)

def allVals (P : PyVal → Bool) : PyVal → Bool
  | .dict kvs => kvs.all (fun kv => P kv.2)
  | _ => false

/-- a dict of dicts … (`n` levels) whose innermost values satisfy `P` -/
def shapeAt : Nat → (PyVal → Bool) → PyVal → Bool
  | 0, P => P
  | n + 1, P => allVals (shapeAt n P)

def isDict : PyVal → Bool
  | .dict _ => true
  | _ => false

/-- a record as `ExtraFiles.add` stores it: a dict with a string under `file`, and `size` and `checksums` present -/
def isExtraRec : PyVal → Bool
  | .dict r =>
    (match lookup r (lit "file") with | some (.str _) => true | _ => false)
    && (lookup r (lit "size")).isSome && (lookup r (lit "checksums")).isSome
  | _ => false

def isRecList : PyVal → Bool
  | .list l => l.all isExtraRec
  | _ => false

/-- the decidable form of `EntryOK` -/
def entryOK : PyVal → Bool
  | .dict e =>
    (match lookup e (lit "modulemd_path") with | none => true | some (.dict _) => true | _ => false)
    && (match lookup e (lit "rpms") with | none => true | some (.list _) => true | _ => false)
  | _ => false

def RpmsShape (s : PyVal) : Prop := shapeAt 3 isDict s = true
def ModulesShape (s : PyVal) : Prop := shapeAt 3 entryOK s = true
def ExtraShape (s : PyVal) : Prop := shapeAt 1 (allVals isRecList) s = true

/-- a compose section with the documented field types -/
structure ComposeT where
  id : Str
  type : Str
  date : Str
  respin : Int
  label : Option Str
  final : Bool
deriving Repr

def ComposeT.toObj (c : ComposeT) : Obj :=
  [(lit "id", .str c.id), (lit "type", .str c.type), (lit "date", .str c.date), (lit "respin", .int c.respin),
   (lit "label", optStr c.label), (lit "final", .bool c.final)]

/-- `if self.label:` -/
def ComposeT.labelSet (c : ComposeT) : Bool := (optStr c.label).truthy

/-- what a write/read cycle is documented to do to the compose section: `final` travels only with a label -/
def ComposeT.norm (c : ComposeT) : ComposeT := if c.labelSet then c else { c with label := none, final := false }

def composeDoc (c : ComposeT) : PyVal :=
  .dict (if c.labelSet
         then [(lit "id", .str c.id), (lit "type", .str c.type), (lit "date", .str c.date), (lit "respin", .int c.respin)]
                ++ [(lit "label", optStr c.label), (lit "final", .bool c.final)]
         else [(lit "id", .str c.id), (lit "type", .str c.type), (lit "date", .str c.date), (lit "respin", .int c.respin)])

def headerDoc (k : Kind) : PyVal := .dict [(lit "type", .str k.headerType), (lit "version", .str currentVersion)]

def payloadDoc (k : Kind) (c : ComposeT) (p : PyVal) : PyVal :=
  .dict (match k with
    | .rpms => [(k.payloadKey, p), (lit "compose", composeDoc c)]
    | _ => [(lit "compose", composeDoc c), (k.payloadKey, p)])

/-- the document `serialize` builds -/
def docOf (k : Kind) (c : ComposeT) (p : PyVal) : PyVal :=
  .dict [(lit "header", headerDoc k), (lit "payload", payloadDoc k c p)]

/-- `.other` (neither list nor tuple) needs no condition: `modulesCheck` refuses it, it is never stored -/
def SeqArg.jsonRep : SeqArg → Bool
  | .list xs => jsonRepList xs
  | .tuple xs => jsonRepList xs
  | .other => true

def composeRules : List Rule := Gen.rules_composeinfo_Compose.flat

def labelCustom : Str := "composeinfo.Compose._validate_label:verify_label(self.label)".toList

def condReads : Cond → List Str
  | .tt => []
  | .truthy f => [f]
  | .notNone f => [f]
  | .reMatch _ f => [f]
  | .startsWith f _ => [f]
  | .contains f _ => [f]
  | .not c => condReads c
  | .and a b => condReads a ++ condReads b

def isTruthyGuard (g : Str) : Cond → Bool
  | .truthy f => f == g
  | _ => false

/-- the verdict of the rule cannot depend on field `f` while field `g` is falsy; `allow`: the hand-bound rules known not to read `f` -/
def ruleIndep (f g : Str) (allow : List Str) : Rule → Bool
  | .type f' _ => f' != f
  | .value f' _ => f' != f
  | .notBlank f' => f' != f
  | .re f' _ => f' != f
  | .failIf c => !(condReads c).contains f
  | .guarded c r => isTruthyGuard g c || (!(condReads c).contains f && ruleIndep f g allow r)
  | .custom n => allow.contains n

end PM.Mf

namespace PM

/-- the equivalence generated by swapping two adjacent `ind`ependent elements -/
inductive SwapEq {α : Type} (ind : α → α → Prop) : List α → List α → Prop
  | refl (l : List α) : SwapEq ind l l
  | cons (a : α) {l l' : List α} : SwapEq ind l l' → SwapEq ind (a :: l) (a :: l')
  | swap (a b : α) (l : List α) : ind a b → SwapEq ind (a :: b :: l) (b :: a :: l)
  | trans {l₁ l₂ l₃ : List α} : SwapEq ind l₁ l₂ → SwapEq ind l₂ l₃ → SwapEq ind l₁ l₃

/-- the order-sensitive cell a call writes (`none`: a call that writes nothing); two calls are independent unless they
write the same cell -/
def CellIndep {α γ : Type} (cell : α → Option γ) (a b : α) : Prop := cell a = Option.none ∨ cell b = Option.none ∨ cell a ≠ cell b

/-- `h'` is a rearrangement of `h` in which the calls of every cell keep their relative order -/
def SameOrder {α γ : Type} [DecidableEq γ] (cell : α → Option γ) (h h' : List α) : Prop :=
  h.Perm h' ∧ ∀ c : γ, h.filter (fun x => cell x == some c) = h'.filter (fun x => cell x == some c)

end PM
