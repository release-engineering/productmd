import ProductMD.Model.ReleaseId
import ProductMD.Spec.IdPatterns
import ProductMD.Spec.ReleaseNames
/-!
The words the C13 / C14 / C15 statements about parsed strings (RPM file names, release ids, compose ids) are written with;
their theory is in `Proofs/Nvra*`, `Proofs/C14*`, `Proofs/ComposeId.lean` and `Proofs/DtrExact.lean`.
-/
namespace PM.NvraProof
open PM PM.Spec

/-- the epoch part of the formatted name: empty, or the decimal epoch and a colon -/
def epStr : Option Nat → Str
  | none => []
  | some e => Str.natStr e ++ [':']

/-- the documented shape of an RPM file name: no part contains a character at which a split could fall elsewhere.
Sufficient, not necessary: `ver_colon` also rules out `n-a:b-1.x`, which parses to its parts. -/
structure Dom (dir name : Str) (ep : Option Nat) (ver rel arch : Str) : Prop where
  dir_shape : dir = [] ∨ ∃ d, dir = d ++ ['/']
  dir_nl : '\n' ∉ dir
  name_nl : '\n' ∉ name
  name_slash : '/' ∉ name
  ver_nl : '\n' ∉ ver
  ver_slash : '/' ∉ ver
  ver_dash : '-' ∉ ver
  ver_colon : ep = none → ':' ∉ ver
  rel_nl : '\n' ∉ rel
  rel_slash : '/' ∉ rel
  rel_dash : '-' ∉ rel
  arch_nl : '\n' ∉ arch
  arch_slash : '/' ∉ arch
  arch_dash : '-' ∉ arch
  arch_dot : '.' ∉ arch

/-- `name-[epoch:]version-release.arch` -/
def fmtBase (name : Str) (ep : Option Nat) (ver rel arch : Str) : Str :=
  name ++ '-' :: (epStr ep ++ (ver ++ '-' :: (rel ++ '.' :: arch)))

end PM.NvraProof

namespace PM.C14
open PM PM.Str PM.Spec

/-- the language of versions as the code has it: the documented one, with the free-form alternative confined to
one line (`.` does not match a line feed; the first character is matched by `[^0-9]`, which does) -/
def VersionLine (b : Str) : Prop := SpecNumeric b ∨ (SpecFree b ∧ '\n' ∉ b.tail)

/-- a part as `create_release_id` writes it -/
def partStr (r : Rel) : Str :=
  if r.type = GA then r.short ++ '-' :: r.version else r.short ++ '-' :: r.version ++ '-' :: r.type

/-- the hypotheses of the round trip, for one part; `ga` is where finding F9 is kept out -/
structure PartOK (r : Rel) : Prop where
  short : isValidReleaseShort r.short = true
  version : isValidReleaseVersion r.version = true
  type : isValidReleaseType r.type = true
  known : r.type ∈ Gen.RELEASE_TYPES
  vdash : '-' ∉ r.version
  vat : '@' ∉ r.version
  ga : r.type = GA → '-' ∉ r.short

/-- `create_release_id` applied to a release and an optional base product -/
def createRel (r : Rel) (bp : Option Rel) : Except Err Str :=
  createReleaseId r.short r.version r.type (bp.map (·.short)) (bp.map (·.version)) (bp.map (·.type))

/-- For every earlier entry `u` and later entry `t` of the table: `u` is not a suffix of `t` (else `u` would be
found first on every identifier of type `t`) and `u` does not end in `-t` (else `u` would be found first on
identifiers of type `t` whose version ends like `u`).  Equal entries are harmless. -/
def FirstMatchOK (l : List Str) : Prop :=
  l.Pairwise (fun u t => u = t ∨ (¬ u <:+ t ∧ ¬ ('-' :: t) <:+ u))

instance : DecidablePred FirstMatchOK := fun l => by unfold FirstMatchOK; exact inferInstance

def SuffixAntichain (l : List Str) : Prop := ∀ t ∈ l, ∀ u ∈ l, t <:+ u → t = u

instance : DecidablePred SuffixAntichain := fun l => by unfold SuffixAntichain; exact inferInstance

end PM.C14

namespace PM.IdProof
open PM PM.Spec

/-- 8 digits at the front -/
def isWin (t : Str) : Bool := decide (8 ≤ t.length) && (t.take 8).all digitCls.mem

/-- the last 8-digit window starting in the first line: (date, what follows it) -/
def lastWin : Str → Option (Str × Str)
  | [] => none
  | c :: cs =>
    if c = '\n' then none
    else match lastWin cs with
      | some r => some r
      | none => if isWin (c :: cs) then some ((c :: cs).take 8, (c :: cs).drop 8) else none

/-- optional `.letters`: (capture, rest) -/
def typeSplit : Str → Option Str × Str
  | [] => (none, [])
  | c :: l =>
    if c = '.' ∧ l.takeWhile lowerCls.mem ≠ [] then (some ('.' :: l.takeWhile lowerCls.mem), l.dropWhile lowerCls.mem)
    else (none, c :: l)

/-- optional `.digits`: the digits -/
def respinSplit : Str → Option Str
  | [] => none
  | c :: l => if c = '.' ∧ l.takeWhile digitCls.mem ≠ [] then some (l.takeWhile digitCls.mem) else none

/-- `get_date_type_respin` written directly on the string, without the pattern; the model's `getDateTypeRespin` equals it on every
string (`C15_decoder_exact`) -/
def dtrDirect (s : Str) : Except Err (Option (Option Str × Str × Nat)) :=
  match lastWin s with
  | none => .ok none
  | some (D, X) =>
    let ty : Except Err Str := match (typeSplit X).1 with
      | none => .ok ['p','r','o','d','u','c','t','i','o','n']
      | some t => match Gen.COMPOSE_TYPE_SUFFIXES.lookup (t.drop 1) with
        | some x => .ok x
        | none => .error .valueError
    ty.bind fun ty =>
      (match respinSplit (typeSplit X).2 with
        | none => (.ok 0 : Except Err Nat)
        | some d => pyIntDigits d).map fun r => some (some D, ty, r)

end PM.IdProof

namespace PM
open PM.Str

/-- an attribute that is unset or holds no line feed: the field-wise condition behind `IdDom.prefix_nl` -/
def NoNl (o : Option Str) : Prop := ∀ s, o = some s → '\n' ∉ s

end PM
